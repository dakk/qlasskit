import QV.Model.Front
/-!
# The fragments of the C01 theorems (decidable predicates)

`inFrag` (expressions of `C01_expr`), `straightLine` (`C01_body`, `C01_straightline`), `guardedLine`
(`C01_body_guarded`, `C01_guarded`, `C01_if`).  The definitions only; everything proved about them is in
`QV/Proofs/FrontSemW.lean`, `FrontStmtNames.lean`, `FrontStmtBind.lean`, `FrontStmtBodyT.lean`, `FrontStmtW.lean`.  Mathlib-free so that the driver can tell the harness which programs of a run
the theorems cover.
-/
namespace QV.Sem
open QV QV.Front

def cmpOps : List String := ["Eq", "NotEq", "Lt", "LtE", "Gt", "GtE"]
def binOps : List String := ["add", "sub", "mul", "mod", "xor", "and", "or", "lshift", "rshift"]

mutual
/-- the expression fragment of `C01_expr`: variables, bool / int constants, `not`, `~`, `and` / `or`,
if-expressions, the six comparisons, `+ - * % ^ & | << >>` -/
def inFrag : PExp → Bool
  | .name _ => true
  | .cbool _ => true
  | .cint _ => true
  | .not e => inFrag e
  | .inv e => inFrag e
  | .boolop _ vs => inFragList vs
  | .ite c t e => inFrag c && inFrag t && inFrag e
  | .cmp op l r => cmpOps.contains op && inFrag l && inFrag r
  | .bin op l r => binOps.contains op && inFrag l && inFrag r
  | .cchar _ => false
  | .subs _ _ => false
  | .tuple _ => false
  | .unsupported _ => false
def inFragList : List PExp → Bool
  | [] => true
  | e :: es => inFrag e && inFragList es
end


/-- the argument types the fragment covers: `bool` and `Qint[w]`, `w ≠ 1` (the library has no `Qint1`;
a one-bit list would be handed on as a bare expression) -/
def argTyOK : Ty → Bool
  | .bool => true
  | .qint w => w != 1
  | _ => false


/-- a python identifier has no dot -/
def goodName (n : String) : Bool := !n.toList.contains '.'


mutual
/-- the expression reads the variable `t` -/
def mentions (t : String) : PExp → Bool
  | .name n => n == t
  | .subs n _ => n == t
  | .cbool _ => false
  | .cint _ => false
  | .cchar _ => false
  | .unsupported _ => false
  | .not e => mentions t e
  | .inv e => mentions t e
  | .boolop _ vs => mentionsList t vs
  | .ite c a b => mentions t c || mentions t a || mentions t b
  | .cmp _ l r => mentions t l || mentions t r
  | .bin _ l r => mentions t l || mentions t r
  | .tuple es => mentionsList t es
def mentionsList (t : String) : List PExp → Bool
  | [] => false
  | e :: es => mentions t e || mentionsList t es
end


/-- a statement of the straight-line fragment: an assignment of a fragment expression that does not
read its own target (`ast2ast` routes `a = a + 1` and every augmented assignment through the temporary
`__a`) to a dot-free name other than `_ret`; a `return` of a fragment expression; an expression
statement -/
def stmtOK : Stmt → Bool
  | .assign t e => goodName t && t != "_ret" && inFrag e && !mentions t e
  | .ret e => inFrag e && !mentions "_ret" e
  | .expr _ => true
  | .unsupported _ => false

/-- the straight-line fragment of `C01_body`: arguments `bool` / `Qint[w]` (`w ≠ 1`) with dot-free names
other than `_ret`, return type `bool` / `Qint[w]`, every statement `stmtOK` -/
def straightLine (p : Prog) : Bool :=
  p.args.all (fun a => argTyOK a.2 && goodName a.1 && a.1 != "_ret") && argTyOK p.ret &&
    p.body.all stmtOK


/-- `e` may be assigned to `t` although it reads `t`: a tree of if-expressions whose tests are variables
other than `t` and whose leaves are `t` itself or expressions that do not read `t` -/
def guardedRhs (t : String) : PExp → Bool
  | .ite (.name g) a b => (g != t && guardedRhs t a && guardedRhs t b) || !mentions t (.ite (.name g) a b)
  | .name _ => true
  | e => !mentions t e


/-- a statement of the guarded fragment: as `stmtOK`, but the right-hand side of an assignment may be a
`guardedRhs` (it may read its own target through the else-leaves of if-expressions on other variables) -/
def stmtOKg : Stmt → Bool
  | .assign t e => goodName t && t != "_ret" && inFrag e && guardedRhs t e
  | .ret e => inFrag e && !mentions "_ret" e
  | .expr _ => true
  | .unsupported _ => false

/-- the guarded fragment of `C01_body_guarded` -/
def guardedLine (p : Prog) : Bool :=
  p.args.all (fun a => argTyOK a.2 && goodName a.1 && a.1 != "_ret") && argTyOK p.ret &&
    p.body.all stmtOKg


end QV.Sem
