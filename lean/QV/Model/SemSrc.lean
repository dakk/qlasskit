import QV.Model.Ast2Ast
import QV.Model.Sem
/-!
# Source-level meaning of statements with control flow (`if`, `for`)

Specification side of C01 for the *source* statement tree (`QV.A2A.SStmt`, what CPython's `ast` gives,
before `ast2ast`), on top of the fixed-width expression semantics `QV.Sem.semW`.

* An `if` evaluates its test **once**, to a value `g`, before any statement of a branch runs; the branch
  whose polarity `g` has is *taken*, the other is *skipped*.  Both are walked with the guard `(g, polarity)`
  pushed on the guard stack `gs`: an assignment `t = e` under the stack stores
  `wrapW gs (value of e) (old value of t)` – the new value when every guard on the stack holds, the old value
  otherwise, in both cases at the *joined* type (`selW`, the library's typing rule for `new if g else old`:
  the wider of the two `Qint` types).  So a skipped branch changes no value (`exec_skipped_keeps_values`,
  `QV/Proofs/A2ASkipped.lean`): it only contributes to the types and has to be defined.  Nothing a branch
  assigns changes which branch is running.
* `elif` / an `if` nested anywhere: the inner test is evaluated where python evaluates it (after the
  statements before it) and pushed on the stack.
* `for v in <literal range / tuple / list of constants>` iterates: `v` is assigned each value in turn and the
  body runs in the environment so extended (no substitution); the `else` suite runs once after the last
  iteration (the subset has no `break`).
* assignment = environment update; augmented assignment `t op= e` = `t = t op e`; an expression statement
  does nothing; the first `return` at the top level gives the value, filled / cropped to the declared type
  (`Sem.coerceRet`).

Mathlib-free (driver op `c01.semsrc`; compared with the python oracle `harness/pysem.py`, which interprets
the same source text and is itself cross-checked against CPython).
-/
namespace QV.A2A
open QV QV.Front QV.Sem

/-- `x if g else y` on values (the rule of `Sem.semW` for an if-expression) -/
def selW : SVal → SVal → SVal → Option SVal
  | .bool c, .bool x, .bool y => some (.bool (if c then x else y))
  | .bool c, .int a x, .int b y => some (.int (max a b) (if c then x else y))
  | _, _, _ => none

/-- the value an assignment stores under the guard stack `gs` (outermost first): `new` wrapped, from the
innermost guard outwards, in `new if g else old` (polarity `true`) / `old if g else new` (polarity `false`) -/
def wrapW : List (SVal × Bool) → SVal → SVal → Option SVal
  | [], new, _ => some new
  | (g, true) :: gs, new, old =>
    match wrapW gs new old with
    | some v => selW g v old
    | none => none
  | (g, false) :: gs, new, old =>
    match wrapW gs new old with
    | some v => selW g old v
    | none => none

/-- `t = v` under the guard stack: outside every `if` a plain update (the variable may be new); inside, the
variable must exist -/
def assignG (gs : List (SVal × Bool)) (σ : SEnv) (t : String) (v : SVal) : Option SEnv :=
  match gs with
  | [] => some (σ.set t v)
  | _ :: _ =>
    match σ t with
    | some old =>
      match wrapW gs v old with
      | some w => some (σ.set t w)
      | none => none
    | none => none

def constExps : List SExp → Option (List SExp)
  | [] => some []
  | .const c :: es => (constExps es).map fun r => .const c :: r
  | _ :: _ => none

def litInts : List SExp → Option (List Int)
  | [] => some []
  | .const (.int v) :: es => (litInts es).map fun r => v :: r
  | _ :: _ => none

/-- the values a `for` over a literal iterates over: `range` of `int` literals (step ≠ 0), a tuple or a list
of constants -/
def staticVals : SExp → Option (List SExp)
  | .call "range" args =>
    match litInts args with
    | some [n] => some ((pyRange 0 n 1).map fun i => .const (.int i))
    | some [a, b] => some ((pyRange a b 1).map fun i => .const (.int i))
    | some [a, b, s] => if s == 0 then none else some ((pyRange a b s).map fun i => .const (.int i))
    | _ => none
  | .tuple es => constExps es
  | .list es => constExps es
  | _ => none

mutual
/-- one statement under the guard stack `gs` -/
def exec (gs : List (SVal × Bool)) (σ : SEnv) : SStmt → Option SEnv
  | .assign [.name t] e =>
    match semW σ (toP e) with
    | some v => assignG gs σ t v
    | none => none
  | .aug (.name t) op e =>
    match semW σ (toP (.bin op (.name t) e)) with
    | some v => assignG gs σ t v
    | none => none
  | .expr _ => some σ
  | .ifs c b e =>
    match semW σ (toP c) with
    | some g =>
      match execList (gs ++ [(g, true)]) σ b with
      | some σ1 => execList (gs ++ [(g, false)]) σ1 e
      | none => none
    | none => none
  | .for_ (.name v) it b e =>
    match staticVals it with
    | some vals =>
      match vals.foldlM (fun σ val =>
        match semW σ (toP val) with
        | some x =>
          match assignG gs σ v x with
          | some σ1 => execList gs σ1 b
          | none => none
        | none => none) σ with
      | some σ1 => execList gs σ1 e     -- no `break` in the subset: the else suite runs once, after the last iteration
      | none => none
    | none => none
  | _ => none
def execList (gs : List (SVal × Bool)) (σ : SEnv) : List SStmt → Option SEnv
  | [] => some σ
  | s :: ss =>
    match exec gs σ s with
    | some σ1 => execList gs σ1 ss
    | none => none
end

/-- the body of a function: statements run in order, the first `return` gives the value -/
def execBody (ret : Ty) : SEnv → List SStmt → Option SVal
  | _, [] => none
  | σ, .ret (some e) :: _ =>
    match semW σ (toP e) with
    | some v => coerceRet ret v
    | none => none
  | σ, s :: ss =>
    match exec [] σ s with
    | some σ1 => execBody ret σ1 ss
    | none => none

/-- a source function: typed arguments, declared return type, body -/
structure SProg where
  args : List (String × Ty)
  ret : Ty
  body : List SStmt

/-- the source-level fixed-width meaning of a function on an assignment of its argument bits -/
def execProg (p : SProg) (ρ : String → Bool) : Option SVal :=
  execBody p.ret (argsEnv p.args ρ) p.body

/-! ## the class of source programs of the preservation theorems (`QV/Props/C01.lean`: `ast2ast_if_preserved`,
`C01_if`, `C01_for`); decidable, evaluated by the driver for the evidence -/

/-- a name a user may write: the passes generate none of these -/
def userName (n : String) : Bool := !isDunder n && !isIfTarg n


/-- a literal `int` -/
def isIntLit : SExp → Bool
  | .const (.int _) => true
  | _ => false

/-- a literal `int` or `bool`: what a loop variable is replaced by -/
def isIB : SExp → Bool
  | .const (.int _) => true
  | .const (.bool _) => true
  | _ => false

mutual
/-- expressions on which `ASTRewriter.visit` is the identity and whose image under `toP` is in the syntax of
`Sem.semW`: user variables, bool / int constants, `not`, `~`, `and` / `or`, if-expressions, comparisons,
the binary operators other than `**` (shifts by a literal amount: `Sem.semW` reads the amount from the syntax) -/
def plainE : SExp → Bool
  | .name n => userName n
  | .const (.bool _) => true
  | .const (.int _) => true
  | .const _ => false
  | .boolop _ vs => plainEs vs
  | .unop op e => (op == "Not" || op == "Invert") && plainE e
  | .ite c t e => plainE c && plainE t && plainE e
  | .cmp _ l r => plainE l && plainE r
  | .bin op l r => (binName op).isSome && plainE l && plainE r &&
      (if op == "LShift" || op == "RShift" then isIntLit r else true)
  | _ => false
def plainEs : List SExp → Bool
  | [] => true
  | e :: es => plainE e && plainEs es
end


mutual
/-- the statement contains an `if` -/
def hasIf : SStmt → Bool
  | .ifs _ _ _ => true
  | .for_ _ _ b e => hasIfs b || hasIfs e
  | _ => false
def hasIfs : List SStmt → Bool
  | [] => false
  | s :: ss => hasIf s || hasIfs ss
end


mutual
/-- the statement contains a `for` -/
def hasFor : SStmt → Bool
  | .for_ _ _ _ _ => true
  | .ifs _ b e => hasFors b || hasFors e
  | _ => false
def hasFors : List SStmt → Bool
  | [] => false
  | s :: ss => hasFor s || hasFors ss
end

def allIntLit : List SExp → Bool
  | [] => true
  | e :: es => isIntLit e && allIntLit es

def allIB : List SExp → Bool
  | [] => true
  | e :: es => isIB e && allIB es

/-- the iterators of the preservation theorem: `range` of one to three `int` literals, a tuple or a list of
`int` / `bool` literals -/
def closedIter : SExp → Bool
  | .call fn args => fn == "range" && allIntLit args
  | .tuple es => allIB es
  | .list es => allIB es
  | _ => false

mutual
/-- the statements of the preservation theorem: assignments and augmented assignments of plain expressions
to user variables; `if` / `elif` / `else` of such statements nested to any depth **through the else
branches** (an `if` inside the body of an `if` is rewritten into a list that reads `_iftargN` before it is
defined: the translator refuses it), without loops inside; `for v in <closedIter>` over such statements, loops
and `if`s nested inside to any depth, with or without an `else` suite of such statements -/
def okS : SStmt → Bool
  | .assign [.name t] e => userName t && plainE e
  | .aug (.name t) op e => userName t && plainE (.bin op (.name t) e)
  | .ifs c b e => plainE c && okSs b && !hasIfs b && okSs e && !hasFors b && !hasFors e
  | .for_ (.name v) it b e => userName v && closedIter it && okSs b && okSs e
  | _ => false
def okSs : List SStmt → Bool
  | [] => true
  | s :: ss => okS s && okSs ss
end


/-- a statement at the top level of a function body: a statement of `okS`, an expression statement, or
`return e` -/
def okTop : SStmt → Bool
  | .ret (some e) => plainE e
  | .expr e => plainE e
  | s => okS s

/-- the source programs of the preservation theorem: user names for the arguments, `okTop` statements -/
def okProg (p : SProg) : Bool := p.args.all (fun a => userName a.1) && p.body.all okTop


mutual
/-- the annotation of a type, as `ReplaceTypeAnn` leaves it -/
def tyAnn : Ty → SExp
  | .bool => .name "bool"
  | .qint w => .sub (.name "Qint") (.const (.int w))
  | .qchar => .name "Qchar"
  | .tuple ts => .sub (.name "Tuple") (.tuple (tyAnns ts))
def tyAnns : List Ty → List SExp
  | [] => []
  | t :: ts => tyAnn t :: tyAnns ts
end

/-- the arguments as the rewriter sees them -/
def aargsOf (p : SProg) : Args := p.args.map fun a => (a.1, tyAnn a.2)


/-! ## python's meaning of the expression forms `ast2ast` rewrites, on decoded values

The values of a tuple-typed variable are lists (of lists) of `SVal`s; the theorems `C01_index1`, `C01_index2`,
`C01_len_row` … of `QV/Props/C01.lean` say that the expressions the rewriter builds have these meanings. -/

/-- `t[x]` -/
def pyIndex1 (vals : List SVal) (x : Nat) : Option SVal := vals[x]?

/-- `m[x][y]` -/
def pyIndex2 (rows : List (List SVal)) (x y : Nat) : Option SVal := (rows[x]?).bind (·[y]?)

/-- `sum(…)` of `Qint[w]` values: the fixed-width sum -/
def pySum (w : Nat) (vals : List Nat) : SVal := .int w (vals.sum % 2 ^ w)

/-- `all(…)` / `any(…)` of bools -/
def pyAll (bs : List Bool) : SVal := .bool (bs.all id)
def pyAny (bs : List Bool) : SVal := .bool (bs.any id)

end QV.A2A
