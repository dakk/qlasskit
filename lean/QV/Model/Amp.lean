import QV.Model.Circuit
/-!
# Amplitude semantics with integer amplitudes

A state of `N` qubits is a function from basis states (bit lists, index `k` = qubit `k`) to
integers; the normalisation `2^{-h/2}` (`h` = number of Hadamard gates applied so far) is
left out, so every amplitude of a circuit made of `H`, `Z`, `X`, `CX`, `CCX`, `MCX` and
barriers – everything `DeutschJozsa`, `BernsteinVazirani` and `Simon` emit – is an integer.

* `H` on qubit `i`:   `(Hψ)(b) = ψ(b[i:=0]) + (-1)^{b_i} ψ(b[i:=1])`
* `Z` on qubit `i`:   `(Zψ)(b) = (-1)^{b_i} ψ(b)`
* `X/CX/CCX/MCX`:     `(Gψ)(b) = ψ(G b)` with `G` the classical action
  (`AGate.applyClassical`, an involution on basis states because `QCircuit.append` rejects
  duplicate wires; proved in `QV/Proofs/Circuit.lean: applyClassical_involutive`)
* barriers / nop: identity.
-/
namespace QV.Amp
open QV

abbrev State := List Bool → Int

def sgn (b : Bool) : Int := if b then -1 else 1

/-- amplitude 1 on the all-zero basis state -/
def ket0 : State := fun b => if b.all (fun x => !x) then 1 else 0

def applyH (i : Nat) (ψ : State) : State := fun b =>
  if i < b.length then ψ (b.set i false) + sgn (b.getD i false) * ψ (b.set i true) else 0

def applyZ (i : Nat) (ψ : State) : State := fun b => sgn (b.getD i false) * ψ b

/-- one classical step (shared with `runClassical`) -/
def step (g : AGate) (s : BState) : BState :=
  if g.cls.isMCXLike then g.applyClassical s else s

def applyGate (g : AGate) (ψ : State) : State :=
  if g.cls.isMCXLike then fun b => ψ (g.applyClassical b)
  else match g.cls, g.wires with
    | .H, [i] => applyH i ψ
    | .Z, [i] => applyZ i ψ
    | _, _ => ψ

/-- gates with an integer-amplitude meaning in this model -/
def supported (g : AGate) : Bool :=
  g.cls.isMCXLike || g.cls.isNop ||
    (match g.cls, g.wires with
     | .H, [_] => true
     | .Z, [_] => true
     | _, _ => false)

/-- run a gate list, first gate first -/
def run (gs : List AGate) (ψ : State) : State := gs.foldl (fun ψ g => applyGate g ψ) ψ

/-- number of `H` gates (the amplitudes are to be scaled by `2^{-h/2}`) -/
def hCount (gs : List AGate) : Nat := (gs.filter (fun g => g.cls == .H)).length

/-- all basis states of `n` qubits, in the order of the state-vector index
(`index = Σ b_k 2^k`) -/
def allBits : Nat → List (List Bool)
  | 0 => [[]]
  | n+1 => (allBits n).map (· ++ [false]) ++ (allBits n).map (· ++ [true])

/-- the amplitude table of a state -/
def table (n : Nat) (ψ : State) : List Int := (allBits n).map ψ

/-- sum of `f` over all bit lists of length `n` -/
def sumBits : Nat → (List Bool → Int) → Int
  | 0, f => f []
  | n+1, f => sumBits n (fun t => f (false :: t)) + sumBits n (fun t => f (true :: t))

/-- number of bit lists of length `n` on which `f` is true -/
def countBits : Nat → (List Bool → Bool) → Nat
  | 0, f => if f [] then 1 else 0
  | n+1, f => countBits n (fun t => f (false :: t)) + countBits n (fun t => f (true :: t))

/-- `x · y` over GF(2) -/
def dot : List Bool → List Bool → Bool
  | a :: as, b :: bs => Bool.xor (a && b) (dot as bs)
  | _, _ => false

def xorBits (a b : List Bool) : List Bool := List.zipWith Bool.xor a b

def zeros (n : Nat) : List Bool := List.replicate n false

def allFalse (l : List Bool) : Bool := l.all (fun x => !x)

end QV.Amp
