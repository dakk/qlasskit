import QV.Proofs.Algo
import QV.Props.C09
import QV.Proofs.EndToEnd
import QV.Proofs.SortNat
/-!
# C16 – Deutsch-Jozsa, Bernstein-Vazirani, Simon circuits meet textbook guarantees

> For every constant f the Deutsch-Jozsa circuit measures all zeros with certainty and for
> every balanced f never; for every secret s the Bernstein-Vazirani circuit measures s with
> certainty; for every two-to-one f with period s every outcome y of the Simon circuit with
> non-zero probability satisfies y.s = 0 and all such y are equally likely. The decoded outputs
> report these outcomes in the function's argument type.

The theorems are about `QV.Algo.{djGates,bvGates,simonGates}` (the constructors' gate lists, for
every `n`, every position of the result qubit, every number of further qubits and every
black-box gate list) under the amplitude semantics `QV.Amp.run` (integer amplitudes, the
factor `2^{-h/2}` left out), under the hypothesis that the black box is a clean xor-oracle for
`f` on classical basis states (`XorOracle`, resp. `FunOracle` for Simon) – the hypothesis the
harness discharges per compiled black box with its classical simulator, and the sections "End to end" below prove
for what the compiler model produces (`C16_end_to_end_fragment`, `_general`, `_simon_general`).  "With certainty" is
stated as: every amplitude outside the outcome vanishes and the amplitude at the outcome is
`± 2^n ≠ 0`.  The model of the circuits (gate lists) and of the amplitude semantics is
compared with the real objects on every run (`harness/c16.py`).
-/
namespace QV.C16
open QV QV.Amp QV.Algo QV.Types
open QV.C09 (WT)

/-- amplitude (times `2^{h/2}`) of the Deutsch-Jozsa circuit at basis state `b`; `m` (the number of non-input qubits) is
not used: it keeps the argument list parallel to `XorOracle gs n m k f` -/
def djAmp (n m k : Nat) (gs : List AGate) (b : List Bool) : Int := run (djGates n (n + k) gs) ket0 b
def bvAmp (n m k : Nat) (gs : List AGate) (b : List Bool) : Int := run (bvGates n (n + k) gs) ket0 b
def simonAmp (n : Nat) (gs : List AGate) (b : List Bool) : Int := run (simonGates n gs) ket0 b
/-- weight (probability times `2^h`) of outcome `y` on the output qubits `0..n-1` -/
def simonWeight (n m : Nat) (gs : List AGate) (y : List Bool) : Int :=
  sumBits m (fun z => simonAmp n gs (y ++ z) ^ 2)

/-- the full property, on the repaired model (`Quirks.none`) -/
def C16_statement : Prop :=
  -- Deutsch-Jozsa: constant ⇒ only y = 0 (and it does occur); balanced ⇒ never y = 0
  (∀ (n m k : Nat) (gs : List AGate) (f : List Bool → Bool), k < m → XorOracle gs n m k f →
    ∀ (y rest : List Bool), y.length = n → rest.length = m →
      (∀ c : Bool, (∀ x : List Bool, x.length = n → f x = c) →
        (y ≠ zeros n → djAmp n m k gs (y ++ rest) = 0) ∧
        (∀ r, djAmp n m k gs (zeros n ++ embed m k r) = sgn r * sgn c * 2 ^ n)) ∧
      (2 * countBits n f = 2 ^ n → djAmp n m k gs (zeros n ++ rest) = 0)) ∧
  -- Bernstein-Vazirani: f x = x·s ⇒ only y = s
  (∀ (n m k : Nat) (gs : List AGate) (f : List Bool → Bool) (s : List Bool), k < m →
    XorOracle gs n m k f → s.length = n → (∀ x : List Bool, x.length = n → f x = dot x s) →
    ∀ (y rest : List Bool), y.length = n → rest.length = m →
      (y ≠ s → bvAmp n m k gs (y ++ rest) = 0) ∧
      (∀ r, bvAmp n m k gs (s ++ embed m k r) = sgn r * 2 ^ n)) ∧
  -- Simon: y·s = 1 never; all y with y·s = 0 equally likely
  (∀ (n m : Nat) (gs : List AGate) (F : List Bool → List Bool) (s : List Bool),
    FunOracle gs n m F → Period n F s →
    ∀ (y : List Bool), y.length = n →
      (dot s y = true → ∀ z : List Bool, z.length = m → simonAmp n gs (y ++ z) = 0) ∧
      (∀ y' : List Bool, y'.length = n → dot s y = false → dot s y' = false →
        simonWeight n m gs y = simonWeight n m gs y' ∧
        ∀ x0 : List Bool, x0.length = n → simonAmp n gs (y ++ F x0) ^ 2 = 4)) ∧
  -- decoded outputs
  (∀ (ty : QTy) (n : Nat) (y rest : List Bool), y.length = n →
    (djDecode Quirks.none ty n (y ++ rest).reverse = .constant ↔ y = zeros n)) ∧
  (∀ (t : QTy) (v : QVal), WT t v → argDecode t t.size (encode t v).reverse = v)

/-- Walsh–Hadamard layer: after the `H` gates on qubits `0..n-1` the amplitude at `y ++ r` is
`Σ_x (-1)^{x·y} ψ(x ++ r)`, for every `n` and every state `ψ` (restates `Amp.run_hLayer_sum`) -/
theorem hadamard_layer (n : Nat) (ψ : State) (y r : List Bool) (hy : y.length = n) :
    run (hLayer n) ψ (y ++ r) = sumBits n (fun x => sgn (dot x y) * ψ (x ++ r)) :=
  run_hLayer_sum n ψ y r hy

/-- every amplitude of the Deutsch-Jozsa circuit, for every `n` and every clean xor-oracle (restates `Amp.dj_amp`) -/
theorem dj_amplitudes (n m k : Nat) (gs : List AGate) (f : List Bool → Bool) (hk : k < m)
    (hO : XorOracle gs n m k f) (y rest : List Bool) (hy : y.length = n) (hr : rest.length = m) :
    djAmp n m k gs (y ++ rest) =
      if allFalse (rest.set k false) then
        sgn (rest.getD k false) * sumBits n (fun x => sgn (dot x y) * sgn (f x))
      else 0 :=
  dj_amp gs n m k f hO hk y rest hy hr

/-- … at a basis state whose other qubits are clean: result qubit `r`, the rest `0` -/
theorem dj_amplitudes_embed (n m k : Nat) (gs : List AGate) (f : List Bool → Bool) (hk : k < m)
    (hO : XorOracle gs n m k f) (y : List Bool) (hy : y.length = n) (r : Bool) :
    djAmp n m k gs (y ++ embed m k r) = sgn r * sumBits n (fun x => sgn (dot x y) * sgn (f x)) := by
  rw [dj_amplitudes n m k gs f hk hO y _ hy (embed_length m k r), embed_set_false, allFalse_zeros,
    embed_getD m k r hk]
  rfl

/-- `H Z` on the result qubit is `X H`: the Bernstein-Vazirani circuit has the amplitudes of the
Deutsch-Jozsa circuit -/
theorem bvAmp_eq_djAmp (n m k : Nat) (gs : List AGate) (b : List Bool) :
    bvAmp n m k gs b = djAmp n m k gs b :=
  congrFun (run_bvGates n (n + k) gs ket0) b

/-- a constant `c` is the affine function `x ↦ c ⊕ x·0` -/
theorem const_affine {n : Nat} {f : List Bool → Bool} {c : Bool}
    (hc : ∀ x : List Bool, x.length = n → f x = c) :
    ∀ x : List Bool, x.length = n → f x = Bool.xor c (dot x (zeros n)) :=
  fun x hx => by rw [hc x hx, dot_zeros_right, Bool.xor_false]

/-- `f` constant ⇒ no amplitude outside `y = 0…0` -/
theorem dj_constant (n m k : Nat) (gs : List AGate) (f : List Bool → Bool) (c : Bool) (hk : k < m)
    (hO : XorOracle gs n m k f) (hc : ∀ x : List Bool, x.length = n → f x = c)
    (y rest : List Bool) (hy : y.length = n) (hr : rest.length = m) (hne : y ≠ zeros n) :
    djAmp n m k gs (y ++ rest) = 0 := by
  rw [dj_amplitudes n m k gs f hk hO y rest hy hr,
    char_sum_affine n f c (zeros n) y (zeros_length n) hy (const_affine hc), if_neg hne,
    Int.mul_zero, ite_self]

/-- `f` constant ⇒ the amplitude at `y = 0…0` is `± 2^n` (all of the weight) -/
theorem dj_constant_certain (n m k : Nat) (gs : List AGate) (f : List Bool → Bool) (c : Bool)
    (hk : k < m) (hO : XorOracle gs n m k f) (hc : ∀ x : List Bool, x.length = n → f x = c)
    (r : Bool) : djAmp n m k gs (zeros n ++ embed m k r) = sgn r * sgn c * 2 ^ n := by
  rw [dj_amplitudes_embed n m k gs f hk hO (zeros n) (zeros_length n) r,
    char_sum_affine n f c (zeros n) (zeros n) (zeros_length n) (zeros_length n) (const_affine hc),
    if_pos rfl, Int.mul_assoc]

/-- `f` balanced ⇒ the amplitude at `y = 0…0` vanishes -/
theorem dj_balanced (n m k : Nat) (gs : List AGate) (f : List Bool → Bool) (hk : k < m)
    (hO : XorOracle gs n m k f) (hb : 2 * countBits n f = 2 ^ n)
    (rest : List Bool) (hr : rest.length = m) :
    djAmp n m k gs (zeros n ++ rest) = 0 := by
  have hb' : (2 : Int) * (countBits n f : Int) = 2 ^ n := by exact_mod_cast hb
  rw [dj_amplitudes n m k gs f hk hO (zeros n) rest (zeros_length n) hr,
    sumBits_congr n _ (fun x => sgn (f x)) (fun x _ => by rw [dot_zeros_right]; exact Int.one_mul _),
    sum_sgn_count, hb', Int.sub_self, Int.mul_zero, ite_self]

/-- `f x = x·s` ⇒ no amplitude outside `y = s` -/
theorem bv (n m k : Nat) (gs : List AGate) (f : List Bool → Bool) (s : List Bool) (hk : k < m)
    (hO : XorOracle gs n m k f) (hs : s.length = n)
    (hf : ∀ x : List Bool, x.length = n → f x = dot x s)
    (y rest : List Bool) (hy : y.length = n) (hr : rest.length = m) (hne : y ≠ s) :
    bvAmp n m k gs (y ++ rest) = 0 := by
  rw [bvAmp_eq_djAmp, dj_amplitudes n m k gs f hk hO y rest hy hr,
    char_sum_affine n f false s y hs hy (fun x hx => by rw [hf x hx, Bool.false_xor]), if_neg hne,
    Int.mul_zero, ite_self]

/-- `f x = x·s` ⇒ the amplitude at `y = s` is `± 2^n` -/
theorem bv_certain (n m k : Nat) (gs : List AGate) (f : List Bool → Bool) (s : List Bool) (hk : k < m)
    (hO : XorOracle gs n m k f) (hs : s.length = n)
    (hf : ∀ x : List Bool, x.length = n → f x = dot x s) (r : Bool) :
    bvAmp n m k gs (s ++ embed m k r) = sgn r * 2 ^ n := by
  rw [bvAmp_eq_djAmp, dj_amplitudes_embed n m k gs f hk hO s hs r,
    char_sum_affine n f false s s hs hs (fun x hx => by rw [hf x hx, Bool.false_xor]), if_pos rfl]
  show sgn r * (1 * 2 ^ n) = _
  rw [Int.one_mul]

/-- Simon: an outcome `y` with `y·s = 1` has amplitude 0 whatever the other qubits hold -/
theorem simon_orthogonal (n m : Nat) (gs : List AGate) (F : List Bool → List Bool) (s : List Bool)
    (hO : FunOracle gs n m F) (hP : Period n F s) (y z : List Bool) (hy : y.length = n)
    (hz : z.length = m) (hd : dot s y = true) : simonAmp n gs (y ++ z) = 0 := by
  by_cases h : ∃ x0 : List Bool, x0.length = n ∧ F x0 = z
  · obtain ⟨x0, hx0, rfl⟩ := h
    show run (simonGates n gs) ket0 _ = 0
    rw [simon_amp_image gs n m F s hO hP y x0 hy hx0, hd]
    simp [sgn]
  · exact simon_amp_nonimage gs n m F hO y z hy hz (fun x hx e => h ⟨x, hx, e⟩)

/-- Simon: for `y·s = 0` the squared amplitude at `(y, z)` is `4` on the image of the black box
and `0` off it – it does not depend on `y` -/
theorem simon_amp_sq (n m : Nat) (gs : List AGate) (F : List Bool → List Bool) (s : List Bool)
    (hO : FunOracle gs n m F) (hP : Period n F s) (y z : List Bool) (hy : y.length = n)
    (hz : z.length = m) (hd : dot s y = false) :
    ((∃ x0 : List Bool, x0.length = n ∧ F x0 = z) → simonAmp n gs (y ++ z) ^ 2 = 4) ∧
    ((¬ ∃ x0 : List Bool, x0.length = n ∧ F x0 = z) → simonAmp n gs (y ++ z) ^ 2 = 0) := by
  constructor
  · intro h
    obtain ⟨x0, hx0, rfl⟩ := h
    show run (simonGates n gs) ket0 _ ^ 2 = 4
    rw [simon_amp_image gs n m F s hO hP y x0 hy hx0, hd]
    cases dot x0 y <;> simp [sgn]
  · intro h
    show run (simonGates n gs) ket0 _ ^ 2 = 0
    rw [simon_amp_nonimage gs n m F hO y z hy hz (fun x hx e => h ⟨x, hx, e⟩)]
    rfl

/-- Simon: all outcomes `y` with `y·s = 0` are equally likely -/
theorem simon_uniform (n m : Nat) (gs : List AGate) (F : List Bool → List Bool) (s : List Bool)
    (hO : FunOracle gs n m F) (hP : Period n F s) (y y' : List Bool) (hy : y.length = n)
    (hy' : y'.length = n) (hd : dot s y = false) (hd' : dot s y' = false) :
    simonWeight n m gs y = simonWeight n m gs y' := by
  unfold simonWeight
  apply sumBits_congr
  intro z hz
  have h1 := simon_amp_sq n m gs F s hO hP y z hy hz hd
  have h2 := simon_amp_sq n m gs F s hO hP y' z hy' hz hd'
  by_cases h : ∃ x0 : List Bool, x0.length = n ∧ F x0 = z
  · rw [h1.1 h, h2.1 h]
  · rw [h1.2 h, h2.2 h]

/-- `DeutschJozsa.decode_output` at `Quirks.none`: "Constant" iff the measured output bits are all 0,
for every argument type; `rest` = the other measured qubits (may be empty) -/
theorem dj_decode_full (ty : QTy) (n : Nat) (y rest : List Bool) (hy : y.length = n) :
    djDecode Quirks.none ty n (y ++ rest).reverse = .constant ↔ y = zeros n := by
  have hlen : (some n).getD (y ++ rest).reverse.length ≤ (y ++ rest).reverse.length := by simp [hy]
  simp only [djDecode, Quirks.none, formatOutcome_of_le hlen, if_false, List.reverse_reverse, Bool.false_eq_true]
  rw [List.take_left' hy]
  have : y.any id = false ↔ y = zeros n := hy ▸ any_id_false_iff y
  rw [← this]
  cases y.any id <;> simp

/-- `DeutschJozsa.decode_output`, every quirk setting `q`: correct whenever the argument type decodes to a
number (`Qint[n]`, `bool`), i.e. outside the trigger of finding `C16-dj-decode-nonint` -/
theorem dj_decode_partial (q : Quirks) (n : Nat) (y : List Bool) (hy : y.length = n) (hn : 0 < n) :
    (djDecode q (.qint n) n y.reverse = .constant ↔ y = zeros n) ∧
    (n = 1 → (djDecode q .bool n y.reverse = .constant ↔ y = zeros n)) := by
  by_cases hq : q.djDecodeEqZero = true
  · -- flag on: `interpret_as_qtype(istr, ty, n) == 0`
    have hi : ∀ ty, interpretAsQtype y.reverse ty (some n) = interpret ty y :=
      fun ty => interpretAsQtype_reverse ty y _ hy.symm
    constructor
    · unfold djDecode
      rw [if_pos hq, hi, pyEqZero_qint n y hy hn]
      by_cases h0 : y = zeros n
      · rw [decide_eq_true h0]; exact iff_of_true rfl h0
      · rw [decide_eq_false h0]; exact iff_of_false (by decide) h0
    · rintro rfl
      unfold djDecode
      rw [if_pos hq, hi]
      match y, hy with
      | [b], _ => cases b <;> decide
  · have hoff : ∀ ty, djDecode q ty n y.reverse = djDecode Quirks.none ty n (y ++ []).reverse := by
      intro ty
      unfold djDecode
      rw [if_neg hq, List.append_nil]
      rfl
    exact ⟨by rw [hoff]; exact dj_decode_full _ n y [] hy,
      fun _ => by rw [hoff]; exact dj_decode_full _ n y [] hy⟩

/-- the defect: a constant function on `Tuple[bool, bool]` measures `00`, which with the flag on
`decode_output` reports as "Balanced" -/
theorem dj_decode_witness :
    djDecode { djDecodeEqZero := true } (.tuple [.bool, .bool]) 2 [false, false, false] = .balanced
    ∧ djDecode Quirks.none (.tuple [.bool, .bool]) 2 [false, false, false] = .constant := by
  decide

/-- `BernsteinVazirani/Simon.decode_output` return the value of the argument type whose
encoding was measured on the output qubits (via C09's codec theorem) -/
theorem arg_decode (t : QTy) (v : QVal) (h : WT t v) :
    argDecode t t.size (encode t v).reverse = v :=
  QV.C09.interpretAsQtype_encode t v h _ rfl

/-- `output_qubits` of the three algorithms are the input qubits `0..n-1` the theorems measure -/
theorem output_qubits (n : Nat) : outputQubits n = List.range n := rfl

theorem C16_full : C16_statement := by
  refine ⟨?_, ?_, ?_, ?_, ?_⟩
  · intro n m k gs f hk hO y rest hy hr
    refine ⟨fun c hc => ⟨fun hne => dj_constant n m k gs f c hk hO hc y rest hy hr hne,
      fun r => dj_constant_certain n m k gs f c hk hO hc r⟩,
      fun hb => dj_balanced n m k gs f hk hO hb rest hr⟩
  · intro n m k gs f s hk hO hs hf y rest hy hr
    exact ⟨fun hne => bv n m k gs f s hk hO hs hf y rest hy hr hne,
      fun r => bv_certain n m k gs f s hk hO hs hf r⟩
  · intro n m gs F s hO hP y hy
    refine ⟨fun hd z hz => simon_orthogonal n m gs F s hO hP y z hy hz hd, ?_⟩
    intro y' hy' hd hd'
    refine ⟨simon_uniform n m gs F s hO hP y y' hy hy' hd hd', ?_⟩
    intro x0 hx0
    exact (simon_amp_sq n m gs F s hO hP y (F x0) hy (hO.2 x0 hx0).1 hd).1 ⟨x0, hx0, rfl⟩
  · intro ty n y rest hy; exact dj_decode_full ty n y rest hy
  · intro t v h; exact arg_decode t v h

/-! ## non-vacuity: concrete black boxes meeting the hypotheses -/

/-- `f(x) = x[0]` on 2 bits compiled as `CX 0→2` is a clean xor-oracle (`n=2, m=1, k=0`); it is
balanced and it is the Bernstein-Vazirani oracle of the secret `10` -/
example : XorOracle [{ cls := .CX, wires := [0, 2] }] 2 1 0 (fun x => x.getD 0 false) := by
  refine ⟨by decide, ?_⟩
  intro x r hx
  match x, hx with
  | [a, b], _ => cases a <;> cases b <;> cases r <;> decide

example : 2 * countBits 2 (fun x => x.getD 0 false) = 2 ^ 2 := by decide

example : ∀ x : List Bool, x.length = 2 → (fun x => x.getD 0 false) x = dot x [true, false] := by
  intro x hx
  match x, hx with
  | [a, b], _ => cases a <;> cases b <;> decide

/-- the constant function `True` compiled as `X 2` -/
example : XorOracle [{ cls := .X, wires := [2] }] 2 1 0 (fun _ => true) := by
  refine ⟨by decide, ?_⟩
  intro x r hx
  match x, hx with
  | [a, b], _ => cases a <;> cases b <;> cases r <;> decide

/-- `F(x) = x[0] ⊕ x[1]` compiled as `CX 0→2; CX 1→2` is a Simon black box with period `11` -/
example : FunOracle [{ cls := .CX, wires := [0, 2] }, { cls := .CX, wires := [1, 2] }] 2 1
    (fun x => [Bool.xor (x.getD 0 false) (x.getD 1 false)]) := by
  refine ⟨by decide, ?_⟩
  intro x hx
  match x, hx with
  | [a, b], _ => cases a <;> cases b <;> decide

example : Period 2 (fun x => [Bool.xor (x.getD 0 false) (x.getD 1 false)]) [true, true] := by
  refine ⟨rfl, by decide, ?_⟩
  intro x x' hx hx'
  match x, hx, x', hx' with
  | [a, b], _, [c, d], _ => cases a <;> cases b <;> cases c <;> cases d <;> decide

/-! ## End to end: the black box is what the compiler model produces (`QV/Proofs/EndToEnd.lean`)

`C16_full` assumes `XorOracle` / `FunOracle`.  On the decidable class `inXorFragment` of
`C06.C06_fragment_partial` (one definition `r = e` returning one bit, `e` a tree over the argument bits)
these hypotheses are theorems about the model of the compiler (`EndToEnd.compile_oracles`); below, the three
guarantees are restated for the circuits `djGates n q gs`, `bvGates n q gs`, `simonGates n gs` built from the
compiled gate list `gs = s.qc.gates` and the qubit `q` the return name is mapped to, for every successful
run of `compile … (some [r]) true`.

Simon with a several-bit result is not covered by *this* section (`C06_fragment_partial` /
`C03_fragment_partial` are about a single definition, one return bit); it is linked in the section on the general
class below (`C16_end_to_end_simon_general`, from `C03_general_partial` + `C02_general_partial`).  What holds for
every compilation whatsoever is `C16_simon_any_compilation`: the guarantee with respect to the period of the map
"everything the circuit leaves on the non-argument qubits". -/

section EndToEnd
open QV.Compiler (compile inXorFragment dictGet? CState initState)
open QV.EndToEnd (predOf)

/-- The three guarantees for a one-bit black box, in the coordinates of the circuits: `gs` on
`nq` qubits, the first `n` the arguments, `_ret` on qubit `q ≥ n`, a clean xor-oracle of `f`
(`C16_full` with `m = nq - n`, `k = q - n`; for Simon the black box is `x ↦ (0…, f x, …0)`). -/
theorem C16_one_bit (n nq q : Nat) (gs : List AGate) (f : List Bool → Bool)
    (hge : n ≤ q) (hlt : q < nq) (hO : XorOracle gs n (nq - n) (q - n) f) :
    -- Deutsch-Jozsa
    (∀ (y rest : List Bool), y.length = n → rest.length = nq - n →
      (∀ c : Bool, (∀ x : List Bool, x.length = n → f x = c) →
        (y ≠ zeros n → run (djGates n q gs) ket0 (y ++ rest) = 0) ∧
        (∀ b, run (djGates n q gs) ket0 (zeros n ++ embed (nq - n) (q - n) b) = sgn b * sgn c * 2 ^ n)) ∧
      (2 * countBits n f = 2 ^ n → run (djGates n q gs) ket0 (zeros n ++ rest) = 0)) ∧
    -- Bernstein-Vazirani
    (∀ (sec : List Bool), sec.length = n → (∀ x : List Bool, x.length = n → f x = dot x sec) →
      ∀ (y rest : List Bool), y.length = n → rest.length = nq - n →
        (y ≠ sec → run (bvGates n q gs) ket0 (y ++ rest) = 0) ∧
        (∀ b, run (bvGates n q gs) ket0 (sec ++ embed (nq - n) (q - n) b) = sgn b * 2 ^ n)) ∧
    -- Simon (one result bit)
    (∀ (sec : List Bool), sec.length = n → sec ≠ zeros n →
      (∀ x x' : List Bool, x.length = n → x'.length = n →
        (f x = f x' ↔ (x' = x ∨ x' = xorBits x sec))) →
      ∀ (y : List Bool), y.length = n →
        (dot sec y = true → ∀ z : List Bool, z.length = nq - n → simonAmp n gs (y ++ z) = 0) ∧
        (∀ y' : List Bool, y'.length = n → dot sec y = false → dot sec y' = false →
          simonWeight n (nq - n) gs y = simonWeight n (nq - n) gs y' ∧
          ∀ x0 : List Bool, x0.length = n →
            simonAmp n gs (y ++ embed (nq - n) (q - n) (f x0)) ^ 2 = 4)) := by
  have e : n + (q - n) = q := by omega
  have hk : q - n < nq - n := by omega
  refine ⟨fun y rest hy hr => ?_, fun sec hs hdot y rest hy hr => ?_, fun sec hs hz hp y hy => ?_⟩
  · have := C16_full.1 n (nq - n) (q - n) gs f hk hO y rest hy hr
    simp only [djAmp, e] at this
    exact this
  · have := C16_full.2.1 n (nq - n) (q - n) gs f sec hk hO hs hdot y rest hy hr
    simp only [bvAmp, e] at this
    exact this
  · exact C16_full.2.2.1 n (nq - n) gs _ sec (EndToEnd.funOracle_of_xorOracle hO)
      (EndToEnd.period_embed hk hs hz hp) y hy

/-- Deutsch-Jozsa end to end on the fragment: for every definition of the class and every successful run of
the compiler model, with `q` the qubit of the return name, `n` the number of argument bits, `m` the number of
other qubits: if the denoted predicate is constant the circuit `djGates n q gates` has no amplitude outside
`y = 0…0` and amplitude `± 2^n` there; if it is balanced the amplitude at `y = 0…0` vanishes. -/
theorem C16_end_to_end_dj (inputs : List String) (defs : List (String × BExp)) (r : String)
    (choices : List Nat) (s : CState)
    (hf : inXorFragment inputs defs [r] = true)
    (h : (compile inputs defs (some [r]) true).run { choices := choices } = .ok ((), s)) :
    ∃ q, dictGet? s.qc.qmap r = some q ∧ inputs.length ≤ q ∧ q < s.qc.numQubits ∧
      ∀ (y rest : List Bool), y.length = inputs.length → rest.length = s.qc.numQubits - inputs.length →
        (∀ c : Bool, (∀ x : List Bool, x.length = inputs.length → predOf inputs defs r x = c) →
          (y ≠ zeros inputs.length → run (djGates inputs.length q s.qc.gates.toList) ket0 (y ++ rest) = 0) ∧
          (∀ b, run (djGates inputs.length q s.qc.gates.toList) ket0
              (zeros inputs.length ++ embed (s.qc.numQubits - inputs.length) (q - inputs.length) b)
            = sgn b * sgn c * 2 ^ inputs.length)) ∧
        (2 * countBits inputs.length (predOf inputs defs r) = 2 ^ inputs.length →
          run (djGates inputs.length q s.qc.gates.toList) ket0 (zeros inputs.length ++ rest) = 0) := by
  obtain ⟨q, hq, hge, hlt, _, hO, _⟩ :=
    EndToEnd.compile_oracles inputs defs [r] choices s hf h r List.mem_cons_self
  exact ⟨q, hq, hge, hlt, (C16_one_bit _ _ q _ _ hge hlt hO).1⟩

/-- Bernstein-Vazirani end to end on the fragment: if the denoted predicate is `x ↦ x·sec`, the circuit
`bvGates n q gates` built from the compiled gate list has no amplitude outside `y = sec` and `± 2^n` there. -/
theorem C16_end_to_end_bv (inputs : List String) (defs : List (String × BExp)) (r : String)
    (choices : List Nat) (s : CState)
    (hf : inXorFragment inputs defs [r] = true)
    (h : (compile inputs defs (some [r]) true).run { choices := choices } = .ok ((), s)) :
    ∃ q, dictGet? s.qc.qmap r = some q ∧ inputs.length ≤ q ∧ q < s.qc.numQubits ∧
      ∀ (sec : List Bool), sec.length = inputs.length →
        (∀ x : List Bool, x.length = inputs.length → predOf inputs defs r x = dot x sec) →
        ∀ (y rest : List Bool), y.length = inputs.length → rest.length = s.qc.numQubits - inputs.length →
          (y ≠ sec → run (bvGates inputs.length q s.qc.gates.toList) ket0 (y ++ rest) = 0) ∧
          (∀ b, run (bvGates inputs.length q s.qc.gates.toList) ket0
              (sec ++ embed (s.qc.numQubits - inputs.length) (q - inputs.length) b)
            = sgn b * 2 ^ inputs.length) := by
  obtain ⟨q, hq, hge, hlt, _, hO, _⟩ :=
    EndToEnd.compile_oracles inputs defs [r] choices s hf h r List.mem_cons_self
  exact ⟨q, hq, hge, hlt, (C16_one_bit _ _ q _ _ hge hlt hO).2.1⟩

/-- Simon end to end on the fragment (one return bit, so the black box is
`x ↦ (0…, f x, …0)` on the `m` non-argument qubits): if the denoted predicate `f` is two-to-one with period
`sec ≠ 0` (`f x = f x' ↔ x' = x ∨ x' = x ⊕ sec`; with one result bit this needs `n ≤ 2`), every outcome `y`
of `simonGates n gates` with `y·sec = 1` has amplitude 0 and all `y` with `y·sec = 0` are equally likely. -/
theorem C16_end_to_end_simon (inputs : List String) (defs : List (String × BExp)) (r : String)
    (choices : List Nat) (s : CState)
    (hf : inXorFragment inputs defs [r] = true)
    (h : (compile inputs defs (some [r]) true).run { choices := choices } = .ok ((), s)) :
    ∃ q, dictGet? s.qc.qmap r = some q ∧ inputs.length ≤ q ∧ q < s.qc.numQubits ∧
      ∀ (sec : List Bool), sec.length = inputs.length → sec ≠ zeros inputs.length →
        (∀ x x' : List Bool, x.length = inputs.length → x'.length = inputs.length →
          (predOf inputs defs r x = predOf inputs defs r x' ↔ (x' = x ∨ x' = xorBits x sec))) →
        ∀ (y : List Bool), y.length = inputs.length →
          (dot sec y = true → ∀ z : List Bool, z.length = s.qc.numQubits - inputs.length →
            simonAmp inputs.length s.qc.gates.toList (y ++ z) = 0) ∧
          (∀ y' : List Bool, y'.length = inputs.length → dot sec y = false → dot sec y' = false →
            simonWeight inputs.length (s.qc.numQubits - inputs.length) s.qc.gates.toList y
              = simonWeight inputs.length (s.qc.numQubits - inputs.length) s.qc.gates.toList y' ∧
            ∀ x0 : List Bool, x0.length = inputs.length →
              simonAmp inputs.length s.qc.gates.toList
                (y ++ embed (s.qc.numQubits - inputs.length) (q - inputs.length) (predOf inputs defs r x0)) ^ 2 = 4) := by
  obtain ⟨q, hq, hge, hlt, _, hO, _⟩ :=
    EndToEnd.compile_oracles inputs defs [r] choices s hf h r List.mem_cons_self
  exact ⟨q, hq, hge, hlt, (C16_one_bit _ _ q _ _ hge hlt hO).2.2⟩

/-- the three guarantees for the circuits built from what the compiler
model produces, for every definition of `inXorFragment` and every successful run -/
theorem C16_end_to_end_fragment (inputs : List String) (defs : List (String × BExp)) (r : String)
    (choices : List Nat) (s : CState)
    (hf : inXorFragment inputs defs [r] = true)
    (h : (compile inputs defs (some [r]) true).run { choices := choices } = .ok ((), s)) :
    ∃ q, dictGet? s.qc.qmap r = some q ∧ inputs.length ≤ q ∧ q < s.qc.numQubits ∧
      -- Deutsch-Jozsa
      (∀ (y rest : List Bool), y.length = inputs.length → rest.length = s.qc.numQubits - inputs.length →
        (∀ c : Bool, (∀ x : List Bool, x.length = inputs.length → predOf inputs defs r x = c) →
          (y ≠ zeros inputs.length → run (djGates inputs.length q s.qc.gates.toList) ket0 (y ++ rest) = 0) ∧
          (∀ b, run (djGates inputs.length q s.qc.gates.toList) ket0
              (zeros inputs.length ++ embed (s.qc.numQubits - inputs.length) (q - inputs.length) b)
            = sgn b * sgn c * 2 ^ inputs.length)) ∧
        (2 * countBits inputs.length (predOf inputs defs r) = 2 ^ inputs.length →
          run (djGates inputs.length q s.qc.gates.toList) ket0 (zeros inputs.length ++ rest) = 0)) ∧
      -- Bernstein-Vazirani
      (∀ (sec : List Bool), sec.length = inputs.length →
        (∀ x : List Bool, x.length = inputs.length → predOf inputs defs r x = dot x sec) →
        ∀ (y rest : List Bool), y.length = inputs.length → rest.length = s.qc.numQubits - inputs.length →
          (y ≠ sec → run (bvGates inputs.length q s.qc.gates.toList) ket0 (y ++ rest) = 0) ∧
          (∀ b, run (bvGates inputs.length q s.qc.gates.toList) ket0
              (sec ++ embed (s.qc.numQubits - inputs.length) (q - inputs.length) b)
            = sgn b * 2 ^ inputs.length)) ∧
      -- Simon (one result bit)
      (∀ (sec : List Bool), sec.length = inputs.length → sec ≠ zeros inputs.length →
        (∀ x x' : List Bool, x.length = inputs.length → x'.length = inputs.length →
          (predOf inputs defs r x = predOf inputs defs r x' ↔ (x' = x ∨ x' = xorBits x sec))) →
        ∀ (y : List Bool), y.length = inputs.length →
          (dot sec y = true → ∀ z : List Bool, z.length = s.qc.numQubits - inputs.length →
            simonAmp inputs.length s.qc.gates.toList (y ++ z) = 0) ∧
          (∀ y' : List Bool, y'.length = inputs.length → dot sec y = false → dot sec y' = false →
            simonWeight inputs.length (s.qc.numQubits - inputs.length) s.qc.gates.toList y
              = simonWeight inputs.length (s.qc.numQubits - inputs.length) s.qc.gates.toList y' ∧
            ∀ x0 : List Bool, x0.length = inputs.length →
              simonAmp inputs.length s.qc.gates.toList
                (y ++ embed (s.qc.numQubits - inputs.length) (q - inputs.length) (predOf inputs defs r x0)) ^ 2 = 4)) := by
  obtain ⟨q, hq, hge, hlt, _, hO, _⟩ :=
    EndToEnd.compile_oracles inputs defs [r] choices s hf h r List.mem_cons_self
  exact ⟨q, hq, hge, hlt, C16_one_bit _ _ q _ _ hge hlt hO⟩

/-- Simon for any compilation (any definition list, several return bits, any return list, uncomputation
on or off, any sequence of ancilla choices): if no compiled gate targets an argument qubit, the compiled gate
list is a Simon black box for `F x` = everything the circuit leaves on the `m = nq - n` non-argument qubits
(return bits and scratch), and Simon's guarantee holds with respect to the period of that map.  (That `F`
has the period of the compiled function needs the circuit to be clean: `C16_end_to_end_simon_general`,
on the class of `C03_general_partial`.) -/
theorem C16_simon_any_compilation (inputs : List String) (defs : List (String × BExp))
    (ret : Option (List String)) (unc : Bool) (choices : List Nat) (s : CState)
    (h : (compile inputs defs ret unc).run { choices := choices } = .ok ((), s))
    (htg : ∀ g ∈ s.qc.gates.toList, inputs.length ≤ g.target)
    (sec : List Bool)
    (hP : Period inputs.length
      (fun x => (runClassical s.qc.gates.toList (initState x s.qc.numQubits)).drop inputs.length) sec) :
    ∀ (y : List Bool), y.length = inputs.length →
      (dot sec y = true → ∀ z : List Bool, z.length = s.qc.numQubits - inputs.length →
        simonAmp inputs.length s.qc.gates.toList (y ++ z) = 0) ∧
      (∀ y' : List Bool, y'.length = inputs.length → dot sec y = false → dot sec y' = false →
        simonWeight inputs.length (s.qc.numQubits - inputs.length) s.qc.gates.toList y
          = simonWeight inputs.length (s.qc.numQubits - inputs.length) s.qc.gates.toList y') := by
  intro y hy
  have := C16_full.2.2.1 inputs.length (s.qc.numQubits - inputs.length) s.qc.gates.toList _ sec
    (EndToEnd.compile_funOracle h htg) hP y hy
  exact ⟨this.1, fun y' hy' hd hd' => (this.2 y' hy' hd hd').1⟩

def exInputs : List String := ["a.0", "a.1"]
/-- `a.0 ⊕ a.1` on two bits: balanced, the Bernstein-Vazirani oracle of the secret `11`, two-to-one with period `11` -/
def exXor : List (String × BExp) := [("_ret", .xor [.sym "a.0", .sym "a.1"])]
/-- `a.0 ∧ ¬a.0`: constant `False` (compiled with one ancilla: `CX 0→2, X 2, MCX [0,2]→3, X 2, CX 0→2`) -/
def exConst : List (String × BExp) := [("_ret", .and [.sym "a.0", .not (.sym "a.0")])]

theorem exXor_compiles :
    ∃ s, (compile exInputs exXor (some ["_ret"]) true).run { choices := [2] } = .ok ((), s) := by
  apply Compiler.run_ok_of_toBool
  decide +kernel

/-- kernel evaluation of `compile` with `sortNat` (a `List.mergeSort`) rewritten to insertion sort first -/
theorem exConst_compiles :
    ∃ s, (compile exInputs exConst (some ["_ret"]) true).run { choices := [2, 3] } = .ok ((), s) := by
  apply Compiler.run_ok_of_toBool
  simp only [compile, exInputs, exConst, Compiler.compileDefs, Compiler.compileExpr, Compiler.compileArgs,
    EndToEnd.sortNat_eq]
  decide +kernel

theorem exXor_denotes : ∀ a b : Bool, predOf exInputs exXor "_ret" [a, b] = xor a b := by
  decide +kernel

theorem exConst_denotes : ∀ a b : Bool, predOf exInputs exConst "_ret" [a, b] = false := by
  decide +kernel

theorem xor2_facts (f : List Bool → Bool) (hf : ∀ a b : Bool, f [a, b] = xor a b) :
    2 * countBits 2 f = 2 ^ 2 ∧
    (∀ x : List Bool, x.length = 2 → f x = dot x [true, true]) ∧
    (∀ x x' : List Bool, x.length = 2 → x'.length = 2 →
      (f x = f x' ↔ (x' = x ∨ x' = xorBits x [true, true]))) := by
  refine ⟨?_, fun x hx => ?_, fun x x' hx hx' => ?_⟩
  · simp only [countBits, hf]; decide
  · match x, hx with
    | [a, b], _ => rw [hf]; revert a b; decide
  · match x, hx, x', hx' with
    | [a, b], _, [c, d], _ => rw [hf, hf]; revert a b c d; decide

/-- non-vacuity (balanced / Bernstein-Vazirani / Simon): `exXor` is in the class, the model compiles it, it is
balanced, it is `x ↦ x·11` and two-to-one with period `11`; so the Deutsch-Jozsa circuit built from the model's
gate list never reads `00`, the Bernstein-Vazirani circuit reads only `11`, and the Simon circuit never reads
a `y` with `y·11 = 1` -/
example : ∃ (s : CState) (q : Nat),
    (compile exInputs exXor (some ["_ret"]) true).run { choices := [2] } = .ok ((), s) ∧
    dictGet? s.qc.qmap "_ret" = some q ∧
    (∀ rest : List Bool, rest.length = s.qc.numQubits - 2 →
      run (djGates 2 q s.qc.gates.toList) ket0 (zeros 2 ++ rest) = 0) ∧
    (∀ y rest : List Bool, y.length = 2 → rest.length = s.qc.numQubits - 2 → y ≠ [true, true] →
      run (bvGates 2 q s.qc.gates.toList) ket0 (y ++ rest) = 0) ∧
    (∀ y z : List Bool, y.length = 2 → z.length = s.qc.numQubits - 2 → dot [true, true] y = true →
      simonAmp 2 s.qc.gates.toList (y ++ z) = 0) := by
  obtain ⟨s, hs⟩ := exXor_compiles
  obtain ⟨q, hq, _, _, hdj, hbv, hsi⟩ :=
    C16_end_to_end_fragment exInputs exXor "_ret" [2] s (by decide +kernel) hs
  obtain ⟨hbal, hdot, hper⟩ := xor2_facts (predOf exInputs exXor "_ret") exXor_denotes
  refine ⟨s, q, hs, hq, ?_, ?_, ?_⟩
  · intro rest hr
    exact (hdj [false, false] rest rfl hr).2 hbal
  · intro y rest hy hr hne
    exact (hbv [true, true] rfl hdot y rest hy hr).1 hne
  · intro y z hy hz hd
    exact (hsi [true, true] rfl (by decide) hper y hy).1 hd z hz

/-- non-vacuity (constant): `exConst` is in the class, the model compiles it, it denotes the constant `False`;
the Deutsch-Jozsa circuit built from the model's gate list has no amplitude outside `y = 00` -/
example : ∃ (s : CState) (q : Nat),
    (compile exInputs exConst (some ["_ret"]) true).run { choices := [2, 3] } = .ok ((), s) ∧
    dictGet? s.qc.qmap "_ret" = some q ∧
    ∀ y rest : List Bool, y.length = 2 → rest.length = s.qc.numQubits - 2 → y ≠ zeros 2 →
      run (djGates 2 q s.qc.gates.toList) ket0 (y ++ rest) = 0 := by
  obtain ⟨s, hs⟩ := exConst_compiles
  obtain ⟨q, hq, _, _, hdj⟩ := C16_end_to_end_dj exInputs exConst "_ret" [2, 3] s (by decide +kernel) hs
  refine ⟨s, q, hs, hq, ?_⟩
  intro y rest hy hr hne
  refine ((hdj y rest hy hr).1 false ?_).1 hne
  intro x hx
  match x, hx with
  | [a, b], _ => exact exConst_denotes a b

end EndToEnd

/-! ## End to end on the general compiler class (`C06_general_partial`, `C03_general_partial`, `C02_general_partial`)

`inGeneralClean inputs defs rets`: several definitions (named intermediates first, the requested return bits new
names defined once, last), sub-expressions shared inside and across definitions (cache hits), re-binding, constants.
For one return bit the two decidable side conditions of `C06_general_partial` on the compiled circuit are hypotheses
(the return qubit is not an argument qubit and never a control).  For several return bits (Simon) no xor-oracle is
needed: `C03_general_partial` (every non-argument qubit that is not a return qubit is back to zero, arguments
unchanged) and `C02_general_partial` (each return qubit holds its value) make the compiled gate list a `FunOracle`
whose `F x` is `EndToEnd.outReg …  x` – the return bits on their qubits, zero elsewhere. -/

section EndToEndGeneral
open QV.Compiler (compile inGeneralClean inXorFragment dictGet? CState retNeverControl)
open QV.EndToEnd (predOf outReg)

/-- the general class, one return bit (Deutsch-Jozsa, Bernstein-Vazirani, Simon with a one-bit
result): the statements of `C16_end_to_end_fragment` for every definition list of `inGeneralClean inputs defs [r]`
and every successful run of the compiler model whose return qubit `q` is not an argument qubit and never a
control. -/
theorem C16_end_to_end_general (inputs : List String) (defs : List (String × BExp)) (r : String)
    (choices : List Nat) (s : CState) (q : Nat)
    (hf : inGeneralClean inputs defs [r] = true)
    (h : (compile inputs defs (some [r]) true).run { choices := choices } = .ok ((), s))
    (hq : dictGet? s.qc.qmap r = some q) (hge : inputs.length ≤ q)
    (hnc : retNeverControl s.qc.gates.toList q = true) :
    q < s.qc.numQubits ∧
      -- Deutsch-Jozsa
      (∀ (y rest : List Bool), y.length = inputs.length → rest.length = s.qc.numQubits - inputs.length →
        (∀ c : Bool, (∀ x : List Bool, x.length = inputs.length → predOf inputs defs r x = c) →
          (y ≠ zeros inputs.length → run (djGates inputs.length q s.qc.gates.toList) ket0 (y ++ rest) = 0) ∧
          (∀ b, run (djGates inputs.length q s.qc.gates.toList) ket0
              (zeros inputs.length ++ embed (s.qc.numQubits - inputs.length) (q - inputs.length) b)
            = sgn b * sgn c * 2 ^ inputs.length)) ∧
        (2 * countBits inputs.length (predOf inputs defs r) = 2 ^ inputs.length →
          run (djGates inputs.length q s.qc.gates.toList) ket0 (zeros inputs.length ++ rest) = 0)) ∧
      -- Bernstein-Vazirani
      (∀ (sec : List Bool), sec.length = inputs.length →
        (∀ x : List Bool, x.length = inputs.length → predOf inputs defs r x = dot x sec) →
        ∀ (y rest : List Bool), y.length = inputs.length → rest.length = s.qc.numQubits - inputs.length →
          (y ≠ sec → run (bvGates inputs.length q s.qc.gates.toList) ket0 (y ++ rest) = 0) ∧
          (∀ b, run (bvGates inputs.length q s.qc.gates.toList) ket0
              (sec ++ embed (s.qc.numQubits - inputs.length) (q - inputs.length) b)
            = sgn b * 2 ^ inputs.length)) ∧
      -- Simon (one result bit)
      (∀ (sec : List Bool), sec.length = inputs.length → sec ≠ zeros inputs.length →
        (∀ x x' : List Bool, x.length = inputs.length → x'.length = inputs.length →
          (predOf inputs defs r x = predOf inputs defs r x' ↔ (x' = x ∨ x' = xorBits x sec))) →
        ∀ (y : List Bool), y.length = inputs.length →
          (dot sec y = true → ∀ z : List Bool, z.length = s.qc.numQubits - inputs.length →
            simonAmp inputs.length s.qc.gates.toList (y ++ z) = 0) ∧
          (∀ y' : List Bool, y'.length = inputs.length → dot sec y = false → dot sec y' = false →
            simonWeight inputs.length (s.qc.numQubits - inputs.length) s.qc.gates.toList y
              = simonWeight inputs.length (s.qc.numQubits - inputs.length) s.qc.gates.toList y' ∧
            ∀ x0 : List Bool, x0.length = inputs.length →
              simonAmp inputs.length s.qc.gates.toList
                (y ++ embed (s.qc.numQubits - inputs.length) (q - inputs.length) (predOf inputs defs r x0)) ^ 2 = 4)) := by
  obtain ⟨hlt, _, hO, _⟩ := EndToEnd.compile_oracles_general inputs defs r choices s q hf h hq hge hnc
  exact ⟨hlt, C16_one_bit _ _ q _ _ hge hlt hO⟩

/-- Simon on the general class, any number of return bits: for every definition list of
`inGeneralClean inputs defs rets` (return names `rets`, e.g. `_ret.0 … _ret.(w-1)`), every successful run of the
compiler model with uncomputation on in which every return name is mapped to a non-argument qubit (`hall`,
decidable on the compiler's output; it excludes a return bit that is a bare alias of an argument – return names
may share a qubit, be constants, or alias an intermediate): if the denoted function
`x ↦ [⟦_ret.0⟧ x, …, ⟦_ret.(w-1)⟧ x]` is two-to-one with period `sec ≠ 0`, then in the circuit `simonGates n gates`
built from the compiled gate list every outcome `y` with `y·sec = 1` has amplitude 0, all `y` with `y·sec = 0` are
equally likely, and the squared amplitude on the image (`outReg … x0` = the return bits of `x0` on their qubits, zero
on every other non-argument qubit) is 4.  No hypothesis about the compiled circuit beyond `hall`. -/
theorem C16_end_to_end_simon_general (inputs : List String) (defs : List (String × BExp)) (rets : List String)
    (choices : List Nat) (s : CState)
    (hf : inGeneralClean inputs defs rets = true)
    (h : (compile inputs defs (some rets) true).run { choices := choices } = .ok ((), s))
    (hall : ∀ r ∈ rets, ∃ q, dictGet? s.qc.qmap r = some q ∧ inputs.length ≤ q)
    (sec : List Bool)
    (hP : Period inputs.length (fun x => rets.map (fun r => predOf inputs defs r x)) sec) :
    ∀ (y : List Bool), y.length = inputs.length →
      (dot sec y = true → ∀ z : List Bool, z.length = s.qc.numQubits - inputs.length →
        simonAmp inputs.length s.qc.gates.toList (y ++ z) = 0) ∧
      (∀ y' : List Bool, y'.length = inputs.length → dot sec y = false → dot sec y' = false →
        simonWeight inputs.length (s.qc.numQubits - inputs.length) s.qc.gates.toList y
          = simonWeight inputs.length (s.qc.numQubits - inputs.length) s.qc.gates.toList y' ∧
        ∀ x0 : List Bool, x0.length = inputs.length →
          simonAmp inputs.length s.qc.gates.toList
            (y ++ outReg inputs defs rets s.qc.qmap s.qc.numQubits x0) ^ 2 = 4) := by
  have hF := EndToEnd.compile_funOracle_general inputs defs rets choices s hf h
  have hCorr := C02.C02_general_partial inputs defs rets true choices s (Compiler.inGeneralClass_of_clean hf) h
  have hall' : ∀ r ∈ rets, ∃ q, dictGet? s.qc.qmap r = some q ∧ inputs.length ≤ q ∧ q < s.qc.numQubits := by
    intro r hr
    obtain ⟨q, hq, hge⟩ := hall r hr
    exact ⟨q, hq, hge,
      (C02.compile_bookkeeping inputs defs (some rets) true choices s h).2.2.2.1 _ (Compiler.dictGet?_mem hq)⟩
  intro y hy
  exact C16_full.2.2.1 inputs.length (s.qc.numQubits - inputs.length) s.qc.gates.toList _ sec hF
    (EndToEnd.period_outReg hCorr hall' hP) y hy

/-- `m = a.0 & a.1; _ret = (a.0 ^ m) ^ (a.1 ^ m)`: two statements, `m` read twice; the predicate is `a.0 ⊕ a.1`
(balanced, `x ↦ x·11`, period `11`); outside `inXorFragment` -/
def exGenXor : List (String × BExp) :=
  [("m", .and [.sym "a.0", .sym "a.1"]),
   ("_ret", .xor [.xor [.sym "a.0", .sym "m"], .xor [.sym "a.1", .sym "m"]])]

def exInputs3 : List String := ["a.0", "a.1", "a.2"]
/-- three argument bits, two return bits sharing the intermediate `m = a.0 ^ a.1`:
`_ret.0 = m ^ a.2; _ret.1 = ¬m` – two-to-one with period `110` -/
def exSimon2 : List (String × BExp) :=
  [("m", .xor [.sym "a.0", .sym "a.1"]), ("_ret.0", .xor [.sym "m", .sym "a.2"]), ("_ret.1", .not (.sym "m"))]

theorem exGen_class : inGeneralClean exInputs exGenXor ["_ret"] = true ∧ inXorFragment exInputs exGenXor ["_ret"] = false ∧
    inGeneralClean exInputs3 exSimon2 ["_ret.0", "_ret.1"] = true := by
  decide +kernel

/-- the model compiles `exGenXor` (choices 2, 3: `m` on qubit 2, `_ret` on qubit 3, never a control) -/
theorem exGenXor_compiles :
    ∃ s, (compile exInputs exGenXor (some ["_ret"]) true).run { choices := [2, 3] } = .ok ((), s) ∧
      dictGet? s.qc.qmap "_ret" = some 3 ∧ retNeverControl s.qc.gates.toList 3 = true := by
  apply EndToEnd.runCheck_ok
  simp only [compile, exInputs, exGenXor, Compiler.compileDefs, Compiler.compileExpr,
    Compiler.compileXorArgs, EndToEnd.sortNat_eq]
  decide +kernel

theorem exGenXor_denotes : ∀ a b : Bool, predOf exInputs exGenXor "_ret" [a, b] = xor a b := by
  decide +kernel

/-- the model compiles `exSimon2` (choices 3, 4, 5: 6 qubits, `_ret.0` on qubit 4, `_ret.1` on qubit 5) -/
theorem exSimon2_compiles :
    ∃ s, (compile exInputs3 exSimon2 (some ["_ret.0", "_ret.1"]) true).run { choices := [3, 4, 5] } = .ok ((), s) ∧
      ∀ r ∈ ["_ret.0", "_ret.1"], ∃ q, dictGet? s.qc.qmap r = some q ∧ 3 ≤ q := by
  apply EndToEnd.retsCheck_ok
  decide +kernel

theorem exSimon2_denotes : ∀ a b c : Bool,
    ["_ret.0", "_ret.1"].map (fun r => predOf exInputs3 exSimon2 r [a, b, c])
      = [xor (xor a b) c, !(xor a b)] := by
  decide +kernel

/-- the function `exSimon2` denotes is two-to-one with period `110` -/
theorem exSimon2_period :
    Period 3 (fun x => ["_ret.0", "_ret.1"].map (fun r => predOf exInputs3 exSimon2 r x)) [true, true, false] := by
  refine ⟨rfl, by decide, ?_⟩
  intro x x' hx hx'
  match x, hx, x', hx' with
  | [a, b, c], _, [d, e, f], _ =>
    simp only [exSimon2_denotes]
    revert a b c d e f
    decide +kernel

/-- non-vacuity of `C16_end_to_end_general`: the two-statement predicate with the shared intermediate -/
example : ∃ (s : CState),
    (compile exInputs exGenXor (some ["_ret"]) true).run { choices := [2, 3] } = .ok ((), s) ∧
    (∀ rest : List Bool, rest.length = s.qc.numQubits - 2 →
      run (djGates 2 3 s.qc.gates.toList) ket0 (zeros 2 ++ rest) = 0) ∧
    (∀ y rest : List Bool, y.length = 2 → rest.length = s.qc.numQubits - 2 → y ≠ [true, true] →
      run (bvGates 2 3 s.qc.gates.toList) ket0 (y ++ rest) = 0) ∧
    (∀ y z : List Bool, y.length = 2 → z.length = s.qc.numQubits - 2 → dot [true, true] y = true →
      simonAmp 2 s.qc.gates.toList (y ++ z) = 0) := by
  obtain ⟨s, hs, hq, hnc⟩ := exGenXor_compiles
  obtain ⟨_, hdj, hbv, hsi⟩ :=
    C16_end_to_end_general exInputs exGenXor "_ret" [2, 3] s 3 exGen_class.1 hs hq (by decide) hnc
  obtain ⟨hbal, hdot, hper⟩ := xor2_facts (predOf exInputs exGenXor "_ret") exGenXor_denotes
  refine ⟨s, hs, ?_, ?_, ?_⟩
  · intro rest hr
    exact (hdj [false, false] rest rfl hr).2 hbal
  · intro y rest hy hr hne
    exact (hbv [true, true] rfl hdot y rest hy hr).1 hne
  · intro y z hy hz hd
    exact (hsi [true, true] rfl (by decide) hper y hy).1 hd z hz

/-- non-vacuity of `C16_end_to_end_simon_general`: two return bits, three statements, shared intermediate -/
example : ∃ (s : CState),
    (compile exInputs3 exSimon2 (some ["_ret.0", "_ret.1"]) true).run { choices := [3, 4, 5] } = .ok ((), s) ∧
    ∀ y z : List Bool, y.length = 3 → z.length = s.qc.numQubits - 3 → dot [true, true, false] y = true →
      simonAmp 3 s.qc.gates.toList (y ++ z) = 0 := by
  obtain ⟨s, hs, hall⟩ := exSimon2_compiles
  refine ⟨s, hs, fun y z hy hz hd => ?_⟩
  exact ((C16_end_to_end_simon_general exInputs3 exSimon2 ["_ret.0", "_ret.1"] [3, 4, 5] s exGen_class.2.2 hs hall
    [true, true, false] exSimon2_period) y hy).1 hd z hz

end EndToEndGeneral

end QV.C16
