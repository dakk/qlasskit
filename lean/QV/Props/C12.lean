import QV.Model.Decopt
import QV.Proofs.Decopt
import QV.Proofs.Decopt2
/-!
# C12 – The circuit boolean optimizer returns an equivalent, no larger circuit

Property: for every circuit, the boolean optimizer (without a preserve list) returns a circuit
on the same qubits implementing the same unitary, with no more gates than the original.  The
input circuit is not modified.

Model: `QV.Decopt` (`qlasskit/decompiler/decopt.py`) on top of `QV.Decompiler` and
`QV.Compiler`.  "Same unitary" is `SameUnitary n out gs` (`QV/Proofs/Decopt.lean`): for every
amplitude type and every meaning of the gates in which X/CX/CCX/MCX/MCtrl(X) permute the basis
states as `applyClassical` says and `I`/barriers do nothing (all other gates arbitrary), the two
gate lists send every state to the same state.

The internal-compiler model follows the repaired compiler (`docs/fixes/CC-*.diff`).

"The input circuit is not modified": the model is a function of the gate list (it has no heap);
on the code this part is observed by the check (deep comparison and object identities).
-/
namespace QV.C12
open QV QV.Decompiler QV.Decopt

/-- the property of one run: same operation, not longer, on the qubits of the input -/
def Holds (n : Nat) (gs out : List AGate) : Prop :=
  SameUnitary n out gs ∧ out.length ≤ gs.length ∧ ∀ g ∈ out, ∀ i ∈ g.wires, i ∈ wiresOf gs

/-- what is assumed of `simplify_logic` -/
def SimpSound (simp : BExp → BExp) : Prop := ∀ ρ e, (simp e).eval ρ = e.eval ρ

/-- the full property, for the repaired model: whatever (meaning-preserving) simplifier and
whatever ancilla choices, every successful run on a circuit built by `QCircuit.append`
(distinct wires per gate) satisfies `Holds` -/
def C12_statement : Prop :=
  ∀ (simp : BExp → BExp), SimpSound simp → ∀ (choices : Section → List Nat) (n : Nat)
    (gs out : List AGate), (∀ g ∈ gs, g.wires.Nodup) →
    optimize Quirks.none rawKernel rawKernel4 simp choices n gs = .ok out → Holds n gs out

/-- for every circuit, every re-synthesis function and every quirk setting, if
each section that the loop splices in has the classical action of the section it replaces, the
returned gate list implements the same operation as the input (induction over the splices:
the replaced ranges hold only permutation gates and no-ops, everything else stays in place) -/
theorem splice_equiv (q : Quirks) (K : Kernel) (n : Nat) (resyn : Section → Except String SecResult)
    (gs out : List AGate) (secs : List Section) (hwf : ∀ g ∈ gs, g.wires.Nodup)
    (hdec : decompile q K n gs = .ok secs)
    (hok : ∀ s ∈ secs, ∀ r, resyn s = .ok r → accept q n s r = true → SectionOK n s.gates r.gates)
    (h : optimizeWith q K n resyn gs = .ok out) : SameUnitary n out gs :=
  optimizeWith_inv (SameUnitary n) (SameUnitary.refl n gs) SameUnitary.trans (fun hab P T => SameUnitary.congr hab P T)
    (fun secs' hd' s hs hg r hr ha => by
      cases hdec.symm.trans hd'
      exact range_sameUnitary hwf hg (hok s hs r hr ha)) h

/-- for every circuit, re-synthesis function and quirk setting, the result has
no more gates than the input (every splice is guarded by `len(new) <= len(old)`, the old gates
all lie in the replaced range; lengths add) -/
theorem no_larger (q : Quirks) (K : Kernel) (n : Nat) (resyn : Section → Except String SecResult)
    (gs out : List AGate) (h : optimizeWith q K n resyn gs = .ok out) : out.length ≤ gs.length :=
  optimizeWith_inv (fun a b => a.length ≤ b.length) (Nat.le_refl _) Nat.le_trans
    (fun hab P T => by simp only [List.length_append]; omega)
    (fun _ _ s _ hg r _ ha => Nat.le_trans (accept_length ha) (by rw [hg.gates_eq]; exact List.length_filter_le _ _)) h

/-- every gate of the result acts on qubits the input acts on (the new gates of
a splice touch only qubits of the section they replace); the returned circuit's `num_qubits` is
copied from the input -/
theorem same_qubits (q : Quirks) (K : Kernel) (n : Nat) (resyn : Section → Except String SecResult)
    (gs out : List AGate) (h : optimizeWith q K n resyn gs = .ok out) :
    ∀ g ∈ out, ∀ i ∈ g.wires, i ∈ wiresOf gs := fun g hg i hi =>
  optimizeWith_inv (fun a b => wiresOf a ⊆ wiresOf b) (List.Subset.refl _) List.Subset.trans
    (fun hab P T i hi => by
      simp only [wiresOf, List.flatMap_append, List.mem_append] at hi ⊢
      exact hi.imp (Or.imp id (@hab i)) id)
    (fun _ _ s _ hg r _ ha i hi => by
      obtain ⟨g, hgr, hig⟩ := mem_wiresOf.mp hi
      obtain ⟨g', hg', hi'⟩ := mem_wiresOf.mp (accept_wires ha g hgr i hig)
      exact mem_wiresOf.mpr ⟨g', hg.gates_sub g' hg', hi'⟩) h (mem_wiresOf.mpr ⟨g, hg, hi⟩)

/-- in particular the result stays inside `n` qubits when the input does -/
theorem same_qubits_bound (q : Quirks) (K : Kernel) (n : Nat) (resyn : Section → Except String SecResult)
    (gs out : List AGate) (hn : ∀ g ∈ gs, ∀ i ∈ g.wires, i < n)
    (h : optimizeWith q K n resyn gs = .ok out) : ∀ g ∈ out, ∀ i ∈ g.wires, i < n := by
  intro g hg i hi
  obtain ⟨g', hg', hi'⟩ := mem_wiresOf.mp (same_qubits q K n resyn gs out h g hg i hi)
  exact hn g' hg' i hi'

/-- the property of a run from a condition on its accepted splices: `C12_partial`, `C12_xonly_partial` and `C12_full`
are this with the condition discharged by the validator, by the `xonly` shape and by `accepted_section_ok` -/
theorem holds_of_sectionOK (q : Quirks) (K : Kernel) (n : Nat) (resyn : Section → Except String SecResult)
    (gs out : List AGate) (hwf : ∀ g ∈ gs, g.wires.Nodup)
    (hok : ∀ secs, decompile q K n gs = .ok secs → ∀ s ∈ secs, ∀ r, resyn s = .ok r → accept q n s r = true →
      SectionOK n s.gates r.gates)
    (h : optimizeWith q K n resyn gs = .ok out) : Holds n gs out :=
  ⟨optimizeWith_inv (SameUnitary n) (SameUnitary.refl n gs) SameUnitary.trans (fun hab P T => SameUnitary.congr hab P T)
    (fun secs hd s hs hg r hr ha => range_sameUnitary hwf hg (hok secs hd s hs r hr ha)) h,
   no_larger q K n resyn gs out h, same_qubits q K n resyn gs out h⟩

/-- the per-instance validator is sound and complete for `SectionOK` -/
theorem sectionOK_decidable (n : Nat) (old new : List AGate) :
    sectionOKb n old new = true ↔ SectionOK n old new :=
  ⟨sectionOKb_sound, sectionOKb_complete⟩

/-- the property per validated instance: for every re-synthesis function (so every simplifier and
every sequence of ancilla choices) and every quirk setting, a run all of whose splices pass the
validator satisfies the property.  That the repaired model's splices always pass is `accepted_section_ok`. -/
theorem C12_partial (q : Quirks) (K : Kernel) (n : Nat) (resyn : Section → Except String SecResult)
    (gs out : List AGate) (secs : List Section) (hwf : ∀ g ∈ gs, g.wires.Nodup)
    (hdec : decompile q K n gs = .ok secs) (hv : validated q n resyn secs = true)
    (h : optimizeWith q K n resyn gs = .ok out) : Holds n gs out :=
  holds_of_sectionOK q K n resyn gs out hwf (fun secs' hd' s hs r hr ha => by
    cases hdec.symm.trans hd'
    exact sectionOKb_sound (all_accepted.mp hv s hs r hr ha)) h

/-- for every quirk setting `q`, on every circuit where no spliced section was renamed by its re-synthesis
(`triggers = false`) the optimizer returns what it returns with all flags off -/
theorem off_trigger (q : Quirks) (K : Kernel) (n : Nat) (resyn : Section → Except String SecResult)
    (gs : List AGate) (secs : List Section) (hdec : decompile q K n gs = .ok secs)
    (ht : Decopt.triggers q n resyn secs = false) :
    optimizeWith q K n resyn gs = spliceLoop Quirks.none n resyn secs.reverse gs := by
  unfold optimizeWith
  rw [hdec]
  apply spliceLoop_congr
  intro s hs
  rw [Decopt.triggers_eq] at ht
  cases hq : q.spliceIgnoresRename with
  | false => rfl
  | true =>
    rw [hq, Bool.true_and] at ht
    rw [Bool.true_and]
    simpa using List.any_eq_false.mp ht s (List.mem_reverse.mp hs)

/-- a re-synthesis that is spliced in by the repaired code has renamed no qubit -/
theorem repaired_accepts_stable (n : Nat) (s : Section) (r : SecResult)
    (h : accept Quirks.none n s r = true) : nameStable n r.qmap = true := accept_stable h

/-- for every meaning-preserving `simplify_logic` and kernel of
constructors, `custom_simplify_logic2` keeps the meaning of every expression, so the list handed
to the compiler has the keys and the meanings of the section's expressions -/
theorem custom_simplify_preserves (simp : BExp → BExp) (K4 : Kernel4) (hK : K4.Sound)
    (hs : SimpSound simp) (s : Section) :
    (simplifySection simp K4 s).map (·.1) = s.exps.map (·.1) ∧
    ∀ ρ e, (customSimplify simp K4 e).eval ρ = e.eval ρ := by
  refine ⟨?_, fun ρ e => customSimplify_eval hK hs ρ e⟩
  unfold simplifySection
  rw [List.map_map]; rfl

/-- restates `Decopt.xonly_sectionOK`: an X-only splice, with the list `F` of flipped qubits given explicitly
(the predicate `xonly` is not used; `xonly_splice_ok` reads `F` off the simplified definitions): if the
section's decompiled expressions say "the qubits in `F` are negated, every other qubit keeps its value"
(what a meaning-preserving simplifier turns into `q = ~q` / drops) and the re-synthesised gate list is one
X gate per qubit of `F`, then the splice is `SectionOK` – by the soundness of the symbolic execution
(C11 `symexec_sound`) -/
theorem xonly_section_ok (K : Kernel) (hK : K.Sound) (q : Quirks) (n : Nat) (sec : List AGate) (d : Dict)
    (hd : expsOfSection q K n sec = .ok d) (new : List AGate) (F : List Nat) (hF : F.Nodup)
    (hnew : new.map (fun g => (g.cls, g.wires)) = F.map (fun i => (GClass.X, [i])))
    (hflip : ∀ i ∈ F, ∀ ρ, (expOf d i).eval ρ = !ρ (qname i))
    (hid : ∀ i, i < n → i ∉ F → ∀ ρ, (expOf d i).eval ρ = ρ (qname i)) :
    SectionOK n sec new :=
  xonly_sectionOK K hK q n sec d hd new F hF hnew hflip hid

/-- restates `Decopt.xonly_ok`: for every section of a decompilation, every sound kernel, every
meaning-preserving simplifier: if the simplified definitions are all `q = q` or `q = ~q` and the
re-synthesised gates are the X gates of the self-negations (`xonly`, decidable), the splice is
`SectionOK` -/
theorem xonly_splice_ok (simp : BExp → BExp) (hs : SimpSound simp) (K : Kernel) (hK : K.Sound)
    (K4 : Kernel4) (hK4 : K4.Sound) (q : Quirks) (n : Nat) (gs : List AGate) (secs : List Section)
    (hdec : decompile q K n gs = .ok secs) (s : Section) (hmem : s ∈ secs) (new : List AGate)
    (hx : xonly n (simplifySection simp K4 s) new = true) : SectionOK n s.gates new :=
  xonly_ok hK q n s.gates s.exps (decompile_exps hdec s hmem) (customSimplify simp K4)
    (fun ρ e => customSimplify_eval hK4 hs ρ e) new hx

/-- the property per run, under the decidable shape predicate: for every quirk setting, a run all of
whose accepted splices are of the `xonly` shape (`xonlyRun = true`, checked by the harness on every case)
satisfies the property.  `accepted_xonly` discharges the hypothesis for the repaired model. -/
theorem C12_xonly_partial (simp : BExp → BExp) (hs : SimpSound simp) (K : Kernel) (hK : K.Sound)
    (K4 : Kernel4) (hK4 : K4.Sound) (q : Quirks) (choices : Section → List Nat) (n : Nat)
    (gs out : List AGate) (secs : List Section) (hwf : ∀ g ∈ gs, g.wires.Nodup)
    (hdec : decompile q K n gs = .ok secs)
    (hx : xonlyRun q n (simplifySection simp K4) (resynSection n (simplifySection simp K4) choices) secs = true)
    (h : optimize q K K4 simp choices n gs = .ok out) : Holds n gs out :=
  holds_of_sectionOK q K n _ gs out hwf (fun secs' hd' s hmem r hr ha => by
    cases hdec.symm.trans hd'
    exact xonly_splice_ok simp hs K hK K4 hK4 q n gs secs hdec s hmem r.gates (all_accepted.mp hx s hmem r hr ha)) h

/-- the theorem about the internal compiler: for every
section of a decompilation, every simplifier (sound or not), every sequence of ancilla choices: a
re-synthesis `exprs_to_quantum(simplified expressions, symbols = q0 … q{n-1})` that the repaired
splice test accepts – in fact already one whose qubit map still sends every `q{i}` to `i` – is of the
`xonly` shape: every simplified definition is `q = q` or `q = ~q` and the gates are the X gates of the
self-negations.  (From `stable_xonly`: the first other definition `q{i} = e` is compiled into a qubit
`≠ i` – another argument, the `FALSE`/`TRUE` qubit, an ancilla – `q{i}` is re-mapped onto it and, the
names being distinct, never mapped back.) -/
theorem accepted_xonly (simp : BExp → BExp) (K : Kernel) (hK : K.Sound) (K4 : Kernel4) (q : Quirks)
    (n : Nat) (gs : List AGate) (secs : List Section) (hdec : decompile q K n gs = .ok secs)
    (s : Section) (hmem : s ∈ secs) (choices : List Nat) (r : SecResult)
    (hr : resynth n (simplifySection simp K4 s) choices = .ok r)
    (ha : accept Quirks.none n s r = true) : xonly n (simplifySection simp K4 s) r.gates = true :=
  stable_xonly (simplifySection_keysOK hK (decompile_exps hdec s hmem) simp K4) hr (accept_stable ha)

/-- with a meaning-preserving simplifier, every re-synthesis the repaired
splice test accepts has the classical action of the section it replaces -/
theorem accepted_section_ok (simp : BExp → BExp) (hs : SimpSound simp) (K : Kernel) (hK : K.Sound)
    (K4 : Kernel4) (hK4 : K4.Sound) (q : Quirks) (n : Nat) (gs : List AGate) (secs : List Section)
    (hdec : decompile q K n gs = .ok secs) (s : Section) (hmem : s ∈ secs) (choices : List Nat)
    (r : SecResult) (hr : resynth n (simplifySection simp K4 s) choices = .ok r)
    (ha : accept Quirks.none n s r = true) : SectionOK n s.gates r.gates :=
  xonly_splice_ok simp hs K hK K4 hK4 q n gs secs hdec s hmem r.gates
    (accepted_xonly simp K hK K4 q n gs secs hdec s hmem choices r hr ha)

/-- the whole property of the repaired model, for all sound constructor kernels: every successful run
of `circuit_boolean_optimizer` on a circuit built by `QCircuit.append` returns a circuit with the same
action (`SameUnitary`), no more gates, on the qubits of the input -/
theorem C12_full (simp : BExp → BExp) (hs : SimpSound simp) (K : Kernel) (hK : K.Sound)
    (K4 : Kernel4) (hK4 : K4.Sound) (choices : Section → List Nat) (n : Nat) (gs out : List AGate)
    (hwf : ∀ g ∈ gs, g.wires.Nodup)
    (h : optimize Quirks.none K K4 simp choices n gs = .ok out) : Holds n gs out :=
  holds_of_sectionOK Quirks.none K n _ gs out hwf (fun secs hdec s hmem r hr ha =>
    accepted_section_ok simp hs K hK K4 hK4 Quirks.none n gs secs hdec s hmem (choices s) r hr ha) h

/-- the per-instance validator of `C12_partial` never fails on the repaired
model (the harness runs it on every case as a cross-check of model and proof) -/
theorem repaired_validated (simp : BExp → BExp) (hs : SimpSound simp) (K : Kernel) (hK : K.Sound)
    (K4 : Kernel4) (hK4 : K4.Sound) (q : Quirks) (choices : Section → List Nat) (n : Nat)
    (gs : List AGate) (secs : List Section) (hdec : decompile q K n gs = .ok secs) :
    validated Quirks.none n (resynSection n (simplifySection simp K4) choices) secs = true :=
  all_accepted.mpr fun s hmem r hr ha => sectionOKb_complete
    (accepted_section_ok simp hs K hK K4 hK4 q n gs secs hdec s hmem (choices s) r hr ha)

theorem C12_statement_holds : C12_statement := fun simp hs choices n gs out hwf h =>
  C12_full simp hs rawKernel rawKernel_sound rawKernel4 rawKernel4_sound choices n gs out hwf h

/-- the hypotheses of `xonly_section_ok` are satisfiable: `x(0) x(1) x(0)` on two qubits, `F = [1]` -/
example : SectionOK 2 [⟨.X, [0], .none, 0⟩, ⟨.X, [1], .none, 0⟩, ⟨.X, [0], .none, 0⟩] [⟨.X, [1], .none, 7⟩] := by
  refine xonly_section_ok rawKernel rawKernel_sound Quirks.none 2 _
    [("q0", .not (.not (.sym "q0"))), ("q1", .not (.sym "q1"))] (by rfl) _ [1] (by decide) (by decide) ?_ ?_
  · intro i hi ρ
    simp only [List.mem_singleton] at hi
    subst hi
    rfl
  · intro i hi hne ρ
    have : i = 0 := by
      simp only [List.mem_singleton] at hne
      omega
    subst this
    show (!(!ρ "q0")) = ρ "q0"
    simp

/-- the kernel hypothesis is satisfiable -/
theorem raw_kernel4_sound : rawKernel4.Sound := rawKernel4_sound

/-- `SemLaws` is satisfiable: the semantics in which only the classical gates act -/
example (n : Nat) : SemLaws (α := Nat) n
    (fun g ψ => if g.cls.isMCXLike then fun b => ψ (g.applyClassical b) else ψ) where
  perm := (classicalSem_laws Nat n).perm
  skip := (classicalSem_laws Nat n).skip
  loc := (classicalSem_laws Nat n).loc

/-- `x(0) cx(0,1) x(0) cx(0,1) h(1) x(1) x(1)`: two classical sections around an `H` -/
def xcx : List AGate :=
  [⟨.X, [0], .none, 0⟩, ⟨.CX, [0, 1], .none, 0⟩, ⟨.X, [0], .none, 0⟩, ⟨.CX, [0, 1], .none, 0⟩,
   ⟨.H, [1], .none, 0⟩, ⟨.X, [1], .none, 0⟩, ⟨.X, [1], .none, 0⟩]

/-- per-section simplified definitions for `xcx`: `q1 = ~q1` for the first section, none for the
second.  In the example below both splices are accepted and validated, the result is `x(1) h(1)` -/
def xcxSimp : Section → List (String × BExp) := fun s =>
  if s.start = 0 then [("q1", .not (.sym "q1"))] else []

example : (decompile Quirks.none rawKernel 2 xcx).toOption.map (fun l => l.map (fun s => (s.start, s.stop)))
      = some [(0, 4), (5, 7)] ∧
    ((decompile Quirks.none rawKernel 2 xcx).toOption.map
      (validated Quirks.none 2 (resynSection 2 xcxSimp (fun _ => [])))) = some true ∧
    (optimizeWith Quirks.none rawKernel 2 (resynSection 2 xcxSimp (fun _ => [])) xcx).toOption.map
      (fun l => l.map (fun g => (g.cls, g.wires))) = some [(.X, [1]), (.H, [1])] := by
  decide +kernel

/-- a simplifier that knows `q0 ^ (q0 ^ q1) = q1` and leaves everything else alone -/
def cxcxSimp : BExp → BExp := fun e =>
  if e == .xor [.sym "q0", .xor [.sym "q0", .sym "q1"]] then .sym "q1" else e

/-- the hypotheses of `C12_full` are satisfiable with splices that are accepted and change the circuit:
`cxcxSimp` preserves meaning; in `cx(0,1) cx(0,1) h(0) x(1)` the first section simplifies to `q1 = q1` and is
replaced by no gate, the second (`q1 = ~q1`) by its X gate -/
example : SimpSound cxcxSimp ∧
    (optimize Quirks.none rawKernel rawKernel4 cxcxSimp (fun _ => []) 2
      [⟨.CX, [0, 1], .none, 0⟩, ⟨.CX, [0, 1], .none, 0⟩, ⟨.H, [0], .none, 0⟩, ⟨.X, [1], .none, 0⟩]).toOption.map
      (fun l => l.map (fun g => (g.cls, g.wires))) = some [(.H, [0]), (.X, [1])] := by
  refine ⟨?_, by decide +kernel⟩
  intro ρ e
  unfold cxcxSimp
  split
  · next h =>
    rw [BExp.eq_of_beq h]
    simp only [BExp.eval, evalXor]
    cases ρ "q0" <;> cases ρ "q1" <;> rfl
  · rfl

/-- `cx(0,1) cx(1,0) cx(0,1)`: the swap of qubits 0 and 1 -/
def swap01 : List AGate :=
  [⟨.CX, [0, 1], .none, 0⟩, ⟨.CX, [1, 0], .none, 0⟩, ⟨.CX, [0, 1], .none, 0⟩]

/-- a (meaning-preserving on these inputs) simplifier: the two expressions of the 3-CX swap are
simplified to the symbols they are equivalent to, everything else is left alone -/
def swapSimp : BExp → BExp := fun e =>
  if e == .xor [.xor [.sym "q0", .sym "q1"], .sym "q0"] then .sym "q1"
  else if e == .xor [.xor [.xor [.sym "q0", .sym "q1"], .sym "q0"], .xor [.sym "q0", .sym "q1"]] then .sym "q0"
  else e

/-- on `swap01`, with flag `spliceIgnoresRename` on, the optimizer replaces the section by the empty gate list, which does not have the
classical action of the input on `|10>`; the splice does not pass the validator.  With the flag
off the circuit is left alone. -/
theorem splice_rename_witness :
    (optimize (Quirks.ofList ["spliceIgnoresRename"]) rawKernel rawKernel4 swapSimp (fun _ => []) 2 swap01).toOption
      = some [] ∧
    runClassical [] [true, false] ≠ runClassical swap01 [true, false] ∧
    ((decompile Quirks.none rawKernel 2 swap01).toOption.map
      (validated (Quirks.ofList ["spliceIgnoresRename"]) 2
        (resynSection 2 (simplifySection swapSimp rawKernel4) (fun _ => [])))) = some false ∧
    ((decompile Quirks.none rawKernel 2 swap01).toOption.map
      (Decopt.triggers (Quirks.ofList ["spliceIgnoresRename"]) 2
        (resynSection 2 (simplifySection swapSimp rawKernel4) (fun _ => [])))) = some true ∧
    (optimize Quirks.none rawKernel rawKernel4 swapSimp (fun _ => []) 2 swap01).toOption = some swap01 := by
  decide +kernel

/-- the empty circuit is not the swap: `SameUnitary` fails for the witness' output (take the
semantics in which only the classical gates act, the state `δ_{10}`, and read it at `01`) -/
theorem splice_rename_violates : ¬ SameUnitary 2 [] swap01 := by
  intro h
  have := h Bool _ (classicalSem_laws Bool 2) (fun b => b == [true, false]) [false, true] rfl
  revert this
  decide

end QV.C12
