import QV.Proofs.Opt
import QV.Gen.Tables
/-!
# C04 – Boolean optimizer profiles preserve meaning

> Applying any shipped optimizer profile, or any single rewrite step it is made of, to a list of
> boolean definitions yields a list that assigns the same boolean function of the inputs to every
> return symbol, for every well-formed boolean expression over And, Or, Not, Xor, if-then-else and
> implication.  No free symbol is introduced and no return symbol is lost.

Model: `QV/Model/Opt.lean` (qlasskit/boolopt/*.py, the simplify of ast2logic/t_ast.py).
A list of definitions means `evalDefs` (sequential binding); `Preserves l l'` is the property for
one list and its image: equal value of every `_ret*` symbol under every assignment, equal list of
bound return symbols, `freeSyms l' ⊆ freeSyms l`.

Parameters, with their specs as hypotheses (`Params.Sound`): sympy's constructors (`Kernel.Sound`),
`simplify_logic` (`SimpSound`), `cse` (`CseSpec`).  Well-formedness of a list: `RetsNotRead` (return
symbols are outputs only; the front end never reads one) – for `merge_expressions` alone the weaker
`RetDisc` suffices.

Two listed defects (`known_findings.json`): `or2xorNoArity`, `cseHoistsOverBindings`.  With both
repaired the property is proved in full (`C04_full`); for every setting of the two flags, on every
run on which neither fires (`C04_partial`); each defect has a witness.

`Preserves`, `RetsNotRead`, `RetDisc`, `Kernel.Sound`, `SimpSound`, `CseSpec`, `Params.Sound` – the vocabulary of
`C04_statement` and of the theorems below – are defined in `QV/Proofs/Opt.lean`; so is `Good a b`, the conjunction
the `_sound` theorems spell out (each is the `_good` lemma of that module).
-/
namespace QV.C04
open QV QV.Opt

/-- the step list named by a table extracted from `bool_optimizer.py` -/
def stepsOf (ns : List String) : Option (List Step) := ns.mapM Step.ofName

/-- what "a shipped profile or a single step it is made of" ranges over -/
def shipped (steps : List Step) : Prop :=
  stepsOf Gen.defaultOptimizerSteps = some steps ∨ stepsOf Gen.fastOptimizerSteps = some steps ∨
  ∃ s, steps = [s] ∧ (some s ∈ Gen.defaultOptimizerSteps.map Step.ofName ∨
                       some s ∈ Gen.fastOptimizerSteps.map Step.ofName)

/-- The full property, for the library whose listed defects are `q`: for all parameters meeting
their specs, every shipped profile and every single step, every list whose return symbols are
outputs only: the result `Preserves` the list.  (`disableOr` is the extracted `DISABLE_OR`.) -/
def C04_statement (q : Quirks) : Prop :=
  ∀ (P : Params), P.Sound → P.q = q → P.disableOr = Gen.disableOr →
    ∀ steps, shipped steps → ∀ l, RetsNotRead l → Preserves l (applyProfile P steps l)

/-- `SympyTransformer.visit` with no override keeps meaning and symbols -/
theorem rebuild_sound {K : Kernel} (hK : K.Sound) (e : BExp) :
    (∀ ρ, (rebuild K e).eval ρ = e.eval ρ) ∧ (∀ s, s ∈ (rebuild K e).syms → s ∈ e.syms) :=
  rebuild_good hK e

/-- `remove_ITE` -/
theorem removeITE_sound {K : Kernel} (hK : K.Sound) (e : BExp) :
    (∀ ρ, (removeITE K e).eval ρ = e.eval ρ) ∧ (∀ s, s ∈ (removeITE K e).syms → s ∈ e.syms) :=
  removeITE_good hK e

/-- `remove_Implies` -/
theorem removeImplies_sound {K : Kernel} (hK : K.Sound) (e : BExp) :
    (∀ ρ, (removeImplies K e).eval ρ = e.eval ρ) ∧ (∀ s, s ∈ (removeImplies K e).syms → s ∈ e.syms) :=
  removeImplies_good hK e

/-- `transform_or2xor` with the arity test (repaired) -/
theorem or2xor_sound {K : Kernel} (hK : K.Sound) {q : Quirks} (hq : q.or2xorNoArity = false) (e : BExp) :
    (∀ ρ, (or2xor K q e).eval ρ = e.eval ρ) ∧ (∀ s, s ∈ (or2xor K q e).syms → s ∈ e.syms) :=
  or2xor_good hK hq e

/-- `transform_or2and`, for either value of `DISABLE_OR` -/
theorem or2and_sound {K : Kernel} (hK : K.Sound) (d : Bool) (e : BExp) :
    (∀ ρ, (or2and K d e).eval ρ = e.eval ρ) ∧ (∀ s, s ∈ (or2and K d e).syms → s ∈ e.syms) :=
  or2and_good hK d e

/-- `remove_obvious_expr` -/
theorem removeObvious_sound {K : Kernel} (hK : K.Sound) (e : BExp) :
    (∀ ρ, (removeObvious K e).eval ρ = e.eval ρ) ∧ (∀ s, s ∈ (removeObvious K e).syms → s ∈ e.syms) :=
  removeObvious_good hK e

/-- `custom_simplify_logic`, for every `simplify_logic` meeting its spec -/
theorem customSimplify_sound {K : Kernel} (hK : K.Sound) {simp : BExp → BExp} (hS : SimpSound simp) (e : BExp) :
    (∀ ρ, (csl K simp e).eval ρ = e.eval ρ) ∧ (∀ s, s ∈ (csl K simp e).syms → s ∈ e.syms) :=
  csl_good hK hS e

/-- a transformer step of `BoolOptimizerProfile.apply` (map over the list) keeps the value of
*every* symbol, for every list (shared and re-bound intermediates included) -/
theorem transformerStep_sound {f : BExp → BExp}
    (hf : ∀ e, (∀ ρ, (f e).eval ρ = e.eval ρ) ∧ (∀ s, s ∈ (f e).syms → s ∈ e.syms)) (l : Defs) :
    (∀ ρ, evalDefs ρ (mapDefs f l) = evalDefs ρ l) ∧ Preserves l (mapDefs f l) :=
  ⟨evalDefs_mapDefs hf l, mapDefs_preserves hf l⟩

/-- `merge_expressions`: lists with shared and re-bound intermediates; a return symbol may even be
read, as long as it is not bound again afterwards (`RetDisc`) -/
theorem merge_sound {K : Kernel} (hK : K.Sound) {simp : BExp → BExp} (hS : SimpSound simp) {l : Defs}
    (hD : RetDisc l) : Preserves l (mergeExpressions K simp l) :=
  merge_preserves hK hS hD

/-- after `merge_expressions` only return symbols are bound, in the original order -/
theorem merge_keeps_returns (K : Kernel) (simp : BExp → BExp) (l : Defs) :
    names (mergeExpressions K simp l) = retNames l :=
  names_mergeGo K simp l []

/-- `apply_cse` from the spec of the one `cse` call it makes: repaired (`cseHoistsOverBindings` off)
on every list; with the flag on, on every list that is flat and whose names avoid the generated ones
(`cseSafe`) -/
theorem cse_sound {q : Quirks} {cse : List BExp → Defs × List BExp} {l : Defs}
    (hspec : CseSpec (l.map (·.2)) (cse (l.map (·.2))))
    (hq : q.cseHoistsOverBindings = false ∨ cseSafe l (cse (l.map (·.2))).1 = true) :
    Preserves l (applyCse q cse l) :=
  applyCse_preserves hspec hq

/-- the per-expression simplify of `translate_ast` is the identity on the list (see the model) -/
theorem frontSimplify_sound (simp : BExp → BExp) (l : Defs) : Preserves l (frontSimplify simp l) :=
  Preserves.refl l

/-- every single step, both defects repaired -/
theorem step_sound {P : Params} (hP : P.Sound) (hq : Quirks.c04Repaired P.q) (s : Step) {l : Defs}
    (h : RetsNotRead l) : Preserves l (applyStep P s l) :=
  (applyStep_sound hP hq s h).1

/-- every step list built from the seven modelled steps, in any order and number -/
theorem profile_sound {P : Params} (hP : P.Sound) (hq : Quirks.c04Repaired P.q) (steps : List Step) {l : Defs}
    (h : RetsNotRead l) : Preserves l (applyProfile P steps l) :=
  (applyProfile_sound hP hq steps h).1

/-- the step lists written in `bool_optimizer.py` (regenerated from source on every run) consist of
modelled – hence proved – steps -/
theorem shipped_profiles_modelled :
    (stepsOf Gen.defaultOptimizerSteps).isSome = true ∧ (stepsOf Gen.fastOptimizerSteps).isSome = true := by
  decide

theorem C04_full : C04_statement Quirks.none := by
  intro P hP hq _ steps _ l hl
  exact profile_sound hP (by rw [hq]; exact ⟨rfl, rfl⟩) steps hl

/-- a run on which the model with defect flags `P.q` (arbitrary) takes, at every step, the step the
repaired model takes -/
def NoTrigger (P : Params) : List Step → Defs → Prop
  | [], _ => True
  | s :: ss, l => applyStep P s l = applyStep { P with q := Quirks.none } s l ∧ NoTrigger P ss (applyStep P s l)

theorem noTrigger_eq (P : Params) : ∀ (steps : List Step) (l : Defs), NoTrigger P steps l →
    applyProfile P steps l = applyProfile { P with q := Quirks.none } steps l
  | [], _, _ => rfl
  | s :: ss, l, h => by
      simp only [applyProfile]
      rw [noTrigger_eq P ss _ h.2, h.1]

/-- the property for every setting of the defect flags, on every run that does not meet a listed
defect -/
theorem C04_partial (P : Params) (hP : P.Sound) (steps : List Step) {l : Defs} (h : RetsNotRead l)
    (hT : NoTrigger P steps l) : Preserves l (applyProfile P steps l) := by
  rw [noTrigger_eq P steps l hT]
  exact profile_sound (P := { P with q := Quirks.none }) ⟨hP.kernel, hP.simp, hP.cse⟩ ⟨rfl, rfl⟩ steps h

/-- on two binary `And`s the test of `transform_or2xor` under any flags `q` is the test with
`or2xorNoArity` off: the flag is read for wider `And`s only -/
theorem or2xor_binary_quirk_free {K : Kernel} (q : Quirks) (a0 a1 b0 b1 : BExp) :
    or2xorCond K q a0 a1 b0 b1 2 2 = or2xorCond K { q with or2xorNoArity := false } a0 a1 b0 b1 2 2 := by
  simp [or2xorCond]

/-! ## hypotheses are satisfiable -/
example : Kernel.raw.Sound := Kernel.raw_sound
example : SimpSound id := fun e => Good.refl e
example : ∀ es, CseSpec es (([], es) : Defs × List BExp) := fun es =>
  ⟨rfl, fun _ => rfl, by simp [names], by simp [freeSyms], fun v h => Or.inl h⟩
example : Params.Sound ⟨Kernel.raw, Quirks.none, false, id, fun es => ([], es)⟩ :=
  ⟨Kernel.raw_sound, fun e => Good.refl e, fun es =>
    ⟨rfl, fun _ => rfl, by simp [names], by simp [freeSyms], fun v h => Or.inl h⟩⟩
example : RetsNotRead [("x", .and [.sym "a", .sym "b"]), ("x", .xor [.sym "x", .sym "c"]),
    ("_ret", .or [.sym "x", .sym "c"])] := by
  intro d hd v hv
  simp at hd
  rcases hd with rfl | rfl | rfl <;> simp [BExp.syms, symsList] at hv <;>
    (try rcases hv with rfl | rfl) <;> decide
example : shipped [Step.or2xor] := Or.inr (Or.inr ⟨_, rfl, Or.inl (by decide)⟩)

/-! ## witnesses of the listed defects (replayed on the real code on every run) -/

/-- `(a&b&c)|(~a&~b&~c)`, as sympy orders it -/
def or2xorWitness : Defs :=
  [("_ret", .or [.and [.sym "a", .sym "b", .sym "c"], .and [.not (.sym "a"), .not (.sym "b"), .not (.sym "c")]])]

/-- C04-or2xor-arity: the arity-blind rule rewrites it to `~(a^b)`, which differs at a=b=1, c=0 -/
theorem or2xor_witness :
    (mapDefs (or2xor Kernel.raw { or2xorNoArity := true }) or2xorWitness
      == [("_ret", .not (.xor [.sym "a", .sym "b"]))]) = true ∧
    evalDefs (envOf [("a", true), ("b", true)])
        (mapDefs (or2xor Kernel.raw { or2xorNoArity := true }) or2xorWitness) "_ret" = true ∧
    evalDefs (envOf [("a", true), ("b", true)]) or2xorWitness "_ret" = false ∧
    (mapDefs (or2xor Kernel.raw Quirks.none) or2xorWitness == or2xorWitness) = true := by
  decide

/-- `t = a&b; _ret.0 = (c^t)&d; _ret.1 = (c^t)|d` -/
def cseWitness : Defs :=
  [("t", .and [.sym "a", .sym "b"]), ("_ret.0", .and [.sym "d", .xor [.sym "c", .sym "t"]]),
   ("_ret.1", .or [.sym "d", .xor [.sym "c", .sym "t"]])]

/-- what `sympy.cse` returns on its right-hand sides -/
def cseWitnessCse : List BExp → Defs × List BExp := fun _ =>
  ([("x0", .xor [.sym "c", .sym "t"])],
   [.and [.sym "a", .sym "b"], .and [.sym "d", .sym "x0"], .or [.sym "d", .sym "x0"]])

/-- C04-cse-hoist: `x0 = c^t` is put before `t = a&b` and reads the *input* `t`; at a=b=d=1,
c=0, t=0 the original `_ret.0` is 1, the new one 0.  Repaired, the list is left alone. -/
theorem cse_witness :
    (applyCse { cseHoistsOverBindings := true } cseWitnessCse cseWitness
      == ("x0", .xor [.sym "c", .sym "t"]) ::
        [("t", .and [.sym "a", .sym "b"]), ("_ret.0", .and [.sym "d", .sym "x0"]),
         ("_ret.1", .or [.sym "d", .sym "x0"])]) = true ∧
    evalDefs (envOf [("a", true), ("b", true), ("d", true)])
        (applyCse { cseHoistsOverBindings := true } cseWitnessCse cseWitness) "_ret.0" = false ∧
    evalDefs (envOf [("a", true), ("b", true), ("d", true)]) cseWitness "_ret.0" = true ∧
    (applyCse Quirks.none cseWitnessCse cseWitness == cseWitness) = true := by
  decide

end QV.C04
