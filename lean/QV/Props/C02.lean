import QV.Proofs.CompilerFrag
import QV.Proofs.CompilerGenStmt
/-!
# C02 – The circuit computes the function's boolean expressions

Property: for every compiled function, every compiler and optimizer setting, and every
classical input, running the circuit on the basis state that holds the argument bits (all
other qubits zero) leaves on each output qubit exactly the value of the corresponding return
expression.  Every return bit is mapped to a qubit, with and without final uncomputation.

`C02_statement` below is the full property about the compiler model, which follows the compiler with the repairs of
the uncomputation protocol (`docs/fixes/CC-*.diff`; the findings they close are the `fixed` entries of
`known_findings.json`).  As stated it is false: a return name that is never bound; `b = a; a = Not(a)`, a finding
about the real compiler; model-only degenerate expressions.  What is proved (partial):

* `C02_general_partial` (end of the file) – the property on the general class, the cases above excluded by a
  decidable predicate.  Its class contains those of the fragment theorems before it (`C02_general_contains`).
* `validate_sound` – the per-instance validator used by the check is sound for *all* inputs.  The
  check runs it on the model's gate list, which the correspondence shows identical to the real
  compiler's.  This is translation validation by a proved-sound validator, per compiled
  instance, exhaustive over its inputs – not a theorem over all programs.
* structural theorems about every successful run of `compile` (`compile_gates_wellformed`, `compile_lhs_mapped` /
  `compile_rets_mapped`, `compile_inputs_first`, `compile_bookkeeping`).  They say nothing about the *values* on
  the qubits.
* semantic theorems on smaller decidable classes: `C02_fragment_partial`, `C02_fragment_consts`,
  `C02_fragment_named_wide` / `C02_fragment_named` / `C02_fragment_multi`, `C02_free_zero_invariant`.
-/
namespace QV.C02
open QV QV.Compiler

/-- what it means for a compiled circuit to compute the definitions' return bits -/
def Correct (gates : List AGate) (numQubits : Nat) (qmap : List (String × Nat))
    (inputs : List String) (defs : List (String × BExp)) (rets : List String) : Prop :=
  ∀ x : List Bool, x.length = inputs.length → ∀ r ∈ rets,
    ∃ q, dictGet? qmap r = some q ∧
      (runClassical gates (initState x numQubits)).getD q false = envOf (evalDefs defs (inputs.zip x)) r

/-- the full property, for the compiler model: every successful compilation is `Correct`
(for every admissible sequence of ancilla choices, with and without uncomputation) -/
def C02_statement : Prop :=
  ∀ (inputs : List String) (defs : List (String × BExp)) (rets : List String) (unc : Bool)
    (choices : List Nat) (s : CState),
    (compile inputs defs (some rets) unc).run { choices := choices } = .ok ((), s) →
    Correct s.qc.gates.toList s.qc.numQubits s.qc.qmap inputs defs rets

/-- soundness of the validator the check runs on every compiled instance -/
theorem validate_sound (gates : List AGate) (numQubits : Nat) (qmap : List (String × Nat))
    (inputs : List String) (defs : List (String × BExp)) (rets : List String)
    (h : validate gates numQubits qmap inputs defs rets = true) :
    Correct gates numQubits qmap inputs defs rets := by
  intro x hx r hr
  simp only [validate, Bool.and_eq_true, List.all_eq_true] at h
  have hc := h.2 x (mem_allBits' hx)
  simp only [checkOutputs, List.all_eq_true] at hc
  have := hc r hr
  cases hq : dictGet? qmap r with
  | none => simp [hq] at this
  | some q =>
    simp only [hq] at this
    exact ⟨q, rfl, by simpa using this⟩

/-- the validator rejects only incorrect or non-classical circuits -/
theorem validate_complete (gates : List AGate) (numQubits : Nat) (qmap : List (String × Nat))
    (inputs : List String) (defs : List (String × BExp)) (rets : List String)
    (hcl : allClassical gates = true) (h : Correct gates numQubits qmap inputs defs rets) :
    validate gates numQubits qmap inputs defs rets = true := by
  simp only [validate, Bool.and_eq_true, List.all_eq_true]
  refine ⟨hcl, fun x hx => ?_⟩
  simp only [checkOutputs, List.all_eq_true]
  intro r hr
  obtain ⟨q, hq, hv⟩ := h x (allBits_length hx) r hr
  simp only [hq, hv, beq_self_eq_true]

/-- step 3 of `compile`, `remove_identities`, keeps the classical action -/
theorem remove_identities_preserves (gs : List AGate)
    (hwf : ∀ g ∈ gs, g.wires.Nodup) (s : BState) :
    runClassical (removeIdentitiesList gs) s = runClassical gs s :=
  removeIdentitiesList_sound gs hwf s

theorem gate_involutive (g : AGate) (hn : g.wires.Nodup) (s : BState) :
    g.applyClassical (g.applyClassical s) = s :=
  applyClassical_involutive g hn s

/-- the principle behind `uncompute` -/
theorem reverse_replay_undoes (gs : List AGate) (h : ∀ g ∈ gs, g.wires.Nodup) (s : BState) :
    runClassical (gs ++ gs.reverse) s = s :=
  runClassical_reverse_undo gs h s

/-- non-vacuity: a Toffoli computing `_ret = a & b` passes the validator -/
example : validate [{ cls := .CCX, wires := [0, 1, 2] }] 3 [("a", 0), ("b", 1), ("_ret", 2)]
    ["a", "b"] [("_ret", .and [.sym "a", .sym "b"])] ["_ret"] = true := by decide

/-- regression witness of the repaired defect `C02-or-nary` (about the unrepaired compiler; a statement
about a fixed gate list, not about the model): the unrepaired `compile_or` compiles `_ret = v0 | v1 | v2`
to `CX,CX,CX,MCX`, which the validator rejects – it is wrong on input (1,1,0) -/
theorem or_nary_witness :
    validate [{ cls := .CX, wires := [0, 3] }, { cls := .CX, wires := [1, 3] }, { cls := .CX, wires := [2, 3] },
              { cls := .MCX 3, wires := [0, 1, 2, 3] }] 4 [("v0", 0), ("v1", 1), ("v2", 2), ("_ret", 3)]
      ["v0", "v1", "v2"] [("_ret", .or [.sym "v0", .sym "v1", .sym "v2"])] ["_ret"] = false := by decide

/-! ## Structural theorems about every run of `compile`

`(compile inputs defs ret unc).run { choices := cs } = .ok ((), s)` ranges over every successful
run of the compiler model: every program, with or without a return list, with or without final
uncomputation, for every sequence `cs` of popped ancillas (inadmissible sequences make the
model fail, so they are covered vacuously).  Proofs: `QV/Proofs/CompilerInv.lean`. -/

/-- (1) gates are well formed.  Every wire is strictly below `numQubits`: `QCircuit.append` itself only rejects
`> numQubits`, the strict bound comes from the invariant that every index the compiler stores anywhere is below
`numQubits`. -/
theorem compile_gates_wellformed (inputs : List String) (defs : List (String × BExp))
    (ret : Option (List String)) (unc : Bool) (cs : List Nat) (s : CState)
    (h : (compile inputs defs ret unc).run { choices := cs } = .ok ((), s)) :
    ∀ g ∈ s.qc.gates.toList, g.cls.isMCXLike = true ∧ g.wires.Nodup ∧
      (∀ w ∈ g.wires, w < s.qc.numQubits) ∧ g.wires.length = g.cls.nQubits :=
  (compile_ok h).1.gates_ok

/-- (1) in the form of the decidable predicate the check evaluates on every instance -/
theorem compile_wellFormed (inputs : List String) (defs : List (String × BExp))
    (ret : Option (List String)) (unc : Bool) (cs : List Nat) (s : CState)
    (h : (compile inputs defs ret unc).run { choices := cs } = .ok ((), s)) :
    wellFormed s.qc.gates.toList s.qc.numQubits = true ∧ allClassical s.qc.gates.toList = true := by
  have hw := compile_gates_wellformed inputs defs ret unc cs s h
  constructor
  · simp only [wellFormed, List.all_eq_true, Bool.and_eq_true, Bool.or_eq_true, decide_eq_true_eq,
      beq_iff_eq]
    intro g hg
    obtain ⟨h1, h2, h3, h4⟩ := hw g hg
    exact ⟨⟨⟨Or.inl h1, h2⟩, h3⟩, h4⟩
  · simp only [allClassical, List.all_eq_true, Bool.or_eq_true]
    exact fun g hg => Or.inl (hw g hg).1

/-- corollary of (1): on every compiled circuit `remove_identities` keeps the classical action -/
theorem compile_remove_identities_preserves (inputs : List String) (defs : List (String × BExp))
    (ret : Option (List String)) (unc : Bool) (cs : List Nat) (s : CState)
    (h : (compile inputs defs ret unc).run { choices := cs } = .ok ((), s)) (st : BState) :
    runClassical (removeIdentitiesList s.qc.gates.toList) st = runClassical s.qc.gates.toList st :=
  removeIdentitiesList_sound _ (fun g hg => (compile_gates_wellformed inputs defs ret unc cs s h g hg).2.1) st

/-- corollary of (1): replaying any compiled circuit in reverse undoes its classical action -/
theorem compile_reverse_replay_undoes (inputs : List String) (defs : List (String × BExp))
    (ret : Option (List String)) (unc : Bool) (cs : List Nat) (s : CState)
    (h : (compile inputs defs ret unc).run { choices := cs } = .ok ((), s)) (st : BState) :
    runClassical (s.qc.gates.toList ++ s.qc.gates.toList.reverse) st = st :=
  runClassical_reverse_undo _ (fun g hg => (compile_gates_wellformed inputs defs ret unc cs s h g hg).2.1) st

/-- (2) left-hand sides stay mapped.  Every left-hand symbol of the definition list that is
not a scratch name (an ancilla-shaped name `anc_…`, which `map_qubit` deletes when the ancilla it
names is promoted under another name and `get_free_ancilla` may bind again; temporaries `__x` are
names like any other since every named qubit is promoted) is a key of the final `qubit_map`, and
the qubit it names exists. -/
theorem compile_lhs_mapped (inputs : List String) (defs : List (String × BExp))
    (ret : Option (List String)) (unc : Bool) (cs : List Nat) (s : CState)
    (h : (compile inputs defs ret unc).run { choices := cs } = .ok ((), s)) :
    ∀ p ∈ defs, scratchName p.1 = false →
      ∃ q, dictGet? s.qc.qmap p.1 = some q ∧ q < s.qc.numQubits := by
  intro p hp hs
  obtain ⟨hg, _, hk, _, _⟩ := compile_ok h
  have := hk p hp hs
  cases hq : dictGet? s.qc.qmap p.1 with
  | none => rw [hq] at this; cases this
  | some q => exact ⟨q, rfl, hg.qmap_lt _ (dictGet?_mem hq)⟩

/-- what the front end guarantees about the return names: each is the left-hand side of a
definition and is not a scratch name -/
def retsDefined (defs : List (String × BExp)) (rets : List String) : Bool :=
  rets.all fun r => defs.any (·.1 == r) && !scratchName r

/-- (2') every return bit is mapped to a qubit, with and without final uncomputation -/
theorem compile_rets_mapped (inputs : List String) (defs : List (String × BExp))
    (rets : List String) (unc : Bool) (cs : List Nat) (s : CState)
    (h : (compile inputs defs (some rets) unc).run { choices := cs } = .ok ((), s))
    (hr : retsDefined defs rets = true) :
    ∀ r ∈ rets, ∃ q, dictGet? s.qc.qmap r = some q ∧ q < s.qc.numQubits := by
  intro r hrm
  simp only [retsDefined, List.all_eq_true, Bool.and_eq_true, List.any_eq_true, Bool.not_eq_true'] at hr
  obtain ⟨⟨p, hp, hpr⟩, hs⟩ := hr r hrm
  have hpr' : p.1 = r := by simpa using hpr
  subst hpr'
  exact compile_lhs_mapped inputs defs (some rets) unc cs s h p hp hs

/-- what the front end guarantees about the argument names: pairwise distinct, not reserved
(`TRUE`, `FALSE`, `anc_…`) and never re-bound by a definition -/
def inputsFresh (inputs : List String) (defs : List (String × BExp)) : Bool :=
  decide inputs.Nodup && inputs.all fun n => !reservedName n && !(defs.map (·.1)).contains n

/-- (3) inputs first.  The `i`-th argument is mapped to qubit `i` in the final `qubit_map`
(what `input_qubits` and the validators assume), and these qubits exist. -/
theorem compile_inputs_first (inputs : List String) (defs : List (String × BExp))
    (ret : Option (List String)) (unc : Bool) (cs : List Nat) (s : CState)
    (h : (compile inputs defs ret unc).run { choices := cs } = .ok ((), s))
    (hf : inputsFresh inputs defs = true) :
    inputs.length ≤ s.qc.numQubits ∧
    ∀ (i : Nat) (x : String), inputs[i]? = some x → dictGet? s.qc.qmap x = some i := by
  obtain ⟨_, hlen, _, hpos, _⟩ := compile_ok h
  simp only [inputsFresh, Bool.and_eq_true, decide_eq_true_eq, List.all_eq_true, Bool.not_eq_true',
    List.contains_eq_mem, decide_eq_false_iff_not] at hf
  exact ⟨hlen, hpos hf.1 (fun n hn => hf.2 n hn)⟩

/-- (4) bookkeeping that holds: every index stored in the ancilla set, the free set, the
marked set, the kept set (`kept_ancillas`) and the `qubit_map` is a qubit of the circuit; the
ancilla set is duplicate-free; a name mapped to a qubit that is still in the ancilla set is a
scratch name `anc_…` (so no left-hand side sits on an ancilla); no argument qubit (index below the
number of inputs) is ever in the ancilla, free, marked or kept set, so none is handed out as
scratch space. -/
theorem compile_bookkeeping (inputs : List String) (defs : List (String × BExp))
    (ret : Option (List String)) (unc : Bool) (cs : List Nat) (s : CState)
    (h : (compile inputs defs ret unc).run { choices := cs } = .ok ((), s)) :
    (∀ a ∈ s.qc.anc, a < s.qc.numQubits) ∧ (∀ a ∈ s.qc.free, a < s.qc.numQubits) ∧
    (∀ a ∈ s.qc.marked, a < s.qc.numQubits) ∧ (∀ p ∈ s.qc.qmap, p.2 < s.qc.numQubits) ∧
    s.qc.anc.Nodup ∧ (∀ p ∈ s.qc.qmap, p.2 ∈ s.qc.anc → scratchName p.1 = true) ∧
    (∀ a ∈ s.qc.anc, inputs.length ≤ a) ∧ (∀ a ∈ s.qc.free, inputs.length ≤ a) ∧
    (∀ a ∈ s.qc.marked, inputs.length ≤ a) ∧
    (∀ a ∈ s.qc.kept, a < s.qc.numQubits) ∧ (∀ a ∈ s.qc.kept, inputs.length ≤ a) :=
  have hg := (compile_ok h).1
  have hs := (compile_ok h).2.2.2.2
  ⟨hg.anc_lt, hg.free_lt, hg.marked_lt, hg.qmap_lt, hg.anc_nodup, hg.anc_named, hs.1, hs.2.1, hs.2.2.1,
   hg.kept_lt, hs.2.2.2⟩

/-- regression witness of the repaired defect `C02-temp-uncomputed-early`: the program on which the
unrepaired compiler left the free set holding the qubit the return bit is mapped to (the temporary
`__t` stayed an ancilla, was marked by its first reader and uncomputed): the repaired compiler promotes `__t`;
nothing is marked, freed or left in the ancilla set.  (`free ⊆ anc` is not an invariant of the *model*:
an `Xor` / `Or` without arguments – which sympy never builds – allocates an ancilla no gate targets;
`uncompute` frees it without evicting its cache entry, a later definition that is that expression
is then promoted out of the ancilla set while it sits in the free set.) -/
theorem temp_promoted_witness :
    (match (compile ["a", "b"] [("__t", .xor [.sym "a", .sym "b"]),
        ("__u", .xor [.not (.sym "__t"), .sym "a"]), ("_ret", .sym "__t")] (some ["_ret"]) false).run
        { choices := [2, 3] } with
      | .ok (_, s) => s.qc.anc == [] && s.qc.free == [] && s.qc.marked == [] &&
          dictGet? s.qc.qmap "_ret" == some 2 && dictGet? s.qc.qmap "__t" == some 2
      | .error _ => false) = true := by decide +kernel

/-- non-vacuity: a run of the model that uses two ancillas, promotes them (deleting their `anc_…`
names) and keeps the first for the final `uncompute_all` succeeds; its hypotheses `retsDefined` /
`inputsFresh` hold -/
example : ∃ s, (compile ["a", "b"] [("__t", .xor [.sym "a", .sym "b"]), ("_ret", .not (.sym "__t"))]
    (some ["_ret"]) true).run { choices := [2, 3] } = .ok ((), s) :=
  run_ok_of_toBool (by decide +kernel)

example : retsDefined [("__t", .xor [.sym "a", .sym "b"]), ("_ret", .not (.sym "__t"))] ["_ret"] = true := by
  decide +kernel

example : inputsFresh ["a", "b"] [("__t", .xor [.sym "a", .sym "b"]), ("_ret", .not (.sym "__t"))] = true := by
  decide +kernel

/-! ## Semantic fragment theorem (values on the qubits)

The class: a single definition `r = e` whose expression is built from the argument symbols with `Not` / `And` /
`Or` / `Xor` of any arity (symbols may repeat) and in which no compound sub-expression occurs twice.  There every
lookup in the expression cache misses and the free set is empty while `e` is compiled.
Proofs: `QV/Proofs/CompilerSem.lean`, `QV/Proofs/CompilerFrag.lean`. -/

/-- `Correct` for one definition whose return list names only it -/
theorem correct_single {gates : List AGate} {numQubits : Nat} {qmap : List (String × Nat)} {inputs : List String}
    {r : String} {e : BExp} {rets : List String} (hrets : ∀ r' ∈ rets, r' = r)
    (H : r ∈ rets → ∀ x : List Bool, x.length = inputs.length → ∃ q, dictGet? qmap r = some q ∧
      (runClassical gates (initState x numQubits)).getD q false = e.eval (envOf (inputs.zip x))) :
    Correct gates numQubits qmap inputs [(r, e)] rets := by
  intro x hx r' hr'
  obtain rfl := hrets r' hr'
  obtain ⟨q, hq, hv⟩ := H hr' x hx
  exact ⟨q, hq, by rw [hv]; simp [evalDefs, envOf]⟩

/-- C02 on the tree-like single-definition fragment, final uncomputation off or on, for every admissible
sequence of ancilla choices.  (With `unc = true` the final `uncompute_all` replays no gate whose target is the
kept return qubit; that the other qubits come back to zero is C03's matter and not claimed here.) -/
theorem C02_fragment_partial (inputs : List String) (defs : List (String × BExp)) (rets : List String)
    (unc : Bool) (choices : List Nat) (s : CState)
    (hf : inFragment inputs defs rets = true)
    (h : (compile inputs defs (some rets) unc).run { choices := choices } = .ok ((), s)) :
    Correct s.qc.gates.toList s.qc.numQubits s.qc.qmap inputs defs rets := by
  obtain ⟨r, e, rfl, hnd, hfr, hov, htl, hrets⟩ := inFragment_single hf
  exact correct_single hrets fun hr => compile_single_sem h (fun _ => hr) hnd hfr hov htl

/-- `compile_expr` in isolation, for every expression of the fragment compiled without a destination from a
state satisfying the invariant `Pre` (argument qubits hold the arguments, free set empty, …) -/
theorem C02_fragment_expr (inputs : List String) (ρ : Env) (σ0 : FState) (r : String)
    (amb : Amb inputs σ0 r) (e : BExp) (hov : overInputs inputs e = true) (htl : treeLike e = true)
    (hns : isSym e = false) (sym : Option String) (hsym : ∀ x, sym = some x → x = r)
    (a : Nat) (s s' : CState)
    (h : (compileExpr e none sym).run s = .ok (a, s')) (hp : Pre inputs ρ σ0 s)
    (hcache : s.expq = []) :
    cur σ0 s' a = e.eval ρ ∧ ∀ q, q < s.qc.numQubits → cur σ0 s' q = cur σ0 s q := by
  obtain ⟨sem, hv, _⟩ := exprSem (ρ := ρ) amb e hov (distinctB_iff.mp htl) none sym h hp
    (by intro p hp'; rw [hcache] at hp'; cases hp') (by intro d hd; cases hd) hsym
    (by intro hs; rw [hns] at hs; cases hs)
  exact ⟨(hv rfl).2, fun q hq => sem.frame q hq (fun hd => by cases hd)⟩

/-- an instance of the class (n-ary `Or`, nested `And` / `Xor` / `Not`, repeated variables) -/
example : inFragment ["a", "b", "c"]
    [("_ret", .or [.and [.sym "a", .not (.sym "b")],
                   .xor [.sym "c", .not (.and [.sym "a", .sym "c"])], .sym "b"])] ["_ret"] = true := by
  decide +kernel

/-- not in the class: `a & b` occurs twice (the second occurrence is a cache hit) -/
example : inFragment ["a", "b"]
    [("_ret", .xor [.and [.sym "a", .sym "b"], .not (.and [.sym "a", .sym "b"])])] ["_ret"] = false := by
  decide +kernel

/-- non-vacuity of `C02_fragment_partial`: a program of the class with a successful run -/
example : inFragment ["a", "b", "c"]
      [("_ret", .xor [.not (.sym "a"), .sym "b", .not (.xor [.sym "c", .not (.sym "b")])])] ["_ret"] = true ∧
    ∃ s, (compile ["a", "b", "c"]
      [("_ret", .xor [.not (.sym "a"), .sym "b", .not (.xor [.sym "c", .not (.sym "b")])])]
      (some ["_ret"]) false).run { choices := [3, 4] } = .ok ((), s) :=
  ⟨by decide +kernel, run_ok_of_toBool (by decide +kernel)⟩

/-- the same program, final uncomputation on -/
example : ∃ s, (compile ["a", "b", "c"]
      [("_ret", .xor [.not (.sym "a"), .sym "b", .not (.xor [.sym "c", .not (.sym "b")])])]
      (some ["_ret"]) true).run { choices := [3, 4] } = .ok ((), s) :=
  run_ok_of_toBool (by decide +kernel)

/-! ## Widened semantic fragment theorems

The classes are lettered as in `QV/Model/Compiler.lean`: (a) one definition with constants, (b) several
independent return bits, (c) straight-line lists with named intermediates; (b) is stated after (c) because it is
a corollary of it.
Proofs: `QV/Proofs/CompilerSem2a…d.lean` (the expression level) and `QV/Proofs/CompilerSem2.lean` (the two ends of
a statement).  The or-chain of the repaired `compile_or` writes only new marked ancillas and the destination.  The
unrepaired compiler flips argument qubits there (De Morgan) and does not replay the flips, so a freed ancilla is
not zero (`docs/notes/C02_C03_C06.md`): that is the restriction on `Or` which `wfExp` / `slDefs` /
`inFragmentNamed` carry and `wfExpW` / `slDefsW` / `inFragmentNamedW` do not.  With final uncomputation on,
`uncompute_all` appends no gate whose target is the qubit of a requested return bit, so the values proved for the
statement loop survive it. -/

/-- (a) constants.  C02 on single definitions whose expression may contain `True` / `False` (anywhere
except directly, or under one `Not`, as an argument of `Xor`), including `r = True` / `r = False`; final
uncomputation on or off; every admissible sequence of ancilla choices.  The class contains `inFragment`
whenever the defined name is not `TRUE` / `FALSE`. -/
theorem C02_fragment_consts (inputs : List String) (defs : List (String × BExp)) (rets : List String)
    (unc : Bool) (choices : List Nat) (s : CState)
    (hf : inFragmentConst inputs defs rets = true)
    (h : (compile inputs defs (some rets) unc).run { choices := choices } = .ok ((), s)) :
    Correct s.qc.gates.toList s.qc.numQubits s.qc.qmap inputs defs rets := by
  obtain ⟨r, e, rfl, hnd, hfr, hrT, hwf, hdist, hrets⟩ := inFragmentConst_single hf
  exact correct_single hrets fun hr =>
    compile_const_sem h (fun _ => hr) hnd hfr hrT (wfExpW_of_wfExp e hwf) hdist

/-- (c) named intermediates, on the class of the repaired compiler.  C02 on straight-line definition lists
(`m0 = e0; …; _ret = f(m0, args)`; every right-hand side reads arguments and earlier left-hand sides, any number
of times; constants allowed as in (a); no cache key twice in the whole list; `Or` / `And` / `Xor` of any arity
over symbols, constants and compound expressions, `Or` / `Xor` not empty), final uncomputation on or off,
every admissible sequence of ancilla choices – including the runs in which ancillas freed by the inline
`uncompute` after one definition are re-used by later ones, and (uncomputation on) the runs in which the
ancillas of a definition that is not a requested return bit are kept for the final `uncompute_all`.
This proof does not go through the general invariant but through the straight-line one of `CompilerSem2*.lean`,
in which every cache lookup misses. -/
theorem C02_fragment_named_wide (inputs : List String) (defs : List (String × BExp)) (rets : List String)
    (unc : Bool) (choices : List Nat) (s : CState)
    (hf : inFragmentNamedW inputs defs rets = true)
    (h : (compile inputs defs (some rets) unc).run { choices := choices } = .ok ((), s)) :
    Correct s.qc.gates.toList s.qc.numQubits s.qc.qmap inputs defs rets := by
  obtain ⟨hnd, hfr, hsl, hdist, hrets⟩ := inFragmentNamedW_parts hf
  exact fun x hx r hr => compile_named_sem h hnd hfr hsl hdist x hx r (hrets r hr) (fun _ => hr)

/-- (c) named intermediates, on the class `inFragmentNamed` the driver reports (every `Or` with one or two
arguments or only compound ones – the restriction the unrepaired compiler needed; a sub-class of
`C02_fragment_named_wide`), final uncomputation on or off. -/
theorem C02_fragment_named (inputs : List String) (defs : List (String × BExp)) (rets : List String)
    (unc : Bool) (choices : List Nat) (s : CState)
    (hf : inFragmentNamed inputs defs rets = true)
    (h : (compile inputs defs (some rets) unc).run { choices := choices } = .ok ((), s)) :
    Correct s.qc.gates.toList s.qc.numQubits s.qc.qmap inputs defs rets :=
  C02_fragment_named_wide inputs defs rets unc choices s (inFragmentNamedW_of_inFragmentNamed hf) h

/-- (b) several return bits.  C02 on definition lists `_ret.0 = e0; _ret.1 = e1; …` in which every
right-hand side is an independent tree over the arguments alone (a sub-class of (c)), final uncomputation on
or off. -/
theorem C02_fragment_multi (inputs : List String) (defs : List (String × BExp)) (rets : List String)
    (unc : Bool) (choices : List Nat) (s : CState)
    (hf : inFragmentMulti inputs defs rets = true)
    (h : (compile inputs defs (some rets) unc).run { choices := choices } = .ok ((), s)) :
    Correct s.qc.gates.toList s.qc.numQubits s.qc.qmap inputs defs rets := by
  simp only [inFragmentMulti, Bool.and_eq_true] at hf
  exact C02_fragment_named inputs defs rets unc choices s hf.1 h

/-- the step (b)/(c) rest on, in isolation: "free ⇒ zero" is an invariant of the statement loop on the
class, for every return list (`retBits = none`: the decompiler's call) and uncompute flag – if every qubit of
the scratch space (free set and not yet allocated qubits) is zero before a straight-line definition list is
compiled (invariant `Inv`), it is so afterwards -/
theorem C02_free_zero_invariant (retBits : Option (List String)) (doUncompute : Bool)
    (defs : List (String × BExp)) (scope : List String)
    (env : List (String × Bool)) (done : List BExp) (σ0 : FState) (s s' : CState)
    (h : (compileDefs retBits doUncompute defs).run s = .ok ((), s')) (hinv : Inv scope (envOf env) σ0 done s)
    (hsl : slDefsW scope defs = true) (hd : distinctB (done ++ defs.flatMap (fun p => compKeys p.2)) = true) :
    ∀ q, q ∈ s'.qc.free → cur σ0 s' q = false := by
  obtain ⟨scope', done', hfin, _, _⟩ := defs_sem defs scope env done h hinv hsl (distinctB_iff.mp hd)
  exact fun q hq => hfin.pre.zero q (Or.inl hq)

/-- instances of the three classes -/
example : inFragmentConst ["a", "b", "c"]
    [("_ret", .or [.and [.sym "a", .tt], .not .ff, .xor [.sym "b", .and [.sym "c", .ff], .not (.not .tt)]])]
    ["_ret"] = true := by decide +kernel

example : inFragmentConst ["a"] [("_ret", .tt)] ["_ret"] = true := by decide +kernel

/-- not in class (a): a constant directly under `Xor` (`compile_xor` would accumulate into the constant's qubit) -/
example : inFragmentConst ["a"] [("_ret", .xor [.sym "a", .tt])] ["_ret"] = false := by decide +kernel

example : inFragmentMulti ["a", "b", "c"]
    [("_ret.0", .or [.and [.sym "a", .sym "b"], .sym "c"]),
     ("_ret.1", .and [.not (.sym "a"), .xor [.sym "b", .sym "c"]])] ["_ret.0", "_ret.1"] = true := by
  decide +kernel

example : inFragmentNamed ["a", "b", "c"]
    [("m0", .and [.sym "a", .sym "b"]), ("_ret", .xor [.sym "m0", .or [.sym "c", .not (.sym "m0")]])]
    ["_ret"] = true := by decide +kernel

/-- not in the classes (b)/(c) the driver reports, but in the class of `C02_fragment_named_wide`: `Or` of three
arguments with symbols among them, below an `And` (with the unrepaired compiler the ancilla of the `Or` was
freed non-zero by the inline `uncompute`: De Morgan's `X` gates on `a`, `b` were not replayed) -/
example : inFragmentNamed ["a", "b", "c", "d"]
    [("_ret.0", .and [.or [.sym "a", .sym "b", .sym "c"], .sym "d"]), ("_ret.1", .and [.sym "a", .sym "d"])]
    ["_ret.0", "_ret.1"] = false ∧
  inFragmentNamedW ["a", "b", "c", "d"]
    [("_ret.0", .and [.or [.sym "a", .sym "b", .sym "c"], .sym "d"]), ("_ret.1", .and [.sym "a", .sym "d"])]
    ["_ret.0", "_ret.1"] = true := by decide +kernel

/-- the same with a compound argument list is in the class -/
example : inFragmentNamed ["a", "b", "c", "d"]
    [("_ret.0", .and [.or [.not (.sym "a"), .and [.sym "b", .sym "c"], .xor [.sym "c", .sym "d"]], .sym "d"]),
     ("_ret.1", .and [.sym "a", .sym "d"])] ["_ret.0", "_ret.1"] = true := by decide +kernel

/-- non-vacuity: programs of the classes with successful runs of the model (kernel-evaluated; programs with
`And` / `Or`, whose runs re-use freed ancillas, are exercised through the driver – `List.mergeSort` does not
evaluate in the kernel; `Props/C15.lean` runs such programs after rewriting with `EndToEnd.sortNat_eq`) -/
example : ∃ s, (compile ["a"] [("_ret", .xor [.sym "a", .not (.not .tt)])] (some ["_ret"]) true).run
    { choices := [1] } = .ok ((), s) :=
  run_ok_of_toBool (by decide +kernel)

example : ∃ s, (compile ["a", "b", "c"]
      [("m0", .xor [.sym "a", .sym "b"]), ("_ret", .xor [.sym "m0", .not (.sym "c")])]
      (some ["_ret"]) false).run { choices := [3, 4] } = .ok ((), s) :=
  run_ok_of_toBool (by decide +kernel)

/-- the same program with final uncomputation on: `m0` is not a requested return bit, the ancillas in use after
its statement are kept (`keep_ancillas`) for the final `uncompute_all` -/
example : ∃ s, (compile ["a", "b", "c"]
      [("m0", .xor [.sym "a", .sym "b"]), ("_ret", .xor [.sym "m0", .not (.sym "c")])]
      (some ["_ret"]) true).run { choices := [3, 4] } = .ok ((), s) :=
  run_ok_of_toBool (by decide +kernel)

example : ∃ s, (compile ["a", "b", "c"]
      [("_ret.0", .xor [.sym "a", .sym "b"]), ("_ret.1", .not (.xor [.sym "b", .sym "c"]))]
      (some ["_ret.0", "_ret.1"]) false).run { choices := [3, 4] } = .ok ((), s) :=
  run_ok_of_toBool (by decide +kernel)

/-! ## The general class: cache hits, shared sub-expressions across statements, re-binding

Proofs: `QV/Proofs/CompilerGenInv.lean`, `CompilerGenExpr.lean`, `CompilerGenStmt.lean`: a state invariant over the
whole compilation (`GI` inside a statement, `BI` between statements; both described at the head of their modules)
is kept by every branch of `compile_expr` – step 3 "the expression is cached" included – and by both ends of a
statement. -/

/-- C02 on the general class (`inGeneralClass` = `inGeneral` ∨ the two single-definition classes): argument
names distinct and not reserved; every left-hand side not reserved – it MAY be an argument or an earlier
left-hand side (re-binding); every right-hand side built from arguments / earlier left-hand sides / constants with
`Not` / `And` / `Or` / `Xor` of any arity and ANY sharing: the same compound sub-expression may occur any number of
times inside a definition and across definitions (cache hits, also on ancillas kept for the final
`uncompute_all`); several return bits; every requested return name is an argument or a left-hand side; final
uncomputation on or off; every admissible sequence of ancilla choices (re-use of released ancillas included).

What is NOT covered, i.e. what separates this from `C02_statement` (which is FALSE as stated, see
`docs/notes/C02_C03_C06.md`):
* the in-place self-negation `r = Not(r)` (`selfNot`): the compiler flips the qubit of `r`; after an alias
  `b = r` the name `b` shares that qubit and changes with it – `[b = a; a = Not(a); _ret = b]` is compiled wrongly
  by the real compiler (finding, confirmed on `to_quantum`);
* reserved names (`TRUE`, `FALSE`, `anc_…`) as arguments or left-hand sides, repeated argument names, a return
  name that is never bound (the circuit has no such qubit);
* `Or` / `Xor` without arguments and a constant directly under `Xor` (neither can reach the compiler: sympy does
  not build the former, `_symplify_exp` removes the latter); `ITE` / `Implies` (rejected by the compiler). -/
theorem C02_general_partial (inputs : List String) (defs : List (String × BExp)) (rets : List String)
    (unc : Bool) (choices : List Nat) (s : CState)
    (hf : inGeneralClass inputs defs rets = true)
    (h : (compile inputs defs (some rets) unc).run { choices := choices } = .ok ((), s)) :
    Correct s.qc.gates.toList s.qc.numQubits s.qc.qmap inputs defs rets := by
  simp only [inGeneralClass, Bool.or_eq_true] at hf
  rcases hf with (hf | hf) | hf
  · obtain ⟨hnd, hfr, hgen, hrets⟩ := inGeneral_parts hf
    intro x hx r hr
    exact compile_general_sem h hnd hfr hgen x hx r (hrets r hr) (fun _ => hr)
  · exact C02_fragment_partial inputs defs rets unc choices s hf h
  · exact C02_fragment_consts inputs defs rets unc choices s hf h

/-- the class of `C02_general_partial` contains the class of every fragment theorem above -/
theorem C02_general_contains (inputs : List String) (defs : List (String × BExp)) (rets : List String) :
    (inFragment inputs defs rets = true → inGeneralClass inputs defs rets = true) ∧
    (inFragmentConst inputs defs rets = true → inGeneralClass inputs defs rets = true) ∧
    (inFragmentNamedW inputs defs rets = true → inGeneralClass inputs defs rets = true) ∧
    (inFragmentNamed inputs defs rets = true → inGeneralClass inputs defs rets = true) ∧
    (inFragmentMulti inputs defs rets = true → inGeneralClass inputs defs rets = true) := by
  have hW : inFragmentNamedW inputs defs rets = true → inGeneralClass inputs defs rets = true := by
    intro h
    simp only [inGeneralClass, Bool.or_eq_true]
    exact Or.inl (Or.inl (inGeneral_of_inFragmentNamedW h))
  refine ⟨fun h => ?_, fun h => ?_, hW, fun h => hW (inFragmentNamedW_of_inFragmentNamed h), fun h => ?_⟩
  · simp only [inGeneralClass, Bool.or_eq_true]; exact Or.inl (Or.inr h)
  · simp only [inGeneralClass, Bool.or_eq_true]; exact Or.inr h
  · simp only [inFragmentMulti, Bool.and_eq_true] at h
    exact hW (inFragmentNamedW_of_inFragmentNamed h.1)

/-- an instance of the general class that is in none of the fragment classes: `a & b` is computed for `m` (an
intermediate that is not a return bit: with final uncomputation on its ancillas are kept), found in the cache by
`_ret.0` (accumulated into an `Xor`) and by `_ret.1` (as an argument of `Or`); `m` is read twice; `t` is defined
twice (re-binding evicts `Not(t)`'s cache entry) -/
example : inGeneral ["a", "b", "c"]
    [("m", .or [.and [.sym "a", .sym "b"], .sym "c"]),
     ("t", .not (.sym "m")),
     ("_ret.0", .xor [.and [.sym "a", .sym "b"], .sym "m", .not (.sym "t")]),
     ("t", .and [.sym "t", .sym "c"]),
     ("_ret.1", .or [.and [.sym "a", .sym "b"], .not (.sym "t")])] ["_ret.0", "_ret.1"] = true ∧
  inAnyFragment ["a", "b", "c"]
    [("m", .or [.and [.sym "a", .sym "b"], .sym "c"]),
     ("t", .not (.sym "m")),
     ("_ret.0", .xor [.and [.sym "a", .sym "b"], .sym "m", .not (.sym "t")]),
     ("t", .and [.sym "t", .sym "c"]),
     ("_ret.1", .or [.and [.sym "a", .sym "b"], .not (.sym "t")])] ["_ret.0", "_ret.1"] true = false := by
  decide +kernel

/-- non-vacuity of `C02_general_partial` on a program outside every fragment class (kernel-evaluated): `t` is
defined twice (the second definition reads the first), final uncomputation on, the ancillas of `t` are kept.
Programs with `And` / `Or` – the ones whose runs have cache hits across statements, like the instance above –
are exercised through the driver in every check run (`in_general_cache_hit` in `evidence/C02.json`):
`List.mergeSort` (`sortNat`) does not evaluate in the kernel. -/
example : inGeneral ["a", "b", "c"]
      [("t", .xor [.sym "a", .sym "b"]), ("t", .xor [.sym "t", .not (.sym "c")]), ("_ret", .not (.sym "t"))]
      ["_ret"] = true ∧
    inFragmentNamedW ["a", "b", "c"]
      [("t", .xor [.sym "a", .sym "b"]), ("t", .xor [.sym "t", .not (.sym "c")]), ("_ret", .not (.sym "t"))]
      ["_ret"] = false ∧
    ∃ s, (compile ["a", "b", "c"]
      [("t", .xor [.sym "a", .sym "b"]), ("t", .xor [.sym "t", .not (.sym "c")]), ("_ret", .not (.sym "t"))]
      (some ["_ret"]) true).run { choices := [3, 4, 5] } = .ok ((), s) :=
  ⟨by decide +kernel, by decide +kernel, run_ok_of_toBool (by decide +kernel)⟩

/-- not in the general class: the in-place self-negation (after the alias `b = a` the compiler is wrong) -/
example : inGeneral ["a"] [("b", .sym "a"), ("a", .not (.sym "a")), ("_ret", .sym "b")] ["_ret"] = false := by
  decide +kernel

end QV.C02
