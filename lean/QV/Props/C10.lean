import QV.Proofs.Api
/-!
# C10 – Compilation is pure: no dependence on, or damage to, earlier work

"The expressions and circuit obtained for a source text are the same whatever was compiled, bound,
composed, exported, decompiled or wrapped in an algorithm earlier in the process, including
functions with the same or clashing names.  None of these operations changes the observable state
of objects passed to them (a function used as a definition, as an oracle or as an algorithm's black
box still has the same name, expressions, circuit and qubit lists afterwards) or breaks later calls
of the library."

Model: `QV/Model/Api.lean` – the public API as a state machine `step : ApiState → Op → ApiState ×
Result` over an explicit heap (objects, the namespace of the module `qlasskit.qlassfun`, the mutable
default arguments); compilation itself is an opaque pure function `K`.  The theorems hold for every
pool of programs `P`, every compile oracle `K`, every state and every history.
-/
namespace QV.C10
open QV QV.Api

/-- The full property on the model with quirks `q`: along every history from every state,
(1) no operation changes the fingerprint of an object that already exists (so every argument is
unchanged and every object stays what it was when it was made), (2) the module namespace and the
default arguments are never written, and (3) what an operation returns – its status and the
fingerprint of the new object – is determined by the operation and its argument objects alone
(which by (1) still have the fingerprints they were made with): nothing else in the state – other
objects, what was compiled before, the module namespace, the defaults – has any influence, hence the
same after any history as in a fresh interpreter. -/
def C10_statement_for (q : Quirks) : Prop :=
  ∀ (P : Pool) (K : Oracle),
    (∀ (s : ApiState) (ops : List Op) (r : Nat), r < s.objs.length →
        fingerprint q P (run q P K s ops) r = fingerprint q P s r) ∧
    (∀ (s : ApiState) (ops : List Op),
        (run q P K s ops).ns = s.ns ∧ (run q P K s ops).defaults = s.defaults) ∧
    (∀ (s s' : ApiState) (op : Op),
        (∀ r ∈ op.refs, s.objs.getD r .dead = s'.objs.getD r .dead) →
        (step q P K s op).2 = (step q P K s' op).2 ∧
        fingerprint q P (step q P K s op).1 s.objs.length =
          fingerprint q P (step q P K s' op).1 s'.objs.length)

/-- the property of the repaired library -/
def C10_statement : Prop := C10_statement_for Quirks.none

/-- no operation changes the fingerprint of an object that already exists -/
theorem frame (P : Pool) (K : Oracle) (s : ApiState) (op : Op) (r : Nat) (hr : r < s.objs.length) :
    fingerprint Quirks.none P (step Quirks.none P K s op).1 r = fingerprint Quirks.none P s r :=
  (step_keeps P K s op).fp r hr

/-- whatever is compiled, bound, oraclized, wrapped in an algorithm, exported,
decompiled … later, an object keeps its fingerprint -/
theorem frame_run (P : Pool) (K : Oracle) (ops : List Op) :
    ∀ (s : ApiState) (r : Nat), r < s.objs.length →
      fingerprint Quirks.none P (run Quirks.none P K s ops) r = fingerprint Quirks.none P s r :=
  fun s => (run_keeps P K ops s).fp

/-- later calls are not broken: no operation writes the namespace of the library module
or a default argument (from `ApiState.init`: the namespace stays pristine and the defaults empty) -/
theorem later_calls_ok (P : Pool) (K : Oracle) (ops : List Op) :
    ∀ s : ApiState, (run Quirks.none P K s ops).ns = s.ns ∧ (run Quirks.none P K s ops).defaults = s.defaults :=
  fun s => ⟨(run_keeps P K ops s).ns, (run_keeps P K ops s).defaults⟩

example : (run Quirks.none [] (fun _ => none) ApiState.init [.secretOracle 2 1, .grover 0 none 1]).ns = [] :=
  (later_calls_ok [] (fun _ => none) [.secretOracle 2 1, .grover 0 none 1] ApiState.init).1

/-- status and new object of an operation are determined by the
operation and its argument objects alone -/
theorem history_free (P : Pool) (K : Oracle) (s s' : ApiState) (op : Op)
    (h : ∀ r ∈ op.refs, s.objs.getD r .dead = s'.objs.getD r .dead) :
    (step Quirks.none P K s op).2 = (step Quirks.none P K s' op).2 ∧
    fingerprint Quirks.none P (step Quirks.none P K s op).1 s.objs.length =
      fingerprint Quirks.none P (step Quirks.none P K s' op).1 s'.objs.length := by
  obtain ⟨o, res, hc⟩ := close_eq (stepCore Quirks.none P K s' op).2
  rw [step_none P K s s' op h, step_none P K s' s' op (fun _ _ => rfl), hc, hc, ← touch_length s op,
    ← touch_length s' op, fingerprint_snoc, fingerprint_snoc]
  exact ⟨rfl, fp_none_ns ..⟩

theorem C10_full : C10_statement :=
  fun P K => ⟨fun s ops r hr => frame_run P K ops s r hr, fun s ops => later_calls_ok P K ops s,
    fun s s' op h => history_free P K s s' op h⟩

/-! ## the library with a listed defect present: one witness per quirk flag

Each witness switches one flag on (`Quirks.ofList [flag]`) and evaluates a concrete history.
A tiny pool and compile oracle: program 0 = `def g(a: Qint[2]) -> bool` (2+1 qubits + ancilla),
program 1 = `def oracle(...)`, program 2 = `def copy(a: bool) -> bool`, program 3 = `def h(a) =
g(a)` (needs `defs=[g]`), program 4 = `def f(a: bool) -> bool`, program 5 = another `def g`,
program 6 = `def pk(a, k: Parameter[Qint[2]]) = g(a + k)` (unbound, needs `defs=[g]`), program 7 =
`def Qint(a: bool) -> bool`, program 8 = `def pc(a: Qint[2], p: Parameter[bool]) = Qint(a[0]) ^ p`. -/

def wPool : Pool :=
  [{ name := "g" }, { name := "oracle" }, { name := "copy" }, { name := "h", callees := ["g"] }, { name := "f" },
   { name := "g" }, { name := "pk", callees := ["g"], params := true }, { name := "Qint" },
   { name := "pc", callees := ["Qint"], annots := ["Qint"], params := true }]

def wCirc : Circ :=
  { cname := "g", nq := 4, gates := [{ name := "MCX|CCX", wires := [0, 1, 3] }],
    qmap := [("a.0", 0), ("a.1", 1), ("anc_0", 2), ("_ret", 3)] }

def wCompiled (sig : String) : Compiled :=
  { sig := sig, argT := "Qint2", arg0 := 2, nargs := 1, nIn := 2, retBits := ["_ret"], retBool := true, circ := wCirc }

-- keys as `stepCore` builds them: program `P<i>` / bind `B<i>|<kwargs>` / oraclize `O<callee>|<elem>`, then
-- `defKey` = `|name#sig` of each definition
def wK : Oracle := fun key =>
  if key == "P0" then some (some (wCompiled "s0"))
  else if key == "P1" then some (some (wCompiled "s1"))
  else if key == "P2" then some (some (wCompiled "s2"))
  else if key == "P4" then some (some (wCompiled "s4"))
  else if key == "P5" then some (some (wCompiled "s5"))
  else if key == "P3|g#s0" then some (some (wCompiled "s3"))
  else if key == "O_oracle|2|_oracle#s1" then some (some (wCompiled "so"))
  else if key == "P7" then some (some (wCompiled "s7"))
  else if key == "B6|k=1|g#s0" then some (some (wCompiled "b1"))
  else if key == "B6|k=2|g#s0" then some (some (wCompiled "b2"))
  else none

def nqOf : Fp → Nat
  | .qf f => f.info.circ.nq
  | _ => 0

def nameOf : Fp → String
  | .qf f => f.name
  | _ => ""

def isNotCallable : Fp → Bool
  | .qf { orig := .notCallable, .. } => true
  | _ => false

/-- first callee of `original_f`: which program it resolves to -/
def calleeOf : Fp → Option Src
  | .qf { orig := .node _ (.node s _ :: _), .. } => some s
  | _ => none

/-- the first callee of `original_f` is a free name that nothing provides -/
def calleeMissing : Fp → Bool
  | .qf { orig := .node _ (.missing _ :: _), .. } => true
  | _ => false

def sigOf : Fp → String
  | .qf f => f.info.sig
  | _ => ""

/-- `Grover(g)` changes `g`: its circuit has one more qubit afterwards (and yet another one after a
second `Grover(g)`) – the frame property fails for the model with `groverMutatesOracle` on -/
theorem grover_mutates_oracle_witness :
    let q := Quirks.ofList ["groverMutatesOracle"]
    let s1 := run q wPool wK ApiState.init [.compile 0 [] false]
    nqOf (fingerprint q wPool s1 0) = 4 ∧
    nqOf (fingerprint q wPool (step q wPool wK s1 (.grover 0 none 1)).1 0) = 5 ∧
    nqOf (fingerprint q wPool (run q wPool wK s1 [.grover 0 none 1, .grover 0 none 1]) 0) = 6 := by
  decide +kernel

/-- `oraclize(qf, 2)` renames a `qf` that is called `oracle` -/
theorem oraclize_renames_witness :
    let q := Quirks.ofList ["oraclizeRenames"]
    let s1 := run q wPool wK ApiState.init [.compile 1 [] false]
    nameOf (fingerprint q wPool s1 0) = "oracle" ∧
    nameOf (fingerprint q wPool (step q wPool wK s1 (.oraclize 0 "2")).1 0) = "_oracle" := by
  decide +kernel

/-- after a user function called `copy` was compiled, `qlassf(h, defs=[g])` raises although the same
call succeeds in a fresh interpreter – the result depends on the history -/
theorem exec_into_module_globals_witness :
    let q := Quirks.ofList ["execIntoModuleGlobals"]
    (step q wPool wK (run q wPool wK ApiState.init [.compile 0 [] false]) (.compile 3 [0] false)).2 = .ok ∧
    (step q wPool wK (run q wPool wK ApiState.init [.compile 2 [] false, .compile 0 [] false])
        (.compile 3 [1] false)).2 = .raised := by
  decide +kernel

/-- `original_f` of a caller follows the module namespace: compiling another `g` later changes what
`h.original_f` calls -/
theorem exec_rebinds_callee_witness :
    let q := Quirks.ofList ["execIntoModuleGlobals"]
    let s2 := run q wPool wK ApiState.init [.compile 0 [] false, .compile 3 [0] false]
    calleeOf (fingerprint q wPool s2 1) = some (.pool 0) ∧
    calleeOf (fingerprint q wPool (step q wPool wK s2 (.compile 5 [] false)).1 1) = some (.pool 5) := by
  decide +kernel

/-- a source function called like a local of `from_function` – for every name in the list that
is read from the current source on every run (`f`, `types`, `defs`, … as long as `eval(name)` is
there; empty once it is gone): `original_f` is not a function, while in the repaired model it is -/
theorem eval_sees_locals_witness :
    ∀ n ∈ Gen.fromFunctionLocalsAtEval,
      let q := Quirks.ofList ["evalSeesLocals"]
      let P : Pool := [{ name := n }]
      isNotCallable (fingerprint q P (run q P wK ApiState.init [.compile 0 [] false]) 0) = true ∧
      isNotCallable (fingerprint Quirks.none P (run Quirks.none P wK ApiState.init [.compile 0 [] false]) 0) = false := by
  decide +kernel

/-- `qlassf(pk, defs=[g]).bind(k=1).original_f` calls a `g` that nothing provides (the bound source
is run in the module globals only), while in the repaired model it calls the `g` that was passed;
what is translated (the signature) is the same in both -/
theorem bind_orig_without_defs_witness :
    let q := Quirks.ofList ["bindOrigWithoutDefs"]
    let ops : List Op := [.compile 0 [] false, .compile 6 [0] false, .bind 1 "k=1"]
    calleeMissing (fingerprint q wPool (run q wPool wK ApiState.init ops) 2) = true ∧
    calleeOf (fingerprint Quirks.none wPool (run Quirks.none wPool wK ApiState.init ops) 2) = some (.pool 0) ∧
    sigOf (fingerprint q wPool (run q wPool wK ApiState.init ops) 2) = "b1" := by
  decide +kernel

/-- `qlassf(pc, defs=[Qint])` where `pc`'s annotations mention the type `Qint` and the definition is a
user function called `Qint`: the call raises (the annotation finds the function), in the repaired
model it returns the unbound function -/
theorem def_shadows_annotation_witness :
    let q := Quirks.ofList ["defShadowsAnnotation"]
    (step q wPool wK (run q wPool wK ApiState.init [.compile 7 [] false]) (.compile 8 [0] false)).2 = .raised ∧
    (step Quirks.none wPool wK (run Quirks.none wPool wK ApiState.init [.compile 7 [] false]) (.compile 8 [0] false)).2 = .ok := by
  decide +kernel

/-- binding the same unbound object again with other values, with anything in between, gives what
the second binding gives on its own (instance of `history_free` + `frame_run` on a concrete
history; the general statement is `C10_full`) -/
example :
    let ops₁ : List Op := [.compile 0 [] false, .compile 6 [0] false, .bind 1 "k=1", .grover 2 none 1, .bind 1 "k=2"]
    let ops₂ : List Op := [.compile 0 [] false, .compile 6 [0] false, .bind 1 "k=2"]
    sigOf (fingerprint Quirks.none wPool (run Quirks.none wPool wK ApiState.init ops₁) 4) = "b2" ∧
    sigOf (fingerprint Quirks.none wPool (run Quirks.none wPool wK ApiState.init ops₂) 2) = "b2" := by
  decide +kernel

/-- hence the full property fails for the model with `groverMutatesOracle` on (clause (1), on the
history of `grover_mutates_oracle_witness`) -/
theorem C10_fails_with_grover_quirk : ¬ C10_statement_for (Quirks.ofList ["groverMutatesOracle"]) := by
  intro h
  have h1 := (h wPool wK).1 (run (Quirks.ofList ["groverMutatesOracle"]) wPool wK ApiState.init [.compile 0 [] false])
    [.grover 0 none 1] 0 (by decide)
  have w := grover_mutates_oracle_witness
  exact absurd (w.2.1.symm.trans ((congrArg nqOf h1).trans w.1)) (by decide)

/-! ## any quirk setting, away from the triggers (partial) -/

/-- does the operation run into one of the listed defects in state `s`? -/
def triggers (q : Quirks) (s : ApiState) (op : Op) : Bool :=
  (q.execIntoModuleGlobals || q.evalSeesLocals || q.defShadowsAnnotation) || opTrigger q s op

/-- Any setting `q` of the object quirks: with the namespace quirks (`execIntoModuleGlobals`,
`evalSeesLocals`, `defShadowsAnnotation`) off, an operation that is not `Grover(...)` (when
`groverMutatesOracle` is on), not `oraclize`/`Grover(qf, x)` on a function called `oracle` (when
`oraclizeRenames` is on) and not `bind` (when `bindOrigWithoutDefs` is on) behaves exactly as in the
repaired model: same state, same outcome.  Stated for `stepCore`; `step = close ∘ stepCore`, so
the same holds of `step`.  Not covered by a theorem: histories with a namespace quirk on (then
fingerprints depend on the shared module namespace); those are covered by the witnesses above and
by the correspondence run. -/
theorem C10_partial (q : Quirks) (P : Pool) (K : Oracle) (s : ApiState) (op : Op)
    (hq : q.execIntoModuleGlobals = false) (he : q.evalSeesLocals = false)
    (hd : q.defShadowsAnnotation = false)
    (ht : triggers q s op = false) :
    stepCore q P K s op = stepCore Quirks.none P K s op :=
  stepCore_eq_none_of_no_trigger q P K s op hq he hd (by simpa [triggers, hq, he, hd] using ht)

example : triggers (Quirks.ofList ["groverMutatesOracle", "oraclizeRenames"])
    (run Quirks.none wPool wK ApiState.init [.compile 0 [] false]) (.oraclize 0 "2") = false := by decide

end QV.C10
