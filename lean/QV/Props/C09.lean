import QV.Model.Types
import QV.Gen.Tables
import QV.Proofs.Types
/-!
# C09 – Type codecs are exact and mutually inverse

Property (from `/verif/properties.jsonl`): for every shipped quantum type and every bit pattern
of its width, decoding the pattern to a value and re-encoding the value returns the same
pattern, the compile-time constant encoding of a value equals its runtime encoding, and the
amplitude vector is one-hot at the basis index whose bit k is bit k of the encoding.  Decoding
a measured string into nested tuple types inverts the concatenated element encodings.

The theorems are about `QV.Model.Types` (the model of `qlasskit/types/*.py`), for every
width `w`, `I`, `F`, not only the shipped ones; the shipped tables `QV.Gen.*` are regenerated
from the source on every run and the side conditions are discharged on them.  `WT` / `WTs` (a value is a value of the
type), defined here, are also the vocabulary of `C05_statement`, `C15_statement`, C16 and C18.
-/
namespace QV.C09
open QV QV.Types

theorem qint_pattern_roundtrip (w : Nat) (bs : List Bool) (hw : 0 < w) (hl : bs.length = w) :
    (qintFromBool w bs).map (qintToBool w) = some bs := by
  have hlt := hl ▸ valLE_lt bs
  rw [qintFromBool_eq (List.ne_nil_of_length_pos (by omega)), Nat.mod_eq_of_lt hlt, Option.map_some,
    qintToBool_eq hlt, toBitsLE_valLE_of_length hl]

theorem qint_value_roundtrip (w v : Nat) (hw : 0 < w) (hv : v < 2 ^ w) :
    qintFromBool w (qintToBool w v) = some v := by
  rw [qintToBool_eq hv, qintFromBool_eq (List.ne_nil_of_length_pos (by rw [toBitsLE_length]; exact hw)),
    valLE_toBitsLE_of_lt hv, Nat.mod_eq_of_lt hv]

/-- the compile-time constant encoding equals the runtime encoding (of the wrapped value) -/
theorem qint_const_eq_runtime (w v : Nat) (hw : 0 < w) :
    qintConst w v = qintToBool w (qintInit w v) := by
  rw [qintConst_eq hw, qintInit, qintToBool_eq (Nat.mod_lt _ (Nat.pow_pos (by decide))), toBitsLE_mod]

/-- the amplitude vector has length `2^w` and its 1 sits at the index whose bit k is bit k of
the encoding -/
theorem qint_amp_onehot (w v : Nat) (hv : v < 2 ^ w) :
    qintAmp w v = (2 ^ w, valLE (qintToBool w v)) := by
  rw [qintToBool_eq hv, valLE_toBitsLE_of_lt hv]; rfl

/-- every shipped `Qint` type has a positive width (side condition of the theorems above,
checked on the table regenerated from `qint.py`) -/
theorem qint_shipped_widths : ∀ t ∈ Gen.qintTypes, 0 < t.2 ∧ t.1 = "Qint" ++ toString t.2 := by
  decide +kernel

/-- `const_to_qtype` tries widths in increasing order, all of them shipped types -/
theorem const_candidates_sorted :
    (Gen.constQintCandidates.map (·.2)).Pairwise (· < ·) ∧
    ∀ c ∈ Gen.constQintCandidates, c ∈ Gen.qintTypes := by
  decide +kernel

theorem qchar_width : Gen.qcharBits = 8 := by decide

theorem qchar_pattern_roundtrip (bs : List Bool) (hl : bs.length = 8) :
    (qcharFromBool bs).map qcharToBool = some bs := by
  have hlt : valLE bs < 2 ^ 8 := hl ▸ valLE_lt bs
  rw [qcharFromBool_eq hl, Option.map_some, qcharToBool_eq hlt, toBitsLE_valLE_of_length hl]

theorem qchar_value_roundtrip (c : Nat) (hc : c < 256) : qcharFromBool (qcharToBool c) = some c := by
  rw [qcharToBool_eq hc, qcharFromBool_eq (toBitsLE_length 8 c), valLE_toBitsLE_of_lt hc]

theorem qchar_const_eq_runtime (c : Nat) (hc : c < 256) : qcharConst c = qcharToBool c := by
  rw [qcharConst_eq hc, qcharToBool_eq hc]

theorem qchar_amp_onehot (c : Nat) (hc : c < 256) : qcharAmp c = (2 ^ 8, valLE (qcharToBool c)) :=
  qint_amp_onehot 8 c hc

theorem qfixed_pattern_roundtrip (I F : Nat) (bs : List Bool) (hI : 0 < I) (hl : bs.length = I + F) :
    (qfixedFromBool I F bs).map (qfixedToBool I F) = some bs := by
  have h1 : (bs.take I).length = I := by rw [List.length_take]; omega
  have h2 : (bs.drop I).reverse.length = F := by rw [List.length_reverse, List.length_drop]; omega
  have hlt : valBE (bs.drop I) < 2 ^ F := by
    have := valBE_lt (bs.drop I); rwa [← List.length_reverse, h2] at this
  have hP : 0 < 2 ^ F := Nat.pow_pos (by decide)
  -- the scaled value splits again: its quotient by `2^F` is the integer part, its remainder the fraction
  have hdiv : (valLE (bs.take I) * 2 ^ F + valBE (bs.drop I)) / 2 ^ F = valLE (bs.take I) := by
    rw [Nat.add_comm, Nat.add_mul_div_right _ _ hP, Nat.div_eq_of_lt hlt, Nat.zero_add]
  have hmod : toBitsLE F (valLE (bs.take I) * 2 ^ F + valBE (bs.drop I)) = toBitsLE F (valBE (bs.drop I)) := by
    rw [← toBitsLE_mod F, Nat.add_comm, Nat.add_mul_mod_self_right, Nat.mod_eq_of_lt hlt]
  rw [qfixedFromBool_eq hI hl, Option.map_some, qfixedToBool_eq, hdiv, hmod]
  have e1 : toBitsLE I (valLE (bs.take I)) = bs.take I := toBitsLE_valLE_of_length h1
  have e2 : (toBitsLE F (valBE (bs.drop I))).reverse = bs.drop I := by
    rw [valBE_eq_valLE_reverse, toBitsLE_valLE_of_length h2, List.reverse_reverse]
  rw [e1, e2, List.take_append_drop]

theorem qfixed_value_roundtrip (I F sv : Nat) (hI : 0 < I) (hv : sv < 2 ^ (I + F)) :
    qfixedFromBool I F (qfixedToBool I F sv) = some sv := by
  have hlen : (qfixedToBool I F sv).length = I + F := by rw [qfixedToBool_eq]; simp
  have hq : sv / 2 ^ F < 2 ^ I := Nat.div_lt_of_lt_mul (by rw [← Nat.pow_add, Nat.add_comm]; exact hv)
  rw [qfixedFromBool_eq hI hlen, qfixedToBool_eq, List.take_left' (toBitsLE_length _ _),
    List.drop_left' (toBitsLE_length _ _), valLE_toBitsLE_of_lt hq, valBE_reverse, valLE_toBitsLE]
  exact congrArg some (Nat.div_add_mod' sv (2 ^ F))

/-- `const` is `to_bool` of the constructed value -/
theorem qfixed_const_eq_runtime (I F sv : Nat) : qfixedConst I F sv = qfixedToBool I F sv := rfl

theorem qfixed_amp_onehot (I F sv : Nat) (hI : 0 < I) :
    qfixedAmp I F sv = (2 ^ (I + F), some (valLE (qfixedToBool I F sv))) := by
  have hne : qfixedToBool I F sv ≠ [] :=
    List.ne_nil_of_length_pos (by rw [qfixedToBool_eq, List.length_append, toBitsLE_length]; omega)
  rw [qfixedAmp, boolListToBin_reverse, pyInt2_boolListToBin_reverse hne]

/-- the shipped `Qfixed` table is consistent: `BIT_SIZE = INTEGER + FRACTIONAL`, at least one
integer bit, and the class name spells the sizes -/
theorem qfixed_shipped_sizes : ∀ t ∈ Gen.qfixedTypes,
    t.2.1 = t.2.2.1 + t.2.2.2 ∧ 0 < t.2.2.1 ∧
    t.1 = "Qfixed" ++ toString t.2.2.1 ++ "_" ++ toString t.2.2.2 := by
  decide +kernel

mutual
/-- the value is a value of the type (ranges as the codecs produce them) -/
def WT : QTy → QVal → Prop
  | .bool, .bool _ => True
  | .qint w, .int v => 0 < w ∧ v < 2 ^ w
  | .qchar, .char c => c < 256
  | .qfixed i f, .fixed sv => 0 < i ∧ sv < 2 ^ (i + f)
  | .tuple ts, .tuple vs => WTs ts vs
  | _, _ => False
def WTs : List QTy → List QVal → Prop
  | [], [] => True
  | t :: ts, v :: vs => WT t v ∧ WTs ts vs
  | _, _ => False
end

theorem WT_induct {P : QTy → QVal → Prop} {Ps : List QTy → List QVal → Prop}
    (bool : ∀ b, P .bool (.bool b))
    (qint : ∀ w v, 0 < w → v < 2 ^ w → P (.qint w) (.int v))
    (qchar : ∀ c, c < 256 → P .qchar (.char c))
    (qfixed : ∀ i f sv, 0 < i → sv < 2 ^ (i + f) → P (.qfixed i f) (.fixed sv))
    (tuple : ∀ ts vs, Ps ts vs → P (.tuple ts) (.tuple vs))
    (nil : Ps [] [])
    (cons : ∀ t ts v vs, WT t v → P t v → Ps ts vs → Ps (t :: ts) (v :: vs)) :
    (∀ t v, WT t v → P t v) ∧ (∀ ts vs, WTs ts vs → Ps ts vs) := by
  apply WT.mutual_induct (fun t v => WT t v → P t v) (fun ts vs => WTs ts vs → Ps ts vs)
  · exact fun b _ => bool b
  · intro w v h; rw [WT] at h; exact qint w v h.1 h.2
  · intro c h; rw [WT] at h; exact qchar c h
  · intro i f sv h; rw [WT] at h; exact qfixed i f sv h.1 h.2
  · intro ts vs ih h; rw [WT] at h; exact tuple ts vs (ih h)
  -- `WT.eq_6` / `WTs.eq_3` are the equations of the last arms (`| _, _ => False`); their hypotheses say that no
  -- earlier arm matches, which is what `WT.mutual_induct` supplies in the cases of those arms
  · intro t v h1 h2 h3 h4 h5 h; rw [WT.eq_6 t v h1 h2 h3 h4 h5] at h; exact h.elim
  · exact fun _ => nil
  · intro t ts v vs ih1 ih2 h; rw [WTs] at h; exact cons t ts v vs h.1 (ih1 h.1) (ih2 h.2)
  · intro ts vs h1 h2 h; rw [WTs.eq_3 ts vs h1 h2] at h; exact h.elim

theorem encode_length_both :
    (∀ (t : QTy) (v : QVal), WT t v → (encode t v).length = t.size) ∧
    (∀ (ts : List QTy) (vs : List QVal), WTs ts vs → (encodeList ts vs).length = sizeList ts) := by
  apply WT_induct
  · exact fun _ => rfl
  · intro w v _ hv; rw [encode, qintToBool_eq hv, toBitsLE_length]; rfl
  · intro c hc; rw [encode, qcharToBool_eq hc, toBitsLE_length]; rfl
  · intro i f sv _ _; rw [encode, qfixedToBool_eq, List.length_append, List.length_reverse, toBitsLE_length,
      toBitsLE_length]; rfl
  · intro ts vs ih; rw [encode, ih]; rfl
  · rfl
  · intro t ts v vs _ h1 h2; rw [encodeList, List.length_append, h1, h2]; rfl

theorem encode_length : ∀ (t : QTy) (v : QVal), WT t v → (encode t v).length = t.size :=
  encode_length_both.1

theorem encodeList_length : ∀ (ts : List QTy) (vs : List QVal), WTs ts vs →
    (encodeList ts vs).length = sizeList ts :=
  encode_length_both.2

theorem interpret_encode_both :
    (∀ (t : QTy) (v : QVal), WT t v → interpret t (encode t v) = v) ∧
    (∀ (ts : List QTy) (vs : List QVal), WTs ts vs → interpretList ts (encodeList ts vs) = vs) := by
  apply WT_induct
  · exact fun _ => rfl
  · intro w v hw hv; rw [encode, interpret, qint_value_roundtrip w v hw hv]; rfl
  · intro c hc; rw [encode, interpret, qchar_value_roundtrip c hc]; rfl
  · intro i f sv hi hv; rw [encode, interpret, qfixed_value_roundtrip i f sv hi hv]; rfl
  · intro ts vs ih; rw [encode, interpret, ih]
  · rfl
  · intro t ts v vs h h1 h2
    have hl := encode_length t v h
    rw [encodeList, interpretList, List.take_left' hl, List.drop_left' hl, h1, h2]

theorem interpret_encode : ∀ (t : QTy) (v : QVal), WT t v → interpret t (encode t v) = v :=
  interpret_encode_both.1

theorem interpretList_encodeList : ∀ (ts : List QTy) (vs : List QVal), WTs ts vs →
    interpretList ts (encodeList ts vs) = vs :=
  interpret_encode_both.2

/-- decoding the measured string of a value (qubit 0 rightmost: the reversed concatenation of the element encodings),
with the register size given or not, returns the value, for every nested type; `decode_output` of `QlassF`, `Grover`,
`BernsteinVazirani` and `Simon` are this call -/
theorem interpretAsQtype_encode (t : QTy) (v : QVal) (h : WT t v) (o : Option Nat) (ho : o.getD t.size = t.size) :
    interpretAsQtype (encode t v).reverse t o = v := by
  rw [interpretAsQtype_reverse t _ o (by rwa [encode_length t v h]), interpret_encode t v h]

/-- the `out_len = None` case of `interpretAsQtype_encode`, in the form the property text states -/
theorem interpret_as_qtype_inverts (t : QTy) (v : QVal) (h : WT t v) :
    interpretAsQtype (encode t v).reverse t none = v :=
  interpretAsQtype_encode t v h none rfl

/-- non-vacuity: a nested value meeting `WT` -/
example : WT (.tuple [.qint 4, .bool, .tuple [.qchar, .qfixed 2 3]])
    (.tuple [.int 11, .bool true, .tuple [.char 97, .fixed 13]]) := by
  simp [WT, WTs]

end QV.C09
