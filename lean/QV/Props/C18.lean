import QV.Proofs.Bqm
import QV.Props.C09
import QV.Gen.Tables
/-!
# C18 – The quadratic-model export has the function's minimisers as ground states

Property (from `/verif/properties.jsonl`): for every function, the minimum-energy input
assignments of the binary quadratic model built from it (in every offered format) are exactly
the inputs that make the fewest return bits true - in particular the zeros of the function when
it has any, at energy zero - and the model mentions every argument bit the function depends on
and no variable foreign to it other than declared auxiliaries.  Decoding a sample set returns,
per sample, the argument values spelled by the sample's input variables in the arguments'
high-level types.

The theorems are about `QV.Model.Bqm` (the model of `qlasskit/bqm.py` and of
`merge_expressions`), for every expression list, every assignment, every nested
argument type.  Stated assumptions, not proved here:
* the meaning of a pyqubo tree is the documented polynomial of its nodes (`PExp.eval`);
  `compile()` and the exporters `to_bqm/to_qubo/to_ising` of real pyqubo are outside the model
  (the four formats share the one tree; that real pyqubo keeps its ground states is not shown);
* `custom_simplify_logic` (sympy) preserves truth tables - hypothesis `hs` below.

"Rejected" inputs (`toBqm … = .error _`: an `Or` with other than two operands, `ITE`/`Implies`
left in an expression, all return bits constant, no return bit) build no model; the theorems
say nothing about them.

`C18_statement q` is the full property for the model with quirk set `q`.  `C18_guarded` proves it when
flag `retSymbolAndConst` is off (`C18_repaired`; flag off = `docs/fixes/C18-ret-symbol.diff`) or no merged
return expression is a bare symbol (`C18_current_partial`); otherwise it fails (`C18_fails_with_quirk`).
-/
namespace QV.C18
open QV QV.Bqm QV.Types

/-- number of return bits the function makes true on input `σ` -/
def trueBits (exprs : List (String × BExp)) (σ : Env) : Nat := countTrue (retVals σ exprs)

/-- `σ` is a minimum of `f` over all assignments -/
def IsMin {α : Type} [LE α] (f : Env → α) (σ : Env) : Prop := ∀ τ, f σ ≤ f τ

/-- names of the return definitions: the variables `to_bqm` declares besides the argument bits -/
def retNames (exprs : List (String × BExp)) : List String :=
  (exprs.filter fun se => isRet se.1).map (·.1)

def flip (σ : Env) (b : String) : Env := update σ b (!σ b)

/-- The property, for the model with quirk set `q`, any truth-table preserving simplifier,
any argument bits, expression list and format for which a model is built. -/
def C18_statement (q : Quirks) : Prop :=
  ∀ (simp : BExp → BExp), (∀ e ρ, (simp e).eval ρ = e.eval ρ) →
  ∀ (argBits : List String) (exprs : List (String × BExp)) (fmt : String) (p : PExp),
    toBqm q simp argBits exprs fmt = .ok p →
      (∀ σ, IsMin (energy p) σ ↔ IsMin (trueBits exprs) σ) ∧
      (∀ σ, trueBits exprs σ = 0 → energy p σ = 0 ∧ IsMin (energy p) σ) ∧
      (∀ v ∈ p.vars, v ∈ argBits ∨ v ∈ retNames exprs) ∧
      (∀ b σ, retVals σ exprs ≠ retVals (flip σ b) exprs → b ∈ p.vars) ∧
      (∀ fmt' ∈ formats, toBqm q simp argBits exprs fmt' = .ok p)

/-- `SympyToBQM.visit`: n-ary `And`/`Xor` folded pairwise, binary `Or`, `Not`, constants -
the polynomial of the tree is 1 where the expression is true and 0 where it is false (`Bqm.visit_eval`; `b2i b` is
`if b then 1 else 0` by definition) -/
theorem poly_eval (vars : List String) (σ : Env) (e : BExp) (p : PExp)
    (h : visit vars e = .ok p) : p.eval σ = if e.eval σ then 1 else 0 :=
  visit_eval vars σ e p h

example : visit ["a", "b", "c"] (.and [.sym "a", .not (.sym "b"), .xor [.sym "a", .sym "c"]])
    = .ok (.and (.bin "a") (.and (.not (.bin "b")) (.xor (.bin "a") (.bin "c")))) := by decide

/-- inlining the intermediate definitions (with any truth-table preserving simplifier) leaves,
per return bit, an expression whose value on the inputs is that bit -/
theorem merge_preserves_function (simp : BExp → BExp) (hs : ∀ e ρ, (simp e).eval ρ = e.eval ρ)
    (ρ : Env) (exprs : List (String × BExp)) :
    (merge simp exprs).map (fun se => se.2.eval ρ) = retVals ρ exprs := by
  simpa [merge, substEnv_nil] using mergeGo_sound simp hs ρ exprs []

/-- every definition left by `merge_expressions` is a `_ret…` one -/
theorem merge_only_returns (simp : BExp → BExp) (exprs : List (String × BExp)) :
    ∀ se ∈ merge simp exprs, isRet se.1 = true :=
  mergeGo_names simp exprs []

/-- on merged expressions, for every quirk setting `q` when no return expression is a bare symbol, with flag
`retSymbolAndConst` off always: the tree's polynomial counts the true return bits, its variables are the
symbols of the return expressions (in order), each an argument bit or a declared return name -/
theorem toBqmMerged_spec (q : Quirks) (argBits : List String) (merged : List (String × BExp))
    (fmt : String) (p : PExp)
    (hr : ∀ se ∈ merged, isRet se.1 = true)
    (hq : q.retSymbolAndConst = false ∨ ∀ se ∈ merged, isSym se.2 = false)
    (h : toBqmMerged q argBits merged fmt = .ok p) :
    (∀ σ, energy p σ = (countTrue (merged.map fun se => se.2.eval σ) : Nat)) ∧
      p.vars = defsSyms merged ∧ ∀ v ∈ p.vars, v ∈ argBits ∨ v ∈ merged.map (·.1) := by
  obtain ⟨hs, _, _⟩ := (toBqmMerged_ok q argBits merged fmt p).mp h
  obtain ⟨h1, h2, h3⟩ := sumTerms_spec q merged argBits none (some p) hr hq hs
  simp only [accVars, List.nil_append] at h2
  exact ⟨fun σ => by simpa [accEval, energy] using h1 σ, h2, fun v hv => h3 v (h2 ▸ hv)⟩

/-- repaired code, on merged expressions: the two clauses of `toBqmMerged_spec` on variables -/
theorem vars_ok (argBits : List String) (merged : List (String × BExp)) (fmt : String) (p : PExp)
    (hr : ∀ se ∈ merged, isRet se.1 = true)
    (h : toBqmMerged Quirks.none argBits merged fmt = .ok p) :
    p.vars = defsSyms merged ∧ ∀ v ∈ p.vars, v ∈ argBits ∨ v ∈ merged.map (·.1) :=
  (toBqmMerged_spec Quirks.none argBits merged fmt p hr (.inl rfl) h).2

theorem ground_states (p : PExp) (exprs : List (String × BExp))
    (he : ∀ σ, energy p σ = (trueBits exprs σ : Nat)) (σ : Env) :
    IsMin (energy p) σ ↔ IsMin (trueBits exprs) σ := by
  unfold IsMin
  constructor
  · intro h τ; have := h τ; rw [he, he] at this; exact Int.ofNat_le.mp this
  · intro h τ; rw [he, he]; exact Int.ofNat_le.mpr (h τ)

theorem zeros_at_energy_zero (p : PExp) (exprs : List (String × BExp))
    (he : ∀ σ, energy p σ = (trueBits exprs σ : Nat)) (σ : Env) (hz : trueBits exprs σ = 0) :
    energy p σ = 0 ∧ IsMin (energy p) σ := by
  refine ⟨by rw [he, hz]; rfl, ?_⟩
  intro τ; rw [he, he, hz]; exact Int.ofNat_le.mpr (Nat.zero_le _)

/-- the four offered formats receive the same tree (pyqubo's exporters are not modelled) -/
theorem formats_same_tree (q : Quirks) (simp : BExp → BExp) (argBits : List String)
    (exprs : List (String × BExp)) (fmt : String) (p : PExp)
    (h : toBqm q simp argBits exprs fmt = .ok p) :
    ∀ fmt' ∈ formats, toBqm q simp argBits exprs fmt' = .ok p := by
  intro fmt' hf
  unfold toBqm at h ⊢
  obtain ⟨hs, hn, _⟩ := (toBqmMerged_ok q argBits _ fmt p).mp h
  exact (toBqmMerged_ok q argBits _ fmt' p).mpr ⟨hs, hn, by simpa using hf⟩

/-- the formats of the model are the formats the source offers (`BQMFormat`, table regenerated
from bqm.py on every run) -/
theorem formats_from_source : formats = Gen.bqmFormats := by decide

/-- a call that builds a model had one of the four formats -/
theorem unknown_format_refused (q : Quirks) (simp : BExp → BExp) (argBits : List String)
    (exprs : List (String × BExp)) (fmt : String) (p : PExp)
    (h : toBqm q simp argBits exprs fmt = .ok p) : fmt ∈ formats := by
  unfold toBqm at h
  obtain ⟨_, _, hc⟩ := (toBqmMerged_ok q argBits _ fmt p).mp h
  simpa using hc

theorem retNames_merge (simp : BExp → BExp) (exprs : List (String × BExp)) :
    (merge simp exprs).map (·.1) = retNames exprs :=
  mergeGo_keys simp exprs []

/-- `to_bqm` with the `_ret` test first (flag off), or as it is when `merge_expressions` leaves no return bit
that is a bare symbol: the minimum-energy assignments are the inputs with the fewest true return bits, zeros
have energy 0, every variable of the model is an argument bit or a return name, every input bit a return bit
depends on is a variable, and the four formats receive the same model -/
theorem C18_guarded (q : Quirks) (simp : BExp → BExp) (hs : ∀ e ρ, (simp e).eval ρ = e.eval ρ)
    (argBits : List String) (exprs : List (String × BExp)) (fmt : String) (p : PExp)
    (hq : q.retSymbolAndConst = false ∨ ∀ se ∈ merge simp exprs, isSym se.2 = false)
    (h : toBqm q simp argBits exprs fmt = .ok p) :
    (∀ σ, IsMin (energy p) σ ↔ IsMin (trueBits exprs) σ) ∧
    (∀ σ, trueBits exprs σ = 0 → energy p σ = 0 ∧ IsMin (energy p) σ) ∧
    (∀ v ∈ p.vars, v ∈ argBits ∨ v ∈ retNames exprs) ∧
    (∀ b σ, retVals σ exprs ≠ retVals (flip σ b) exprs → b ∈ p.vars) ∧
    (∀ fmt' ∈ formats, toBqm q simp argBits exprs fmt' = .ok p) := by
  obtain ⟨he', hv, hin⟩ := toBqmMerged_spec q argBits _ fmt p (merge_only_returns simp exprs) hq h
  have he : ∀ σ, energy p σ = (trueBits exprs σ : Nat) := fun σ => by
    rw [he', merge_preserves_function simp hs]; rfl
  refine ⟨ground_states p exprs he, zeros_at_energy_zero p exprs he, retNames_merge simp exprs ▸ hin,
    fun b σ hd => ?_, formats_same_tree q simp argBits exprs fmt p h⟩
  -- a bit no merged expression mentions cannot change a return value
  rw [hv]
  refine Classical.byContradiction fun hb => hd ?_
  rw [← merge_preserves_function simp hs, ← merge_preserves_function simp hs]
  exact defs_congr _ _ _ fun n hn => by
    have : b ≠ n := fun hbn => hb (hbn ▸ hn)
    simp [flip, update, this]

theorem C18_repaired : C18_statement Quirks.none := fun simp hs argBits exprs fmt p h =>
  C18_guarded Quirks.none simp hs argBits exprs fmt p (.inl rfl) h

/-- every quirk setting `q`, when `merge_expressions` leaves no return bit that is a bare
symbol: the minimum-energy assignments of the model `to_bqm` builds are exactly the inputs with the
fewest true return bits, every zero of the function has energy 0 and is one of them, and all four
formats receive that model.  `C18_guarded` has the two clauses on variables under the same guard;
without the guard the property fails (`C18_fails_with_quirk`). -/
theorem C18_current_partial (q : Quirks) (simp : BExp → BExp)
    (hs : ∀ e ρ, (simp e).eval ρ = e.eval ρ)
    (argBits : List String) (exprs : List (String × BExp)) (fmt : String) (p : PExp)
    (hg : ∀ se ∈ merge simp exprs, isSym se.2 = false)
    (h : toBqm q simp argBits exprs fmt = .ok p) :
    (∀ σ, IsMin (energy p) σ ↔ IsMin (trueBits exprs) σ) ∧
    (∀ σ, trueBits exprs σ = 0 → energy p σ = 0 ∧ IsMin (energy p) σ) ∧
    (∀ fmt' ∈ formats, toBqm q simp argBits exprs fmt' = .ok p) :=
  have H := C18_guarded q simp hs argBits exprs fmt p (.inr hg) h
  ⟨H.1, H.2.1, H.2.2.2.2⟩

-- the hypotheses are satisfiable: a two-bit adder, with an intermediate definition
example : (match toBqm Quirks.none id ["a.0", "a.1", "b.0", "b.1"]
    [("c", .and [.sym "a.0", .sym "b.0"]),
     ("_ret.0", .xor [.sym "a.0", .sym "b.0"]),
     ("_ret.1", .xor [.sym "a.1", .sym "b.1", .sym "c"])] "qubo" with
    | .ok _ => true | .error _ => false) = true ∧
    ∀ se ∈ merge id [("c", .and [.sym "a.0", .sym "b.0"]),
     ("_ret.0", .xor [.sym "a.0", .sym "b.0"]),
     ("_ret.1", .xor [.sym "a.1", .sym "b.1", .sym "c"])], isSym se.2 = false :=
  ⟨by decide, by decide⟩

/-! ## The defect: a return bit that is a bare symbol -/

/-- `f(a) = a` with flag `retSymbolAndConst` on: the tree is `AndConst(a, a, _ret)`; the assignment
`a = 1, _ret = 1` has energy 0 - a ground state - although the function returns a true bit
there, while `a = 0` returns none -/
theorem retSymbolAndConst_witness :
    toBqm { retSymbolAndConst := true } id ["a"] [("_ret", .sym "a")] "bqm"
      = .ok (.andConst (.bin "a") (.bin "a") (.bin "_ret") "_ret") ∧
    energy (.andConst (.bin "a") (.bin "a") (.bin "_ret") "_ret")
      (fun n => n == "a" || n == "_ret") = 0 ∧
    trueBits [("_ret", .sym "a")] (fun n => n == "a" || n == "_ret") = 1 ∧
    trueBits [("_ret", .sym "a")] (fun _ => false) = 0 := by decide

/-- the same function with the flag off: the tree is the variable itself -/
theorem retSymbol_repaired_witness :
    toBqm Quirks.none id ["a"] [("_ret", .sym "a")] "bqm" = .ok (.bin "a") := by decide

/-- hence the property fails with the flag on -/
theorem C18_fails_with_quirk : ¬ C18_statement { retSymbolAndConst := true } := by
  intro hC
  have h := hC id (fun _ _ => rfl) ["a"] [("_ret", .sym "a")] "bqm" _ retSymbolAndConst_witness.1
  have hmin : IsMin (energy (.andConst (.bin "a") (.bin "a") (.bin "_ret") "_ret"))
      (fun n => n == "a" || n == "_ret") := by
    intro τ
    rw [retSymbolAndConst_witness.2.1]
    simp only [energy, PExp.eval]
    cases τ "a" <;> cases τ "_ret" <;> decide
  have := (h.1 _).mp hmin (fun _ => false)
  rw [retSymbolAndConst_witness.2.2.1, retSymbolAndConst_witness.2.2.2] at this
  exact absurd this (by decide)

/-- the sample's bits are exactly as many as the bit-vector, so the reading is handed over whole
(no hypothesis on the type's size) -/
theorem decodeArg_eq (sample : List (String × Bool)) (fill : String → Bool) (a : Arg) :
    decodeArg sample fill a = interpret a.ty (sampleBits sample fill a.bitvec) :=
  interpretAsQtype_reverse a.ty _ _ (by simp [sampleBits])

/-- each argument is decoded from exactly the bits the sample gives to its bit-vector (any
value for a variable the sample lacks), by C09's `interpret` in the argument's type -/
theorem decode_spells_sample (sample : List (String × Bool)) (fill : String → Bool)
    (args : List Arg) (hl : ∀ a ∈ args, a.bitvec.length = a.ty.size) :
    decodeSample sample fill args
      = args.map fun a => (a.name, interpret a.ty (sampleBits sample fill a.bitvec)) := by
  unfold decodeSample
  apply List.map_congr_left
  intro a ha
  rw [decodeArg_eq sample fill a]

/-- so a sample whose input variables spell the encoding of a well-typed value decodes to that
value (with C09's `interpret_encode`) -/
theorem decode_inverts_encoding (sample : List (String × Bool)) (fill : String → Bool)
    (a : Arg) (v : QVal) (hw : C09.WT a.ty v)
    (hb : sampleBits sample fill a.bitvec = encode a.ty v) :
    decodeArg sample fill a = v := by
  rw [decodeArg_eq sample fill a, hb, C09.interpret_encode a.ty v hw]

example : beqVals ((decodeSample [("a.0", true), ("a.1", false), ("b", true)] (fun _ => false)
    [⟨"a", .qint 2, ["a.0", "a.1"]⟩, ⟨"b", .bool, ["b"]⟩, ⟨"c", .bool, ["c"]⟩]).map (·.2))
    [.int 1, .bool true, .bool false] = true := by decide

end QV.C18
