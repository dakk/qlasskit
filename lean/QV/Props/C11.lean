import QV.Model.Decompiler
import QV.Proofs.Decompiler
/-!
# C11 – Decompiled expressions describe exactly what the gates do

Property (from `properties.jsonl`): for every circuit, each maximal run of classical reversible
gates (X, CX, CCX, multi-controlled X; barriers ignored) is reported as one section whose index
range covers exactly those gates, and whose expressions give, for every qubit the section
changes, its final value as a boolean function of the qubits' values at section entry, on every
basis state; qubits without an expression are unchanged.

The theorems are about `QV.Model.Decompiler` (the model of `qlasskit/decompiler/decompiler.py`),
for every gate list, every number of qubits, every basis state and every implementation `K`
of sympy's `Not/And/Xor` constructors that preserves meaning.  The class tests go through the
tables `Gen.zbGates` / `Gen.gateAncestors`, regenerated from the source on every run.

"Classical" is what passes the `ZB_GATES` test of the *repaired* code (`Quirks.none`): `I`
(identity action), `X`, `CX`, `CCX`, `MCX n` and `MCtrl(X, n)`.  With the flags
`identityGateRaises`, `mctrlXSplits` on the model raises on `I` and treats `MCtrl(X, n)` as a section
boundary: `*_witness` below, `known_findings.json`.
-/
namespace QV.C11
open QV QV.Decompiler

/-- one section is sound: distinct keys naming qubits, every qubit's expression (the symbol
itself when none is reported) evaluates on every basis state to the qubit's value after the
section's gates; in particular qubits without an expression are unchanged -/
def SectionSound (n : Nat) (sec : Section) : Prop :=
  (Dict.keys sec.exps).Nodup ∧
  (∀ k e, (k, e) ∈ sec.exps → ∃ i, i < n ∧ k = qname i) ∧
  ∀ s : BState, s.length = n → ∀ i, i < n →
    (expOf sec.exps i).eval (stateEnv n s) = (runClassical sec.gates s).getD i false ∧
    (qname i ∉ Dict.keys sec.exps → (runClassical sec.gates s).getD i false = s.getD i false)

/-- the full property, for the repaired model: on every circuit built through `QCircuit.append`
(`WF`: wires are qubits of the circuit, arity = `n_qubits`) the decompiler returns sections, they
are exactly the maximal classical runs (`Decomp`, index form in `sections_exact`), and every
section is sound -/
def C11_statement : Prop :=
  ∀ (n : Nat) (gs : List AGate), (∀ g ∈ gs, WF n g) →
    ∃ secs, decompile Quirks.none rawKernel n gs = .ok secs ∧
      Decomp Quirks.none rawKernel n 0 gs secs ∧ ∀ sec ∈ secs, SectionSound n sec

/-- which gate classes the decompiler takes as classical: exactly `I, X, CX, CCX, MCX n`, and
`MCtrl(X, n)` with `mctrlXSplits` off -/
theorem zb_classes (q : Quirks) (c : GClass) : isZB q c =
    (match c with
     | .I | .X | .CX | .CCX | .MCX _ => true
     | .MCtrl g _ => !q.mctrlXSplits && g == "X"
     | _ => false) := isZB_eq q c

/-- the no-op test is `Barrier` / `NopGate` -/
theorem nop_classes (c : GClass) : isNopClass c = c.isNop := isNopClass_eq c

/-- every gate the repaired decompiler takes as classical acts as "flip the last wire iff all
other wires are 1" or is the identity, i.e. `runClassical` is its meaning; no gate is both
classical and a no-op -/
theorem zb_classical (c : GClass) (h : isZB Quirks.none c = true) :
    (c.isMCXLike = true ∨ c = .I) ∧ isNopClass c = false := by
  rw [isZB_eq] at h; rw [isNopClass_eq]
  cases c <;> simp_all [GClass.isMCXLike, GClass.isNop, Quirks.none]

/-- for every gate list, every kernel that preserves meaning and every basis state: the
expression of every qubit evaluates to its value after the gates -/
theorem symexec_sound (K : Kernel) (hK : K.Sound) (q : Quirks) (n : Nat) (sec : List AGate)
    (exps : Dict) (h : expsOfSection q K n sec = .ok exps) (s : BState) (hs : s.length = n)
    (i : Nat) (hi : i < n) :
    (expOf exps i).eval (stateEnv n s) = (runClassical sec s).getD i false :=
  expsOfSection_sound hK q h s hs i

/-- the reported entries have distinct keys, each names a qubit of the circuit and each
expression evaluates to that qubit's final value on every basis state -/
theorem symexec_entries (K : Kernel) (hK : K.Sound) (q : Quirks) (n : Nat) (sec : List AGate)
    (exps : Dict) (h : expsOfSection q K n sec = .ok exps) :
    (Dict.keys exps).Nodup ∧
    ∀ k e, (k, e) ∈ exps → ∃ i, i < n ∧ k = qname i ∧
      ∀ s : BState, s.length = n → e.eval (stateEnv n s) = (runClassical sec s).getD i false :=
  expsOfSection_entries hK q h

/-- qubits without an expression are unchanged -/
theorem symexec_unchanged (K : Kernel) (hK : K.Sound) (q : Quirks) (n : Nat) (sec : List AGate)
    (exps : Dict) (h : expsOfSection q K n sec = .ok exps) (s : BState) (hs : s.length = n)
    (i : Nat) (hi : i < n) (hno : qname i ∉ Dict.keys exps) :
    (runClassical sec s).getD i false = s.getD i false :=
  expsOfSection_unchanged hK q h s hs i hi hno

/-- the raw `BExp` constructors are a sound kernel (hypothesis `hK` is satisfiable) -/
theorem raw_kernel_sound : rawKernel.Sound := rawKernel_sound

example : (expsOfSection Quirks.none rawKernel 3
    [⟨.X, [0], .none, 0⟩, ⟨.CCX, [0, 1, 2], .none, 0⟩, ⟨.I, [1], .none, 0⟩]).toOption.map
      (fun d => (d.map (·.1), BExp.beqList (d.map (·.2))
        [.not (.sym "q0"), .xor [.and [.not (.sym "q0"), .sym "q1"], .sym "q2"]])) =
    some (["q0", "q2"], true) := by decide

/-- for every circuit and every quirk setting: the circuit is
`B₁ ++ R₁ ++ [sep₁] ++ B₂ ++ R₂ ++ [sep₂] ++ …` with no classical gate in any `B`, every `R` starting
with a classical gate and containing only classical gates and no-ops, every `sep` neither, and the
reported sections are exactly one per `R`, in order, with `start` = index of the run's first
gate, `stop` = index after the run (minus one when the run's last gate is a no-op), `gates` = the
classical gates of the run in order, `exps` = the symbolic execution of those gates -/
theorem sections_structure (q : Quirks) (K : Kernel) (n : Nat) (gs : List AGate)
    (secs : List Section) (h : decompile q K n gs = .ok secs) : Decomp q K n 0 gs secs :=
  decompile_decomp q K n gs secs h

/-- index form, for every circuit and every quirk setting (`cl q` = passes the decompiler's
classical test, `np` = barrier / no-op): the reported ranges are increasing and disjoint; each
range is non-empty, lies inside the circuit, starts at a classical gate, contains only classical
gates and no-ops, and its gate list is the classical gates of the range in order; every
classical gate of the circuit lies in a reported range; two reported ranges are separated by a
gate that is neither classical nor a no-op (maximality) -/
theorem sections_exact (q : Quirks) (K : Kernel) (n : Nat) (gs : List AGate)
    (secs : List Section) (h : decompile q K n gs = .ok secs) :
    secs.Pairwise (fun x y => x.stop < y.start) ∧
    (∀ s ∈ secs, s.start < s.stop ∧ s.stop ≤ gs.length ∧
      (∃ g, gs[s.start]? = some g ∧ cl q g = true) ∧
      (∀ k, s.start ≤ k → k < s.stop → ∃ g, gs[k]? = some g ∧ (cl q g = true ∨ np g = true)) ∧
      s.gates = ((gs.drop s.start).take (s.stop - s.start)).filter (cl q)) ∧
    (∀ k g, gs[k]? = some g → cl q g = true → ∃ s ∈ secs, s.start ≤ k ∧ k < s.stop) ∧
    secs.Pairwise (fun x y => ∃ k g, x.stop ≤ k ∧ k < y.start ∧ gs[k]? = some g ∧
      cl q g = false ∧ np g = false) := by
  obtain ⟨hg, hc, hs⟩ := (decompile_decomp q K n gs secs h).exact [] rfl
  refine ⟨hs.imp fun ⟨_, _, h1, h2, _⟩ => Nat.lt_of_le_of_lt h1 h2, fun s hs => ?_,
    fun k g => hc k g (Nat.zero_le _), hs⟩
  obtain ⟨_, lt, hi, first, inside, ge⟩ := (hg s hs).2
  exact ⟨lt, by simpa using hi, first, inside, ge⟩

/-- `stopOf` written out: the reported end of a run `R` (which extends over the no-ops that follow
its last classical gate) at offset `o` is the index after the run, minus one when the run's last gate
is a no-op (`end -= 1` is applied once, however many no-ops trail) -/
theorem range_end (q : Quirks) (o : Nat) (R : List AGate) :
    stopOf o R = if (R.getLast?.map np).getD false then o + R.length - 1 else o + R.length := rfl

theorem sections_sound (q : Quirks) (K : Kernel) (hK : K.Sound) (n : Nat) (gs : List AGate)
    (secs : List Section) (h : decompile q K n gs = .ok secs) :
    ∀ sec ∈ secs, SectionSound n sec := by
  intro sec hsec
  have hx := decompile_exps h sec hsec
  have he := expsOfSection_entries hK q hx
  exact ⟨he.1, fun k e hm => by obtain ⟨i, hi, hk, _⟩ := he.2 k e hm; exact ⟨i, hi, hk⟩,
    fun st hst i hi => ⟨expsOfSection_sound hK q hx st hst i, expsOfSection_unchanged hK q hx st hst i hi⟩⟩

/-- the repaired model returns sections for every well-formed circuit (no exception) -/
theorem decompile_total (K : Kernel) (n : Nat) (gs : List AGate) (h : ∀ g ∈ gs, WF n g) :
    ∃ secs, decompile Quirks.none K n gs = .ok secs := decompile_ok K n gs h

theorem C11_full : C11_statement := fun n gs hwf => by
  obtain ⟨secs, h⟩ := decompile_ok rawKernel n gs hwf
  exact ⟨secs, h, decompile_decomp _ _ n gs secs h, sections_sound _ _ rawKernel_sound n gs secs h⟩

/-- the property for every quirk setting `q`, on every circuit that does not run into a listed defect (`triggers`:
contains an `I` gate / an `MCtrl(X, n)` gate while the corresponding flag is on) -/
theorem C11_partial (q : Quirks) (n : Nat) (gs : List AGate) (ht : triggers q gs = false)
    (hwf : ∀ g ∈ gs, WF n g) :
    decompile q rawKernel n gs = decompile Quirks.none rawKernel n gs ∧
    ∃ secs, decompile q rawKernel n gs = .ok secs ∧
      Decomp Quirks.none rawKernel n 0 gs secs ∧ ∀ sec ∈ secs, SectionSound n sec := by
  have e := decompile_congr q rawKernel n gs ht
  refine ⟨e, ?_⟩
  rw [e]
  exact C11_full n gs hwf

/-- the hypotheses of `C11_partial` are satisfiable with both flags on -/
example : triggers (Quirks.ofList ["identityGateRaises", "mctrlXSplits"])
    [⟨.X, [0], .none, 0⟩, ⟨.Barrier, [], .none, 0⟩, ⟨.H, [1], .none, 0⟩, ⟨.MCX 2, [0, 1, 2], .none, 0⟩] = false ∧
    ∀ g ∈ ([⟨.X, [0], .none, 0⟩, ⟨.Barrier, [], .none, 0⟩, ⟨.H, [1], .none, 0⟩,
      ⟨.MCX 2, [0, 1, 2], .none, 0⟩] : List AGate), WF 3 g := by
  refine ⟨by decide, ?_⟩
  intro g hg
  simp only [List.mem_cons, List.mem_nil_iff, or_false] at hg
  rcases hg with rfl | rfl | rfl | rfl <;> exact ⟨by decide, by decide⟩

/-- hypotheses are satisfiable: a circuit with two runs, barriers at the boundaries -/
example : (decompile Quirks.none rawKernel 3
    [⟨.Barrier, [], .none, 0⟩, ⟨.X, [0], .none, 0⟩, ⟨.Barrier, [], .none, 0⟩, ⟨.H, [1], .none, 0⟩,
     ⟨.CX, [0, 1], .none, 0⟩, ⟨.MCtrl "X" 2, [0, 1, 2], .none, 0⟩, ⟨.Barrier, [], .none, 0⟩,
     ⟨.Barrier, [], .none, 0⟩]).toOption.map (fun l => l.map (fun s => (s.start, s.stop, s.gates.length)))
    = some [(1, 2, 1), (4, 7, 2)] := by decide

/-- `gates.I`: with `identityGateRaises` on the model raises instead of reporting the run `X(0), I(1)` -/
theorem identity_gate_witness :
    errMsg (decompile (Quirks.ofList ["identityGateRaises"]) rawKernel 2
      [⟨.X, [0], .none, 0⟩, ⟨.I, [1], .none, 0⟩]) =
      some "Gate not handled for decompilation: I" ∧
    (decompile Quirks.none rawKernel 2 [⟨.X, [0], .none, 0⟩, ⟨.I, [1], .none, 0⟩]).toOption.map
      (fun l => l.map (fun s => (s.start, s.stop, s.exps.map (·.1)))) = some [(0, 2, ["q0"])] := by
  decide

/-- `MCtrl(X, 2)`: the run `X(0), MCtrl(X,2)(0,1,2), X(1)` is reported as two sections `(0,1)`,
`(2,3)` and the flip of qubit 2 is in neither; the repaired code reports one section `(0,3)` -/
theorem mctrl_x_witness :
    (decompile (Quirks.ofList ["mctrlXSplits"]) rawKernel 3
      [⟨.X, [0], .none, 0⟩, ⟨.MCtrl "X" 2, [0, 1, 2], .none, 0⟩, ⟨.X, [1], .none, 0⟩]).toOption.map
      (fun l => l.map (fun s => (s.start, s.stop, s.exps.map (·.1)))) =
      some [(0, 1, ["q0"]), (2, 3, ["q1"])] ∧
    (decompile Quirks.none rawKernel 3
      [⟨.X, [0], .none, 0⟩, ⟨.MCtrl "X" 2, [0, 1, 2], .none, 0⟩, ⟨.X, [1], .none, 0⟩]).toOption.map
      (fun l => l.map (fun s => (s.start, s.stop, s.exps.map (·.1)))) =
      some [(0, 3, ["q0", "q1", "q2"])] := by
  decide

end QV.C11
