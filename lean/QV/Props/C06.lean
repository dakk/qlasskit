import QV.Proofs.CorrectClean
/-!
# C06 – Predicates compile to xor-oracles: |x>|y> -> |x>|y xor f(x)>

For every compiled function returning a single bool, and every classical value of the inputs
and of the output qubit, the circuit flips the output qubit exactly when f(x) is true, leaves
the inputs unchanged and returns scratch qubits to zero.

`xor_oracle_of_clean` is universal (all X/CX/MCX circuits, all f).  `validateXor_sound`: the per-instance
validator is sound for all `(x, y)`.
The semantic theorems `C06_fragment_partial` and `C06_general_partial` (end of the file: the general class of
`C03_general_partial` with one return bit) are proved for the model of the repaired compiler
(`docs/fixes/CC-*.diff`).  Both are C02 and C03 put together: a circuit that is `C02.Correct`
for the return bit and `C03.Clean` outside its qubit is correct and clean from `y = 0`
(`cleanFromZero_of_correct_clean`), and `xor_oracle_of_clean` does the rest.
-/
namespace QV.C06
open QV QV.Compiler

/-- the circuit is an xor-oracle for `f` on output qubit `r`: from the basis state holding the arguments `x`
and `y` on qubit `r` (all other qubits zero) it ends in the same state with `y xor f(x)` on `r` – inputs
unchanged, scratch qubits zero -/
def XorOracle (gates : List AGate) (numQubits nIn r : Nat) (f : List Bool → Bool) : Prop :=
  ∀ (x : List Bool) (y : Bool), x.length = nIn →
    runClassical gates ((initState x numQubits).set r y) = (initState x numQubits).set r (Bool.xor y (f x))

/-- correct and clean from `y = 0` -/
def CleanFromZero (gates : List AGate) (numQubits nIn r : Nat) (f : List Bool → Bool) : Prop :=
  ∀ x : List Bool, x.length = nIn →
    runClassical gates (initState x numQubits) = (initState x numQubits).set r (f x)

/-- if the output qubit `r` (not an argument qubit) is never a control, a circuit that is correct and clean from
`y = 0` is an xor-oracle for both values of `y` -/
theorem xor_oracle_of_clean (gates : List AGate) (numQubits nIn r : Nat) (f : List Bool → Bool)
    (hr : nIn ≤ r) (hnc : retNeverControl gates r = true)
    (h0 : CleanFromZero gates numQubits nIn r f) : XorOracle gates numQubits nIn r f := by
  intro x y hx
  have hz := initState_getD_out x numQubits r (by omega)
  cases y with
  | false =>
    rw [set_false_id _ r hz, h0 x hx]; simp
  | true =>
    rw [set_eq_flip_of_false _ r hz, runClassical_flip gates r hnc, h0 x hx, flip_set]; simp

/-- soundness of the per-instance validator, for all `(x, y)`, qubit by qubit -/
theorem validateXor_sound (gates : List AGate) (numQubits nIn r : Nat) (f : List Bool → Bool)
    (h : validateXor gates numQubits nIn r f = true) :
    ∀ (x : List Bool) (y : Bool), x.length = nIn → ∀ q, q < numQubits →
      let final := runClassical gates ((initState x numQubits).set r y)
      (q = r → final.getD q false = Bool.xor y (f x)) ∧
      (q ≠ r → q < nIn → final.getD q false = x.getD q false) ∧
      (q ≠ r → nIn ≤ q → final.getD q false = false) := by
  intro x y hx q hq
  simp only [validateXor, Bool.and_eq_true, List.all_eq_true] at h
  have hc := h.2 x (mem_allBits' hx)
  have hy : checkXor gates numQubits nIn r f x y = true := by
    cases y
    · exact hc.1
    · exact hc.2
  simp only [checkXor, List.all_eq_true, List.mem_range] at hy
  have := hy q hq
  refine ⟨?_, ?_, ?_⟩
  · intro e; simpa [e] using this
  · intro ne hlt
    simpa [ne, hlt] using this
  · intro ne hge
    have h2 : ¬ q < nIn := by omega
    simpa [ne, h2] using this

/-- non-vacuity: a Toffoli is an xor-oracle for `a & b` and meets the hypotheses of
`xor_oracle_of_clean` -/
example : validateXor [{ cls := .CCX, wires := [0, 1, 2] }] 3 2 2 (fun x => x.getD 0 false && x.getD 1 false) = true
    ∧ retNeverControl [{ cls := .CCX, wires := [0, 1, 2] }] 2 = true := by decide

/-- a correct, clean circuit that *does* use its output qubit as a control need not be an
xor-oracle: `CX 0→2; CX 2→1; CX 0→1` copies the argument into the output qubit 2 and then into the scratch
qubit 1 twice (from the output, from the argument), which cancels only if the output qubit started as 0 -/
theorem ret_as_control_witness :
    validateClean [{ cls := .CX, wires := [0, 2] }, { cls := .CX, wires := [2, 1] }, { cls := .CX, wires := [0, 1] }] 3 1 [2] = true ∧
    validateXor [{ cls := .CX, wires := [0, 2] }, { cls := .CX, wires := [2, 1] }, { cls := .CX, wires := [0, 1] }] 3 1 2 (fun x => x.getD 0 false) = false := by
  decide

/-! ## Xor-oracles on the proved fragment (`QV/Proofs/CompilerClean.lean`) -/

/-- C06 from C02 and C03, for any gate list: `Correct` for a return bit `r` on the qubit `q` and `Clean`
with no output qubit other than `q` is correct and clean from `y = 0` – the one-qubit case of
`EndToEnd.final_of_correct_clean` -/
theorem cleanFromZero_of_correct_clean {gates : List AGate} {numQubits : Nat} {qmap : List (String × Nat)}
    {inputs : List String} {defs : List (String × BExp)} {rets : List String} {r : String} {q : Nat}
    (hr : r ∈ rets) (hq : dictGet? qmap r = some q) (hqlt : q < numQubits) (hqn : inputs.length ≤ q)
    (hc : C02.Correct gates numQubits qmap inputs defs rets)
    (hcl : C03.Clean gates numQubits inputs.length (rets.filterMap (dictGet? qmap)))
    (hout : ∀ i ∈ rets.filterMap (dictGet? qmap), i = q) :
    CleanFromZero gates numQubits inputs.length q (fun x => envOf (evalDefs defs (inputs.zip x)) r) := by
  intro x hx
  rw [EndToEnd.final_of_correct_clean (by omega) hc hcl x hx, EndToEnd.outReg_single hc hr hq hqn hout x hx,
    initState, List.set_append_right _ _ (hx ▸ hqn), hx]

/-- C06 on the tree-like single-definition fragment (`inXorFragment`: `inCleanFragment` – `Or`s of any
arity –, and the defined name is a return name `_ret…` or the expression is compound, so the
output qubit is not an argument qubit), with `uncompute = true`: for every successful run of the
compiler model the qubit `q` of the return name is never a control (`retNeverControl`) and the circuit
is an xor-oracle on `q` for the function the definition denotes.  `compile_single_clean` says where the output
qubit is and that it is never a control. -/
theorem C06_fragment_partial (inputs : List String) (defs : List (String × BExp)) (rets : List String)
    (choices : List Nat) (s : CState)
    (hf : inXorFragment inputs defs rets = true)
    (h : (compile inputs defs (some rets) true).run { choices := choices } = .ok ((), s)) :
    ∀ r ∈ rets, ∃ q, dictGet? s.qc.qmap r = some q ∧ inputs.length ≤ q ∧
      retNeverControl s.qc.gates.toList q = true ∧
      XorOracle s.qc.gates.toList s.qc.numQubits inputs.length q
        (fun x => envOf (evalDefs defs (inputs.zip x)) r) := by
  obtain ⟨hfrag, hsym⟩ := inXorFragment_parts hf
  have hc := C02.C02_fragment_partial inputs defs rets true choices s hfrag h
  have hcl := C03.C03_fragment_partial inputs defs rets choices s hfrag h
  obtain ⟨r, e, rfl, hnd, hfr, hov, htl, hrets⟩ := inFragment_single hfrag
  have hout := hsym r e rfl
  intro r' hr'
  have hrr : r' = r := hrets r' hr'
  subst hrr
  obtain ⟨q, hq, _, hge, hnc, _⟩ :=
    compile_single_clean h rfl hr' hnd hfr hov htl (List.replicate inputs.length false) List.length_replicate
  have hqn : inputs.length ≤ q := hge hout
  refine ⟨q, hq, hqn, hnc hqn, xor_oracle_of_clean _ _ _ _ _ hqn (hnc hqn)
    (cleanFromZero_of_correct_clean hr' hq ((compile_ok h).1.qmap_lt _ (dictGet?_mem hq)) hqn hc hcl ?_)⟩
  intro i hi
  obtain ⟨r'', hr'', hi'⟩ := List.mem_filterMap.mp hi
  rw [hrets r'' hr'', hq] at hi'
  exact (Option.some.inj hi').symm

/-- an instance of the class of `C06_fragment_partial` -/
example : inXorFragment ["a", "b", "c"]
    [("_ret", .and [.or [.and [.sym "a", .not (.sym "b")], .xor [.sym "c", .not (.and [.sym "a", .sym "c"])]],
                    .sym "b"])] ["_ret"] = true := by
  decide +kernel

/-- another instance: an `Or` with four arguments, three of them bare argument symbols (or-chain) -/
example : inXorFragment ["a", "b", "c", "d"]
    [("_ret", .xor [.or [.sym "a", .sym "b", .not (.sym "c"), .sym "d"], .and [.sym "a", .sym "d"]])] ["_ret"] = true := by
  decide +kernel

/-- the part of `inCleanFragment` the class excludes: a bare argument symbol under a name that is not a
return name is an alias of the argument qubit (no gate at all), which is clean but not an xor-oracle
on that qubit -/
theorem C06_fragment_alias_witness :
    inCleanFragment ["a"] [("r", .sym "a")] ["r"] = true ∧ inXorFragment ["a"] [("r", .sym "a")] ["r"] = false ∧
    validateClean [] 1 1 [0] = true ∧ validateXor [] 1 1 0 (fun x => x.getD 0 false) = false := by
  decide +kernel

/-! ## Xor-oracles on the general class (`QV/Proofs/CompilerGen*.lean`) -/

/-- C06 on the general class: one requested return bit `r`, the definition list in the class of
`C03_general_partial` (`inGeneralClean`: intermediates first – shared sub-expressions and cache hits inside and
across definitions, re-binding, constants, re-used ancillas –, the return bit a new name defined once, last), final
uncomputation on.  If the output qubit is not an argument qubit and the compiled circuit never uses it as a control
(`retNeverControl`, a decidable check on the compiled gate list – it fails e.g. when the return bit is an alias of
an intermediate that other gates read), the circuit is an xor-oracle for the value the reference semantics gives
`r`. -/
theorem C06_general_partial (inputs : List String) (defs : List (String × BExp)) (r : String)
    (choices : List Nat) (s : CState) (q : Nat)
    (hf : inGeneralClean inputs defs [r] = true)
    (h : (compile inputs defs (some [r]) true).run { choices := choices } = .ok ((), s))
    (hq : dictGet? s.qc.qmap r = some q) (hqn : inputs.length ≤ q)
    (hnc : retNeverControl s.qc.gates.toList q = true) :
    XorOracle s.qc.gates.toList s.qc.numQubits inputs.length q
      (fun x => envOf (evalDefs defs (inputs.zip x)) r) := by
  have hc := C02.C02_general_partial inputs defs [r] true choices s (inGeneralClass_of_clean hf) h
  have hcl := C03.C03_general_partial inputs defs [r] choices s (inGeneralCleanClass_of_clean hf) h
  refine xor_oracle_of_clean _ _ _ _ _ hqn hnc (cleanFromZero_of_correct_clean List.mem_cons_self hq
    ((compile_ok h).1.qmap_lt _ (dictGet?_mem hq)) hqn hc hcl ?_)
  simp [hq]

/-- an instance of the static class: an intermediate whose sub-expression `And(a, b)` the return statement finds in
the cache -/
example : inGeneralXor ["a", "b", "c"]
    [("m", .or [.and [.sym "a", .sym "b"], .sym "c"]),
     ("_ret", .xor [.and [.sym "a", .sym "b"], .sym "m", .not (.sym "c")])] ["_ret"] = true := by
  decide +kernel

end QV.C06
