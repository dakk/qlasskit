import QV.Proofs.Bind
import QV.Proofs.BindTyped
/-!
# C08 – Binding parameters is specialisation

> For a function with compile-time parameters, binding them to values v yields a function of the
> remaining arguments that agrees, on every input, with the unbound Python function called with
> the parameters set to v, for every supported parameter type, any number of parameters and any
> keyword order.  Binding does not alter the unbound object, so it can be bound again to other
> values.

Model: `QV/Model/Bind.lean` (`UnboundQlassf.bind`, `is_parameter_annotation`, the parameter
detection of `QlassF.from_function`, `to_val`) and `QV/Model/BindAnn.lean` (`is_value_of` on the annotation as written).
The theorems hold for every value algebra
`A : Alg` (operators and constants are parameters of the evaluator), in particular for Python's
own values (`PyAlg`) and for qlasskit's width-aware values (`WAlg`); for every program, every
number of parameters, every keyword list and every argument list.

The listed defects are `annNestedContainerUnread` (last section) and `bindDropsType`: `bind` injects `k = v` as a bare literal,
so the declared `Parameter[T]` is lost and the constant is typed by `const_to_qtype` (smallest
`Qint` that holds the value).  Python's values do not notice; the width-aware values do
(`bind_drops_type_witness`).

The repaired `bind` (quirk off) is docs/fixes/C08-bind-typed-constants.diff; what it injects:
`bind_keeps_declared_type`.  "At their declared types" below is `Prog.keptTy`: the
declared type for a value of it; a keyword value that is no value of the declared type (15 for `Qint[3]`,
a tuple of the wrong length, any value of a parameter declared `Parameter[List[int]]`) has no declared-type
reading and keeps the type of its literal.
-/
namespace QV.C08
open QV QV.Bind

/-- what CPython guarantees of a function definition, plus: every argument `bind` removes is one
    `from_function` registered (the two detectors agree on this signature) -/
def WellFormed (p : Prog) : Prop :=
  (p.args.map (·.name)).Nodup ∧ ∀ a ∈ p.args, isParamBind a.ann = isParamFrom a.ann

/-- keyword arguments have distinct names (a Python call cannot repeat a keyword) -/
def KwOk (kv : List (String × PyVal)) : Prop := (kv.map (·.1)).Nodup

/-- The property, for the library whose `bind` has quirks `q`.  For every value algebra:
 (1) a successful bind denotes the unbound function with the parameters set to the given values
     *at their declared types*, on every argument list (any number of parameters, any keyword
     order); (2) bind succeeds exactly when the keywords are the parameters (in some order);
 (3) the unbound object is the same after any history of binds, and a bind after any history
     returns what it returns on the fresh object. -/
def C08_statement_for (q : Quirks) : Prop :=
  (∀ (A : Alg) (p : Prog) (kv : List (String × PyVal)) (xs : List A.V) (p' : Prog),
      WellFormed p → KwOk kv → QV.Bind.bind q p kv = .ok p' →
        Sem A p' xs = specialised A p.keptTy p kv xs)
  ∧ (∀ (p : Prog) (kv : List (String × PyVal)), WellFormed p → KwOk kv →
      ((∃ p', QV.Bind.bind q p kv = .ok p') ↔ (kv.map (·.1)).Perm p.paramNames))
  ∧ (∀ (u : Unbound) (hist : List (List (String × PyVal))) (kv : List (String × PyVal)),
      u.after q hist = u ∧ ((u.after q hist).bindStep q kv).2 = QV.Bind.bind q u.funAst kv)

def C08_statement : Prop := C08_statement_for Quirks.none

/-- what a successful bind returns: the arguments that are not `Parameter[...]`, the constant
    assignments in keyword order in front of the unchanged body -/
theorem bind_shape (q : Quirks) (p p' : Prog) (kv : List (String × PyVal))
    (h : QV.Bind.bind q p kv = .ok p') :
    p'.name = p.name ∧ p'.args = nonParams p.args ∧ p'.body = injected q p kv ++ p.body
      ∧ p'.ret = p.ret := by
  obtain rfl := bind_ok h
  exact ⟨rfl, rfl, rfl, rfl⟩

/-- the length error is raised first, and exactly when the number of keywords differs -/
theorem bind_length_error_iff (q : Quirks) (p : Prog) (kv : List (String × PyVal)) :
    QV.Bind.bind q p kv = .error .lengthMismatch ↔ kv.length ≠ p.parameters.length := by
  obtain ⟨hl, e⟩ | ⟨hl, _, _, e⟩ | ⟨hl, _, e⟩ := bind_cases q p kv <;> simp [e, hl]

/-- "Unknown parameter k": right arity, and `k` is the first keyword that is not a parameter -/
theorem bind_unknown_error_iff (q : Quirks) (p : Prog) (kv : List (String × PyVal)) (k : String) :
    QV.Bind.bind q p kv = .error (.unknown k) ↔
      kv.length = p.parameters.length ∧ firstUnknown p.paramNames kv = some k := by
  obtain ⟨hl, e⟩ | ⟨hl, _, hf, e⟩ | ⟨hl, hf, e⟩ := bind_cases q p kv <;> simp [*]

theorem bind_unknown_is_unknown (q : Quirks) (p : Prog) (kv : List (String × PyVal)) (k : String)
    (h : QV.Bind.bind q p kv = .error (.unknown k)) : k ∈ kv.map (·.1) ∧ k ∉ p.paramNames :=
  firstUnknown_some _ _ _ ((bind_unknown_error_iff q p kv k).mp h).2

theorem bind_ok_iff (q : Quirks) (p : Prog) (kv : List (String × PyVal)) :
    (∃ p', QV.Bind.bind q p kv = .ok p') ↔
      kv.length = p.parameters.length ∧ ∀ k ∈ kv.map (·.1), k ∈ p.paramNames := by
  obtain ⟨hl, e⟩ | ⟨hl, k, hf, e⟩ | ⟨hl, hf, e⟩ := bind_cases q p kv
  · exact ⟨fun ⟨_, h⟩ => (by cases e ▸ h), fun h => absurd h.1 hl⟩
  · have := firstUnknown_some _ _ _ hf
    exact ⟨fun ⟨_, h⟩ => (by cases e ▸ h), fun h => absurd (h.2 k this.1) this.2⟩
  · exact ⟨fun _ => ⟨hl, firstUnknown_none _ _ hf⟩, fun _ => ⟨_, e⟩⟩

theorem paramNames_nodup (p : Prog) (hwf : WellFormed p) : p.paramNames.Nodup := by
  rw [paramNames_eq p hwf.2]
  exact List.Nodup.sublist (List.Sublist.map _ List.filter_sublist) hwf.1

/-- errors exactly on an arity / name mismatch: with distinct keywords, bind succeeds iff the
    keywords are a permutation of the parameters -/
theorem bind_ok_iff_perm (q : Quirks) (p : Prog) (kv : List (String × PyVal))
    (hwf : WellFormed p) (hkw : KwOk kv) :
    (∃ p', QV.Bind.bind q p kv = .ok p') ↔ (kv.map (·.1)).Perm p.paramNames := by
  rw [bind_ok_iff]
  have hlen : p.parameters.length = p.paramNames.length := by simp [Prog.paramNames]
  constructor
  · rintro ⟨hl, hsub⟩
    exact keys_cover _ _ hkw hsub (by simp [← hlen, ← hl])
  · intro hp
    refine ⟨by rw [hlen, ← hp.length_eq]; simp, fun k hk => hp.subset hk⟩

/-- bind is specialisation, for every quirk setting `q`, any value algebra, any
    number of parameters, any keyword order, every argument list: the bound program denotes the
    unbound one with the parameter arguments set to the injected constants (coerced to
    `tyOf q p k`: the declared type, or nothing with the quirk). -/
theorem bind_sem (A : Alg) (q : Quirks) (p p' : Prog) (kv : List (String × PyVal)) (xs : List A.V)
    (hwf : WellFormed p) (hkw : KwOk kv) (hb : QV.Bind.bind q p kv = .ok p') :
    Sem A p' xs = specialised A (tyOf q p) p kv xs := by
  have hperm := (bind_ok_iff_perm q p kv hwf hkw).mp ⟨p', hb⟩
  rw [Sem_bind A xs hb]
  unfold specialised
  cases hvals : kvVals A (tyOf q p) kv with
  | none => rfl
  | some vals =>
    -- the keywords are the parameters: the unbound function starts from the same environment
    have hk := kvVals_keys A _ kv vals hvals
    rw [Option.bind_some, Option.bind_some, ← merge_bindArgs vals p.args xs (hk ▸ hkw)
      (fun a ha => by rw [hk, hperm.mem_iff, mem_paramNames_iff p hwf.1 hwf.2 ha])
      (fun k hk' => paramNames_subset p k (hperm.subset (hk ▸ hk'))), Option.bind_assoc]
    rfl

/-- a keyword list does not run into the defect when every value, coerced to its declared
    type, is the same constant as without coercion -/
def NoTrigger (A : Alg) (q : Quirks) (p : Prog) (kv : List (String × PyVal)) : Prop :=
  q.bindDropsType = true → ∀ k v, (k, v) ∈ kv → constVal A (p.keptTy k v) v = constVal A none v

theorem kvVals_congr (A : Alg) (ty ty' : String → PyVal → Option Ty) (kv : List (String × PyVal))
    (h : ∀ k v, (k, v) ∈ kv → constVal A (ty k v) v = constVal A (ty' k v) v) :
    kvVals A ty kv = kvVals A ty' kv := by
  induction kv with
  | nil => rfl
  | cons hd t ih =>
    obtain ⟨k, v⟩ := hd
    simp only [kvVals]
    rw [h k v (by simp), ih (fun k v hkv => h k v (by simp [hkv]))]

/-- the property for every quirk setting `q`, away from the defect `bindDropsType` (`NoTrigger`) -/
theorem C08_partial (A : Alg) (q : Quirks) (p p' : Prog) (kv : List (String × PyVal))
    (xs : List A.V) (hwf : WellFormed p) (hkw : KwOk kv) (hb : QV.Bind.bind q p kv = .ok p')
    (hnt : NoTrigger A q p kv) :
    Sem A p' xs = specialised A p.keptTy p kv xs := by
  rw [bind_sem A q p p' kv xs hwf hkw hb]
  unfold specialised
  rw [kvVals_congr A (tyOf q p) p.keptTy kv]
  intro k v hkv
  unfold tyOf
  cases hq : q.bindDropsType
  · simp
  · simp only [if_true]
    exact (hnt hq k v hkv).symm

/-- Python's values carry no declared type: for them every quirk setting satisfies the
    specification on every program, keyword list and argument list -/
theorem bind_sem_python (q : Quirks) (p p' : Prog) (kv : List (String × PyVal)) (xs : List PV)
    (hwf : WellFormed p) (hkw : KwOk kv) (hb : QV.Bind.bind q p kv = .ok p') :
    Sem PyAlg p' xs = specialised PyAlg p.keptTy p kv xs := by
  apply C08_partial PyAlg q p p' kv xs hwf hkw hb
  intro _ k v _
  unfold constVal
  cases evalExp PyAlg Env.empty (toVal v) with
  | none => rfl
  | some x => cases p.keptTy k v <;> rfl

/-- what the repaired bind injects: for keyword `k = v` the typed assignment `k: T = v` exactly when `T` is
    the declared type of `k` and `v` is a value of `T`; the bare literal otherwise, and always with the quirk -/
theorem bind_keeps_declared_type (q : Quirks) (p : Prog) (kv : List (String × PyVal)) :
    injected q p kv = kv.map (fun e => (⟨e.1, if q.bindDropsType then none else p.keptTy e.1 e.2, toVal e.2⟩ : Stmt))
    ∧ ∀ k v t, p.keptTy k v = some t ↔ (p.declTy k = some t ∧ isValueOf t v = true) := by
  refine ⟨rfl, ?_⟩
  intro k v t
  unfold Prog.keptTy
  cases p.declTy k with
  | none => simp
  | some t' =>
    by_cases hv : isValueOf t' v = true
    · simp only [hv, if_true, Option.some.injEq]
      constructor
      · rintro rfl; exact ⟨rfl, hv⟩
      · rintro ⟨h, _⟩; exact h
    · simp only [hv, Bool.false_eq_true, if_false, reduceCtorEq, false_iff]
      rintro ⟨h, h'⟩
      simp only [Option.some.injEq] at h
      subst h
      exact hv h'

/-- the typed constant of an integer parameter is `Qint_w.const(v)` -/
theorem typed_const_qint (q : Quirks) (w : Nat) (v : Int)
    (h : isValueOf (.qint w) (.atom (.i v)) = true) :
    constVal (WAlg q) (some (.qint w)) (.atom (.i v)) = some (.q (qintConst w v))
    ∧ (qintConst w v).length = w :=
  ⟨(constVal_int q _ v).trans (wCast_const_qint w v h), qintConst_length w v (isValueOf_qint_pos h)⟩

/-- a value of the declared type is never rejected, in the width-aware values: the typed constant is
    defined and has the shape of the declared type (every `Qint[n]` component exactly `n` bits) -/
theorem typed_const_defined (q : Quirks) (t : Ty) (v : PyVal) (h : isValueOf t v = true) :
    ∃ x, constVal (WAlg q) (some t) v = some x ∧ hasTy t x := by
  obtain ⟨y, x, he, hc, ht⟩ := typed_defined q t v h
  exact ⟨x, by unfold constVal; rw [he]; exact hc, ht⟩

/-- bind is history-free: after any sequence of binds the unbound object is what it was, and
    a bind returns what it returns on the fresh object -/
theorem bind_pure (q : Quirks) (u : Unbound) (hist : List (List (String × PyVal)))
    (kv : List (String × PyVal)) :
    u.after q hist = u ∧ ((u.after q hist).bindStep q kv).2 = QV.Bind.bind q u.funAst kv := by
  have h : ∀ hist : List (List (String × PyVal)), u.after q hist = u := by
    intro hist
    induction hist with
    | nil => rfl
    | cons kv' t ih => simpa [Unbound.after, Unbound.bindStep] using ih
  rw [h hist]
  exact ⟨rfl, rfl⟩

/-- a successful bind leaves no `Parameter[...]` argument: the result is a bound function -/
theorem bind_result_bound (q : Quirks) (p p' : Prog) (kv : List (String × PyVal))
    (hwf : WellFormed p) (hb : QV.Bind.bind q p kv = .ok p') : p'.isUnbound = false := by
  obtain ⟨_, hargs, _, _⟩ := bind_shape q p p' kv hb
  unfold Prog.isUnbound Prog.parameters
  rw [hargs]
  have : (nonParams p.args).filter (fun a => isParamFrom a.ann) = [] := by
    apply List.filter_eq_nil_iff.mpr
    intro a ha
    have hm := List.mem_filter.mp ha
    have := hwf.2 a hm.1
    simp_all
  simp [this]

theorem C08_full : C08_statement := by
  refine ⟨?_, ?_, ?_⟩
  · intro A p kv xs p' hwf hkw hb
    exact C08_partial A Quirks.none p p' kv xs hwf hkw hb (by intro h; cases h)
  · intro p kv hwf hkw
    exact bind_ok_iff_perm Quirks.none p kv hwf hkw
  · intro u hist kv
    exact bind_pure Quirks.none u hist kv

/-- `def test(c: Parameter[Qint[4]], a: Qint[4]) -> Qint[4]: return (c << 2) + a` -/
def wProg : Prog :=
  { name := "test"
    args := [⟨"c", .sub (.name "Parameter") (.qint 4)⟩, ⟨"a", .sub (.name "Qint") (.other "4")⟩]
    body := []
    ret := .bin .add (.bin .shl (.var "c") (.const (.i 2))) (.var "a") }

def wKv : List (String × PyVal) := [("c", .atom (.i 3))]

/-- what `test.bind(c=3)` hands to the translator with the quirk `bindDropsType`: `def test(a): c = 3; return (c << 2) + a` -/
def wBound : Prog :=
  { name := "test"
    args := [⟨"a", .sub (.name "Qint") (.other "4")⟩]
    body := [⟨"c", none, .const (.i 3)⟩]
    ret := .bin .add (.bin .shl (.var "c") (.const (.i 2))) (.var "a") }

def flat : Option WV → Option (List Bool)
  | some (.q l) => some l
  | some (.b v) => some [v]
  | _ => none

def pyInt : Option PV → Option Int
  | some (.i v) => some v
  | _ => none

theorem wProg_wf : WellFormed wProg := by
  refine ⟨by decide, ?_⟩
  intro a ha
  simp only [wProg, List.mem_cons, List.not_mem_nil, or_false] at ha
  rcases ha with rfl | rfl <;> rfl

theorem wKv_ok : KwOk wKv := by unfold KwOk; decide

example : WellFormed wProg := wProg_wf

example : KwOk wKv := wKv_ok

example : ∃ p', QV.Bind.bind { bindDropsType := true } wProg wKv = .ok p' := ⟨_, rfl⟩

/-- witness of `bindDropsType`: `test.bind(c=3)` on `a = 0`.  Python: `(3 << 2) + 0 = 12`;
    the unbound function at its declared type `Qint[4]`: `12`; the bound function with the flag
    on: the literal `3` is a `Qint2`, `3 << 2` is `0` there, result `0`. -/
theorem bind_drops_type_witness :
    let q : Quirks := { bindDropsType := true }
    let a0 : WV := .q [false, false, false, false]
    (∃ p', QV.Bind.bind q wProg wKv = .ok p' ∧ flat (Sem (WAlg q) p' [a0]) = some [false, false, false, false])
    ∧ flat (specialised (WAlg q) wProg.keptTy wProg wKv [a0]) = some [false, false, true, true]
    ∧ pyInt (specialised PyAlg wProg.keptTy wProg wKv [.i 0]) = some 12
    ∧ ¬ C08_statement_for q := by
  intro q a0
  have hb : QV.Bind.bind q wProg wKv = .ok wBound := rfl
  have h1 : flat (Sem (WAlg q) wBound [a0]) = some [false, false, false, false] := by decide
  have h2 : flat (specialised (WAlg q) wProg.keptTy wProg wKv [a0]) = some [false, false, true, true] := by
    decide
  refine ⟨⟨_, hb, h1⟩, h2, by decide, ?_⟩
  intro hst
  have := hst.1 (WAlg q) wProg wKv [a0] _ wProg_wf wKv_ok hb
  rw [this, h2] at h1
  cases h1

/-- with the flag off the witness comes out right -/
theorem bind_typed_on_witness :
    ∃ p', QV.Bind.bind Quirks.none wProg wKv = .ok p' ∧
      flat (Sem (WAlg Quirks.none) p' [.q [false, false, false, false]]) = some [false, false, true, true] :=
  ⟨_, rfl, by decide⟩

/-! ## `is_value_of` on the annotation as written accepts exactly the values of the declared shape

`isValueOfAnn` (`QV/Model/BindAnn.lean`) follows `is_value_of` on the annotation the user wrote, before
`Qlist` / `Qmatrix` are elaborated to nested tuples: which argument counts the rows, which the entries of a
row.  (The code-model correspondence `c08.isvalueof` compares it with the real function on every run.) -/

/-- `Qmatrix[T, n, m]`: exactly the iterables of `n` rows, every row an iterable of `m` values of `T` –
    for every element annotation, all sizes, every value (a transposed, ragged, too long / short value of a
    non-square shape is not a value) -/
theorem isValueOf_qmatrix_shape (t : AnnE) (n m : Nat) (hn : 0 < n) (hm : 0 < m) (v : PyVal) :
    isValueOfAnn (.sub "Qmatrix" [t, .int n, .int m]) v = true ↔
      ∃ rows, v = .iter rows ∧ rows.length = n ∧
        ∀ r ∈ rows, ∃ xs, r = .iter xs ∧ xs.length = m ∧ ∀ x ∈ xs, isValueOfAnn t x = true := by
  cases v with
  | atom a => simp [isValueOfAnn, AnnE.head, scalarValueOf]
  | iter ws =>
    have := rows_iff t m ws
    simp only [Bool.and_eq_true, List.all_eq_true] at this
    simp [isValueOfAnn, AnnE.head, AnnE.posInt, hn, hm, and_assoc, this]

/-- `Qlist[T, n]`: exactly the iterables of `n` values of `T` -/
theorem isValueOf_qlist_shape (t : AnnE) (n : Nat) (hn : 0 < n) (v : PyVal) :
    isValueOfAnn (.sub "Qlist" [t, .int n]) v = true ↔
      ∃ xs, v = .iter xs ∧ xs.length = n ∧ ∀ x ∈ xs, isValueOfAnn t x = true := by
  cases v with
  | atom a => simp [isValueOfAnn, AnnE.head, scalarValueOf]
  | iter ws => simp [isValueOfAnn, AnnE.head, AnnE.posInt, hn, allValueOf_iff]

/-- `Tuple[T1, .., Tk]` (k > 0): exactly the iterables of `k` values, the i-th a value of `Ti` -/
theorem isValueOf_tuple_shape (ts : List AnnE) (h : ts ≠ []) (v : PyVal) :
    isValueOfAnn (.sub "Tuple" ts) v = true ↔
      ∃ xs, v = .iter xs ∧ xs.length = ts.length ∧ ∀ p ∈ ts.zip xs, isValueOfAnn p.1 p.2 = true := by
  cases v with
  | atom a => simp [isValueOfAnn, AnnE.head, scalarValueOf]
  | iter ws => simp [isValueOfAnn, AnnE.head, h, zip_iff]

/-- a size that is not a positive integer literal, or a wrong number of arguments: no value at all (the
    parameter is then bound as a bare literal, whatever the value) -/
theorem isValueOf_qmatrix_malformed (t : AnnE) (n m : Int) (h : n ≤ 0 ∨ m ≤ 0) (v : PyVal) :
    isValueOfAnn (.sub "Qmatrix" [t, .int n, .int m]) v = false := by
  cases v with
  | atom a => simp [isValueOfAnn, AnnE.head, scalarValueOf]
  | iter ws =>
    rcases h with h | h
    · have : ¬ n > 0 := by omega
      simp [isValueOfAnn, AnnE.head, AnnE.posInt, this]
    · have : ¬ m > 0 := by omega
      by_cases hn : n > 0 <;> simp [isValueOfAnn, AnnE.head, AnnE.posInt, this, hn]

/-- `Qint[w]` names the builtin class of that width, for every width of the generated table -/
theorem builtinName_qint : ∀ p ∈ QV.Gen.qintTypes, builtinName "Qint" [.int p.2] = some p.1 := by
  decide

theorem qintTypes_keys : ∀ p ∈ QV.Gen.qintTypes,
    lookupS QV.Gen.qintTypes p.1 = some p.2 ∧ (p.1 == "Qchar") = false := by
  decide

/-- scalars: `Qint[w]` (every shipped width) has exactly the ints `0 ≤ v < 2^w` as values – the same
    test as `isValueOf (.qint w)` of the elaborated types – and no bool, no string, no iterable -/
theorem isValueOf_qint_scalar : ∀ p ∈ QV.Gen.qintTypes, ∀ v : PyVal,
    isValueOfAnn (.sub "Qint" [.int p.2]) v = isValueOf (.qint p.2) v := by
  intro p hp v
  have hb := builtinName_qint p hp
  obtain ⟨hl, hc⟩ := qintTypes_keys p hp
  have hw : p.2 ∈ QV.Gen.qintTypes.map (·.2) := List.mem_map_of_mem hp
  cases v with
  | iter ws => simp [isValueOfAnn, AnnE.head, isValueOf]
  | atom a =>
    have : isValueOfAnn (.sub "Qint" [.int p.2]) (.atom a) = builtinValue p.1 a := by
      simp [isValueOfAnn, AnnE.head, scalarValueOf, hb]
    rw [this]
    cases a <;> simp [builtinValue, isValueOf, hl, hc, hw]

/-! ## Reading the declared type of the typed assignment (`AnnE.readable`, finding `annNestedContainerUnread`) -/

mutual
/-- with flag `annNestedContainerUnread` off every nesting of containers is read -/
theorem readable_repaired : ∀ a : AnnE, a.readable Quirks.none = true
  | .sub id elts => by
      unfold AnnE.readable
      split
      · cases elts with
        | nil => rfl
        | cons t l =>
          have := readable_repaired t
          simpa [Quirks.none] using this
      · split
        · next h => simp [Quirks.none] at h
        · exact readableList_repaired elts
  | .name _ => by simp [AnnE.readable]
  | .int _ => by simp [AnnE.readable]
  | .other => by simp [AnnE.readable]
theorem readableList_repaired : ∀ l : List AnnE, readableList Quirks.none l = true
  | [] => rfl
  | a :: l => by simp [readableList, readable_repaired a, readableList_repaired l]
end

/-- the listed defect `annNestedContainerUnread`: `[[1, 2, 3], [4, 5, 6]]` is a value of
    `Qlist[Qlist[Qint[4], 3], 2]` (so `bind` injects the typed assignment) and with the flag on that annotation is not
    read; a `Qlist` of tuples, a tuple of `Qlist`s and a `Qmatrix` are read; a one-element `Tuple` of a
    `Qmatrix` is not, a one-element `Tuple` of a `Qint` is -/
theorem nested_container_unread_witness :
    let q : Quirks := { annNestedContainerUnread := true }
    let q4 : AnnE := .sub "Qint" [.int 4]
    let ll : AnnE := .sub "Qlist" [.sub "Qlist" [q4, .int 3], .int 2]
    let i (k : Int) : PyVal := .atom (.i k)
    isValueOfAnn ll (.iter [.iter [i 1, i 2, i 3], .iter [i 4, i 5, i 6]]) = true
    ∧ ll.readable q = false
    ∧ ll.readable Quirks.none = true
    ∧ (AnnE.sub "Qlist" [.sub "Tuple" [.name "bool", q4], .int 2]).readable q = true
    ∧ (AnnE.sub "Tuple" [.sub "Qlist" [q4, .int 2], .sub "Qmatrix" [q4, .int 2, .int 1]]).readable q = true
    ∧ (AnnE.sub "Tuple" [.sub "Qmatrix" [q4, .int 2, .int 3]]).readable q = false
    ∧ (AnnE.sub "Tuple" [q4]).readable q = true := by
  decide

end QV.C08
