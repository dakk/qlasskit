import Mathlib.Algebra.Group.PUnit
import Mathlib.Data.ZMod.Defs
import QV.Proofs.CircuitOps
/-!
# C14 – Circuit composition operators compose

> Appending a circuit onto a list of qubits, adding two circuits, repeating a circuit n times and
> copying a circuit produce circuits whose action is, respectively, the appended circuit on those
> qubits after the first, the sequential composition, the n-fold composition and an independent
> equal circuit; removing adjacent identical gate pairs does not change the action; the inverse
> Fourier transform undoes the Fourier transform on any qubit list.  Operands are not modified.

Model: `QV.Model.CircuitOps` (operators of `qcircuit.py` / `qcircuitenhanced.py`, with Python
object identities).  Gate semantics is *any* `sem : GClass → Param → List Nat → M` into *any*
monoid `M`; `act sem c` is the product of the gates of `c.gates` in list (= time) order (`act`, `Independent`,
`CancelLaws`, `GidFun`, `FourierLaws` are defined in `QV/Proofs/CircuitOps.lean`).
"Independent / not modified" is stated on the modelled heap: `Circ.objs` are the mutable objects
reachable from a circuit, `Circ.apply w c` is how `c` looks after the heap write `w`.

The operators of the model are pure functions returning the new `self` (in-place operators) or
the result; that an in-place operator leaves its *other* operand alone is therefore part of the
model <-> code correspondence (checked on every case by the harness, before and after mutating
the result), not a theorem.
-/
namespace QV.C14
open QV QV.CircuitOps

/-- `append_circuit`: action = self, then the other circuit's gates on the given qubits; `self`
keeps its list objects; every other mutable object of the result is newly allocated -/
def AppendSpec : Prop := ∀ (a b : Circ) (qs : List Nat) (nx : Nat) (r : Circ) (nx' : Nat),
  appendCircuit a b qs nx = .ok (r, nx') →
    (∀ (M : Type) [Monoid M] (sem : Sem M),
      act sem r = act sem a * actA sem (b.gates.map (fun h => relabelG qs h.g))) ∧
    (∀ o ∈ r.objs, o ∈ a.objs ∨ nx ≤ o) ∧ r.numQubits = a.numQubits ∧ r.qmap = a.qmap

/-- `a + b`: sequential composition, in a circuit that shares no mutable object with `a` or `b` -/
def AddSpec : Prop := ∀ (a b : Circ) (nx : Nat) (r : Circ) (nx' : Nat), add a b nx = .ok (r, nx') →
    (∀ (M : Type) [Monoid M] (sem : Sem M), act sem r = act sem a * act sem b) ∧
    (a.below nx → b.below nx → Independent r a ∧ Independent r b)

/-- `c.repeat(n)`: n-fold composition, independent of `c` -/
def RepeatSpec (q : Quirks) : Prop := ∀ (c : Circ) (n nx : Nat) (r : Circ) (nx' : Nat),
  «repeat» q c n nx = .ok (r, nx') →
    (∀ (M : Type) [Monoid M] (sem : Sem M), act sem r = act sem c ^ n) ∧ (c.below nx → Independent r c)

/-- `c.copy()`: equal (identities aside), same action, no shared mutable object, no shared gate
object; `vanilla`: gates equal, fresh qubit names, nothing else carried over -/
def CopySpec : Prop := ∀ (c : Circ) (v : Bool) (nx : Nat),
    (v = false → (copy c v nx).1.erase = c.erase) ∧
    (v = true → (copy c v nx).1.erase.gates = c.erase.gates ∧ (copy c v nx).1.numQubits = c.numQubits ∧
      (copy c v nx).1.computed = [] ∧ (copy c v nx).1.qmap = defaultQmap c.numQubits) ∧
    (∀ (M : Type) [Monoid M] (sem : Sem M), act sem (copy c v nx).1 = act sem c) ∧
    (c.below nx → Independent (copy c v nx).1 c ∧ ∀ o ∈ (copy c v nx).1.gids, o ∉ c.gids)

/-- `remove_identities` returns, and does not change the action -/
def RemoveIdSpec (q : Quirks) : Prop := ∀ (M : Type) [Monoid M] (sem : Sem M), CancelLaws sem →
  ∀ (c : Circ) (nx : Nat), GidFun c →
    ∃ r nx', removeIdentities q c nx = .ok (r, nx') ∧ act sem r = act sem c ∧ r.computed = c.computed

/-- `iqft` after `qft` on any duplicate-free qubit list: both go through and the action is the
one before -/
def FourierSpec : Prop := ∀ (M : Type) [Monoid M] (sem : Sem M), FourierLaws sem →
  ∀ (c : Circ) (wl : List Nat) (nx : Nat), wl.Nodup → (∀ w ∈ wl, w ≤ c.numQubits) →
    ∃ c1 nx1 c2 nx2, qft c wl nx = (c1, nx1, none) ∧ iqft c1 wl nx1 = (c2, nx2, none) ∧
      act sem c2 = act sem c

/-- the property, for the library with the listed defects repaired -/
def C14_statement : Prop :=
  AppendSpec ∧ AddSpec ∧ RepeatSpec Quirks.none ∧ CopySpec ∧ RemoveIdSpec Quirks.none ∧ FourierSpec

theorem appendCircuit_spec : AppendSpec := by
  intro a b qs nx r nx' h
  refine ⟨fun _ _ sem => appendCircuit_act sem h, appendCircuit_objs h, ?_⟩
  obtain ⟨og, oc, rfl, -⟩ := appendCircuit_fresh h
  exact ⟨rfl, rfl⟩

/-- `self += other` is `append_circuit` on `range(other.num_qubits)`: plain composition (restates
`CircuitOps.iaddCirc_act`) -/
theorem iadd_act {M : Type} [Monoid M] (sem : Sem M) (a b : Circ) (nx : Nat) (r : Circ) (nx' : Nat)
    (h : iaddCirc a b nx = .ok (r, nx')) : act sem r = act sem a * act sem b := iaddCirc_act sem h

theorem add_spec : AddSpec := by
  intro a b nx r nx' h
  refine ⟨fun _ _ sem => add_act sem h, fun ha hb => ?_⟩
  exact ⟨independent_of_fresh ha (add_objsFrom h), independent_of_fresh hb (add_objsFrom h)⟩

/-- `+` and `+=` go through whenever the right operand is not wider and its gates stay on its
own qubits -/
theorem add_defined (a b : Circ) (nx : Nat) (hn : b.numQubits ≤ a.numQubits) (hb : b.wiresOk = true) :
    ∃ r nx', add a b nx = .ok (r, nx') := by
  unfold add
  exact iaddCirc_isOk (a := (deepcopy a nx).1) _ (by simpa [deepcopy, Circ.shift] using hn) hb

theorem repeat_spec_full : RepeatSpec Quirks.none := by
  intro c n nx r nx' h
  exact ⟨fun _ _ sem => repeat_act sem _ c n nx r nx' (Or.inr rfl) h,
    fun hc => independent_of_fresh hc (repeat_objsFrom h)⟩

/-- every quirk setting `q` (`repeatZero` on included): n-fold composition for every `n ≥ 1` -/
theorem repeat_spec_partial (q : Quirks) (c : Circ) (n nx : Nat) (r : Circ) (nx' : Nat) (hn : n ≠ 0)
    (h : «repeat» q c n nx = .ok (r, nx')) :
    (∀ (M : Type) [Monoid M] (sem : Sem M), act sem r = act sem c ^ n) ∧ (c.below nx → Independent r c) :=
  ⟨fun _ _ sem => repeat_act sem q c n nx r nx' (Or.inl hn) h,
    fun hc => independent_of_fresh hc (repeat_objsFrom h)⟩

theorem copy_spec : CopySpec := by
  intro c v nx
  refine ⟨?_, ?_, fun _ _ sem => copy_act sem c v nx, fun hc => ?_⟩
  · rintro rfl
    exact erase_shift c nx
  · rintro rfl
    simp [copy, Circ.erase, HGate.erase, HGate.shift, Function.comp_def]
  · exact ⟨independent_of_fresh hc (copy_objsFrom c v nx), from_disjoint hc.2 (copy_gidsFrom c v nx)⟩

theorem removeIdentities_spec_full : RemoveIdSpec Quirks.none := by
  intro M _ sem laws c nx hgid
  obtain ⟨r, hr⟩ := riLoop_none_ok c.gates.length c.gates []
  refine ⟨{ c with gates := r, gatesId := nx }, nx + 1, by simp [removeIdentities, hr], ?_, rfl⟩
  have := riLoop_act sem Quirks.none (fun g => g ∈ c.gates)
    (fun g h hg hh => hgid g hg h hh)
    (fun g _ hcan => laws.sq _ _ _ (by simpa [canCancel, Quirks.none] using hcan))
    (fun g _ hb => by simp only [gsem, hb]; exact laws.barrier _ _)
    c.gates.length c.gates [] r (fun g hg => hg) (by simp) hr
  simpa [act] using this

/-- every quirk setting `q`: on every gate list that does not run into a listed defect
(`riTriggers`: a pair cancelled while nothing is kept yet, or a cancelled non-involution) the
result is that of the model with all flags off -/
theorem removeIdentities_spec_partial (q : Quirks) (c : Circ) (nx : Nat) (ht : c.riTriggers = false) :
    removeIdentities q c nx = removeIdentities Quirks.none c nx := by
  simp only [removeIdentities, riLoop_noTrigger q _ _ _ ht]

theorem iqft_qft_spec : FourierSpec := by
  intro M _ sem laws c wl nx hnd hr
  have hv := fourier_gates_valid wl c.numQubits hnd hr
  obtain ⟨c1, nx1, h1, a1, n1⟩ := appendAll_spec sem _ c nx hv.1
  obtain ⟨c2, nx2, h2, a2, -⟩ := appendAll_spec sem _ c1 nx1 (n1 ▸ hv.2)
  exact ⟨c1, nx1, c2, nx2, h1, h2, by rw [a2, a1, mul_assoc, ← actA_append, qft_iqft_gates sem laws wl hnd, mul_one]⟩

/-- structural identity behind it, for every length -/
theorem iqft_structure (wl : List Nat) :
    iqftGates wl = swapLayer wl ++ (qftMain wl).reverse.map invGate ∧ qftGates wl = qftMain wl ++ swapLayer wl :=
  ⟨iqftGates_eq wl, rfl⟩

theorem C14_full : C14_statement :=
  ⟨appendCircuit_spec, add_spec, repeat_spec_full, copy_spec, removeIdentities_spec_full, iqft_qft_spec⟩

/-! ## witnesses: with its flag on, the model violates the property

`xGate gid`: gate object `gid`, wire-list object `gid + 1`; the same `gid` twice is the same applied gate object twice, which
is what `remove_identities` compares.  `circOf`: container ids 20–22, above the gate ids and below `nx = 30`. -/

def xGate (gid : Nat) : HGate := { g := { cls := .X, wires := [0], gid := gid }, wid := gid + 1 }
def sGate (gid : Nat) : HGate := { g := { cls := .S, wires := [0], gid := gid }, wid := gid + 1 }
def hGate1 : HGate := { g := { cls := .H, wires := [1], gid := 7 }, wid := 8 }
def circOf (n : Nat) (gs : List HGate) : Circ :=
  { numQubits := n, gates := gs, computed := gs, gatesId := 20, computedId := 21, qmapId := 22 }

/-- with `repeatZero` on `repeat(0)` is one copy: not the 0-fold composition -/
theorem repeat_zero_witness : ¬ RepeatSpec { repeatZero := true } := by
  intro h
  have := (h (circOf 1 [xGate 1]) 0 30 _ _ rfl).1 (Multiplicative Nat) countAll
  revert this
  decide

/-- the first two gates are the same applied gate: IndexError instead of a result -/
theorem removeIdentities_empty_result_witness :
    removeIdentities { removeIdEmptyResult := true } (circOf 2 [xGate 1, xGate 1, hGate1]) 30 = .error .indexError :=
  rfl

theorem removeIdentities_empty_result_violates : ¬ RemoveIdSpec { removeIdEmptyResult := true } := by
  intro h
  obtain ⟨r, nx', hr, _⟩ := h (Multiplicative Nat) countS countS_laws (circOf 2 [xGate 1, xGate 1, hGate1]) 30
    (by decide)
  rw [removeIdentities_empty_result_witness] at hr
  cases hr

def hGate0 : HGate := { g := { cls := .H, wires := [0], gid := 7 }, wid := 8 }
def hss : Circ := circOf 1 [hGate0, sGate 1, sGate 1]

/-- `H, S, S` (the same S object twice) becomes `H` -/
theorem removeIdentities_non_involution_witness :
    removeIdentities { cancelsNonInvolutions := true } hss 30 = .ok ({ hss with gates := [hGate0], gatesId := 30 }, 31) :=
  rfl

/-- … so the action changes (S·S = Z ≠ 1) under a semantics that satisfies the laws -/
theorem removeIdentities_non_involution_violates : ¬ RemoveIdSpec { cancelsNonInvolutions := true } := by
  intro h
  obtain ⟨r, nx', hr, ha, _⟩ := h (Multiplicative Nat) countS countS_laws hss 30 (by decide)
  rw [removeIdentities_non_involution_witness] at hr
  simp only [Except.ok.injEq, Prod.mk.injEq] at hr
  rw [← hr.1] at ha
  revert ha
  decide

/-! ## the hypotheses are satisfiable -/

/-- the laws hold in the trivial monoid, and (non-trivially) for `countS` -/
example : FourierLaws (fun _ _ _ => () : Sem Unit) := ⟨fun _ => rfl, fun _ _ => rfl, fun _ _ _ => rfl, fun _ _ _ _ _ _ _ => rfl⟩
example : CancelLaws countS := countS_laws
/-- commutative semantics satisfy `disjoint_comm`; this one tells H and CP gates apart from swaps -/
example : FourierLaws (fun c _ _ => if c = .Swap then Multiplicative.ofAdd (1 : ZMod 2) else 1 : Sem (Multiplicative (ZMod 2))) :=
  ⟨fun _ => by simp, fun _ _ => by decide, fun _ _ _ => by simp, fun _ _ _ _ _ _ _ => Commute.all _ _⟩
example : (circOf 2 [xGate 1, hGate1]).below 30 := by
  constructor <;> intro o ho <;> simp [circOf, Circ.objs, Circ.gids, xGate, hGate1] at ho <;> omega
example : GidFun (circOf 2 [xGate 1, xGate 1, hGate1]) := by decide
example : ∃ r nx', «repeat» Quirks.none (circOf 2 [xGate 1, hGate1]) 3 30 = .ok (r, nx') ∧ r.gates.length = 6 :=
  ⟨_, _, rfl, by decide⟩
example : ∃ r nx', appendCircuit (circOf 3 [hGate1]) (circOf 2 [xGate 1, hGate1]) [2, 0] 30 = .ok (r, nx') ∧
    r.gates.map (·.g.wires) = [[1], [2], [0]] := ⟨_, _, rfl, by decide⟩
example : (qft (circOf 3 []) [2, 0, 1] 30).2.2 = none := by decide +kernel
example : ∃ r nx', removeIdentities { removeIdEmptyResult := true, cancelsNonInvolutions := true }
    (circOf 2 [hGate1, xGate 1, xGate 1]) 30 = .ok (r, nx') ∧ r.gates = [hGate1] := ⟨_, _, rfl, by decide⟩

end QV.C14
