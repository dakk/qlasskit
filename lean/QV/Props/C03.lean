import QV.Proofs.Bennett
import QV.Props.C02
import QV.Proofs.CompilerGenClean
/-!
# C03 – Compiled circuits are clean: inputs preserved, scratch qubits back to zero

With uncomputation enabled, for every classical input the circuit leaves every argument qubit
unchanged and every qubit that is neither an argument nor an output in state zero.

Partial, as C02: `validateClean_sound` (per-instance validator, sound for all inputs) plus the
universal replay lemmas the uncomputation protocol rests on, plus – for every run of `compile`
– the layout the cleanliness statement is phrased in (`compile_input_qubits`, `compile_outs_defined`,
`compile_args_not_scratch`, `compile_replay_restores`).
The model follows the compiler with the repairs `docs/fixes/CC-*.diff`.  For that model the semantic theorems
`C03_fragment_partial` (the whole class of `C02_fragment_partial`) and `C03_general_partial` (end of the file:
the general class, definition lists with the intermediates first and the return bits last) are proved.
-/
namespace QV.C03
open QV QV.Compiler

/-- what it means for a circuit with `nIn` argument qubits (`0..nIn-1`) and output qubits `outs` to be clean:
from every basis state that holds the arguments (all other qubits zero) every argument qubit ends unchanged and
every qubit that is neither an argument nor an output ends as zero.  The property itself is "every successful
compilation with uncomputation on is `Clean`". -/
def Clean (gates : List AGate) (numQubits nIn : Nat) (outs : List Nat) : Prop :=
  ∀ x : List Bool, x.length = nIn → ∀ q, q < numQubits →
    let final := runClassical gates (initState x numQubits)
    (q < nIn → final.getD q false = x.getD q false) ∧
    (nIn ≤ q → q ∉ outs → final.getD q false = false)

theorem validateClean_sound (gates : List AGate) (numQubits nIn : Nat) (outs : List Nat)
    (h : validateClean gates numQubits nIn outs = true) : Clean gates numQubits nIn outs := by
  intro x hx q hq
  simp only [validateClean, Bool.and_eq_true, List.all_eq_true] at h
  have hc := h.2 x (mem_allBits' hx)
  simp only [checkClean, List.all_eq_true, List.mem_range] at hc
  have := hc q hq
  constructor
  · intro hlt; simpa [hlt] using this
  · intro hge hno
    have h1 : ¬ q < nIn := by omega
    have h2 : outs.contains q = false := by simpa using hno
    simp only [h1, if_false, h2, Bool.false_eq_true] at this
    simpa using this

/-- Bennett's trick; the compiler's `uncompute`/`uncompute_all` replay sub-sequences of the reversed body -/
theorem reverse_replay_restores (gs : List AGate) (h : ∀ g ∈ gs, g.wires.Nodup) (s : BState) :
    runClassical (gs ++ gs.reverse) s = s :=
  C02.reverse_replay_undoes gs h s

theorem gate_touches_only_target (g : AGate) (s : BState) (q : Nat) (h : g.wires.getLast? ≠ some q) :
    (g.applyClassical s).getD q false = s.getD q false :=
  applyClassical_getD_of_ne_target g s q h

theorem untargeted_qubit_unchanged (gs : List AGate) (q : Nat)
    (h : ∀ g ∈ gs, g.wires.getLast? ≠ some q) (s : BState) :
    (runClassical gs s).getD q false = s.getD q false :=
  runClassical_getD_untargeted gs q h s

/-- Bennett replay with a keep set `K` such that no gate with an unkept target reads a kept qubit (what
`uncompute_all(keep)` relies on) -/
theorem bennett_replay_keep (K : Nat → Bool) (gs : List AGate) (hn : ∀ g ∈ gs, g.wires.Nodup)
    (hs : ReplaySafe K gs) (s : BState) :
    let final := runClassical (gs ++ (replayed K gs).reverse) s
    (∀ q, K q = true → final.getD q false = (runClassical gs s).getD q false) ∧
    (∀ q, K q = false → final.getD q false = s.getD q false) :=
  bennett_replay K gs hn hs s

/-- non-vacuity of `bennett_replay_keep`: a Toffoli into scratch qubit 2 copied to the kept qubit 3 -/
example : ReplaySafe (fun q => q == 3) [{ cls := .CCX, wires := [0, 1, 2] }, { cls := .CX, wires := [2, 3] }] := by
  intro g hg
  simp at hg
  rcases hg with rfl | rfl <;> simp [targetIn, controlsOff]

/-- non-vacuity: compute-copy-uncompute of `a & b` is clean with output qubit 3 -/
example : validateClean [{ cls := .CCX, wires := [0, 1, 2] }, { cls := .CX, wires := [2, 3] },
    { cls := .CCX, wires := [0, 1, 2] }] 4 2 [3] = true := by decide

/-! ## Layout facts for every run of `compile` (proved in `QV/Proofs/CompilerInv.lean`) -/

/-- the argument qubits the `Clean` statement talks about: for every run of `compile` on fresh
argument names the `i`-th argument is on qubit `i`, i.e. `input_qubits = [0..n)` -/
theorem compile_input_qubits (inputs : List String) (defs : List (String × BExp))
    (ret : Option (List String)) (unc : Bool) (cs : List Nat) (s : CState)
    (h : (compile inputs defs ret unc).run { choices := cs } = .ok ((), s))
    (hf : C02.inputsFresh inputs defs = true) :
    inputs.map (dictGet? s.qc.qmap) = (List.range inputs.length).map some ∧
    inputs.length ≤ s.qc.numQubits := by
  obtain ⟨hlen, hpos⟩ := C02.compile_inputs_first inputs defs ret unc cs s h hf
  refine ⟨?_, hlen⟩
  apply List.ext_getElem?
  intro i
  simp only [List.getElem?_map]
  by_cases hi : i < inputs.length
  · have hx : inputs[i]? = some inputs[i] := List.getElem?_eq_getElem hi
    rw [hx]
    simp [hi, hpos i _ hx]
  · simp [hi]

/-- the output qubits the `Clean` statement excludes: one qubit of the circuit per return bit -/
theorem compile_outs_defined (inputs : List String) (defs : List (String × BExp))
    (rets : List String) (unc : Bool) (cs : List Nat) (s : CState)
    (h : (compile inputs defs (some rets) unc).run { choices := cs } = .ok ((), s))
    (hr : C02.retsDefined defs rets = true) :
    (rets.filterMap (dictGet? s.qc.qmap)).length = rets.length ∧
    ∀ q ∈ rets.filterMap (dictGet? s.qc.qmap), q < s.qc.numQubits := by
  have hm := C02.compile_rets_mapped inputs defs rets unc cs s h hr
  constructor
  · clear hr h
    induction rets with
    | nil => rfl
    | cons r rs ih =>
      obtain ⟨q, hq, _⟩ := hm r List.mem_cons_self
      rw [List.filterMap_cons, hq]
      simp only [List.length_cons]
      rw [ih (fun r' hr' => hm r' (List.mem_cons_of_mem _ hr'))]
  · intro q hq
    obtain ⟨r, hr', hrq⟩ := List.mem_filterMap.mp hq
    obtain ⟨q', hq', hlt⟩ := hm r hr'
    rw [hq'] at hrq
    cases hrq
    exact hlt

/-- no argument qubit is ever part of the scratch space: for every run of `compile`, a qubit
below the number of inputs is neither an ancilla nor in the free, marked or kept set (so
`get_free_ancilla` never hands one out and `uncompute_all` never records one as freed) -/
theorem compile_args_not_scratch (inputs : List String) (defs : List (String × BExp))
    (ret : Option (List String)) (unc : Bool) (cs : List Nat) (s : CState)
    (h : (compile inputs defs ret unc).run { choices := cs } = .ok ((), s)) :
    ∀ q, q < inputs.length → q ∉ s.qc.anc ∧ q ∉ s.qc.free ∧ q ∉ s.qc.marked ∧ q ∉ s.qc.kept := by
  obtain ⟨_, _, _, _, _, _, h1, h2, h3, _, h4⟩ := C02.compile_bookkeeping inputs defs ret unc cs s h
  intro q hq
  exact ⟨fun hm => Nat.not_le_of_lt hq (h1 q hm), fun hm => Nat.not_le_of_lt hq (h2 q hm),
    fun hm => Nat.not_le_of_lt hq (h3 q hm), fun hm => Nat.not_le_of_lt hq (h4 q hm)⟩

/-- Bennett's principle applies to every compiled circuit: its gates are X/CX/MCX on distinct wires -/
theorem compile_replay_restores (inputs : List String) (defs : List (String × BExp))
    (ret : Option (List String)) (unc : Bool) (cs : List Nat) (s : CState)
    (h : (compile inputs defs ret unc).run { choices := cs } = .ok ((), s)) (st : BState) :
    runClassical (s.qc.gates.toList ++ s.qc.gates.toList.reverse) st = st :=
  C02.compile_reverse_replay_undoes inputs defs ret unc cs s h st

/-! ## Cleanliness on the proved fragment (`QV/Proofs/CompilerClean.lean`) -/

theorem mem_rets_of_class {r : String} {rets : List String} (hne : rets.isEmpty = false)
    (hall : ∀ r' ∈ rets, r' = r) : r ∈ rets := by
  cases rets with
  | nil => simp at hne
  | cons r' rs =>
    have := hall r' List.mem_cons_self
    subst this
    exact List.mem_cons_self

/-- C03 on the tree-like single-definition fragment (`inCleanFragment` = `inFragment`, the class of
`C02_fragment_partial`: one definition, tree-like expression over the arguments, `Or`s of any arity; the
return list is any number of copies of the defined name – or empty), with `uncompute = true`, for every admissible
sequence of ancilla choices: every qubit other than the qubit of the return name is back to zero (with no return
name requested: every qubit).  Partial with respect to
C03: one definition only, no repeated compound sub-expression, no constant.  (The circuits of the unrepaired
compiler were not clean for an `Or` with three or more arguments nor for the empty return list,
`C03_fragment_demorgan_witness`, `C03_fragment_norets_witness`; the repaired `compile_or` folds binary ors
into new marked ancillas, which the inline `uncompute` replays like every other ancilla, and a definition
that is not a return bit keeps its ancillas until `uncompute_all`, which then replays every gate.) -/
theorem C03_fragment_partial (inputs : List String) (defs : List (String × BExp)) (rets : List String)
    (choices : List Nat) (s : CState)
    (hf : inCleanFragment inputs defs rets = true)
    (h : (compile inputs defs (some rets) true).run { choices := choices } = .ok ((), s)) :
    Clean s.qc.gates.toList s.qc.numQubits inputs.length (rets.filterMap (dictGet? s.qc.qmap)) := by
  obtain ⟨r, e, rfl, hnd, hfr, hov, htl, hrets⟩ := inFragment_single hf
  intro x hx q hq
  dsimp only
  cases hne : rets.isEmpty with
  | true =>
    -- `uncompute_all([])` replays every gate
    have hre : rets = [] := List.isEmpty_iff.mp hne
    subst hre
    have hall := compile_single_norets h rfl hnd hfr hov htl x hx
    constructor
    · intro hlt
      rw [hall q, initState_getD]
    · intro hge _
      rw [hall q, initState_getD_out x _ q (by omega)]
  | false =>
    have hr : r ∈ rets := mem_rets_of_class hne hrets
    obtain ⟨q0, hq0, hcl, _, _, htg⟩ := compile_single_clean h rfl hr hnd hfr hov htl x hx
    constructor
    · intro hlt
      rw [runClassical_getD_of_target_ne _ q (fun g hg => by have := htg g hg; omega), initState_getD]
    · intro hge hno
      have hne' : q ≠ q0 := by
        rintro rfl
        exact hno (List.mem_filterMap.mpr ⟨r, hr, hq0⟩)
      rw [hcl q hne', initState_getD_out x _ q (by omega)]

/-- an instance of the class of `C03_fragment_partial` (nested `And` / `Xor` / `Not`, binary `Or`) -/
example : inCleanFragment ["a", "b", "c"]
    [("_ret", .and [.or [.and [.sym "a", .not (.sym "b")], .xor [.sym "c", .not (.and [.sym "a", .sym "c"])]],
                    .sym "b"])] ["_ret"] = true := by
  decide +kernel

/-- another instance: an `Or` with four arguments, three of them bare argument symbols (or-chain) -/
example : inCleanFragment ["a", "b", "c", "d"]
    [("_ret", .xor [.or [.sym "a", .sym "b", .not (.sym "c"), .sym "d"], .and [.sym "a", .sym "d"]])] ["_ret"] = true := by
  decide +kernel

/-- (about the unrepaired compiler; the instance is in the class of `C03_fragment_partial`.)  An `Or` of three
arguments (outside `smallOr`): the circuit of the unrepaired compiler for `a & (a | b | c)` is not clean.  The gate
list is the one it emits with ancillas 3, 4 (`anc_0` = the De Morgan `Or`, qubit 4 = `_ret`): `uncompute` replays
`X 3` and the `MCX` into qubit 3 without the `X` gates on the argument qubits, so on input `000` qubit 3 ends as 1
(finding `C03-uncompute-stale`, repaired). -/
theorem C03_fragment_demorgan_witness :
    inFragment ["a", "b", "c"] [("_ret", .and [.sym "a", .or [.sym "a", .sym "b", .sym "c"]])] ["_ret"] = true ∧
    smallOr (.and [.sym "a", .or [.sym "a", .sym "b", .sym "c"]]) = false ∧
    inCleanFragment ["a", "b", "c"] [("_ret", .and [.sym "a", .or [.sym "a", .sym "b", .sym "c"]])] ["_ret"] = true ∧
    validateClean [{ cls := .X, wires := [0] }, { cls := .X, wires := [1] }, { cls := .X, wires := [2] },
      { cls := .MCX 3, wires := [0, 1, 2, 3] }, { cls := .X, wires := [0] }, { cls := .X, wires := [1] },
      { cls := .X, wires := [2] }, { cls := .X, wires := [3] }, { cls := .MCX 2, wires := [0, 3, 4] },
      { cls := .X, wires := [3] }, { cls := .MCX 3, wires := [0, 1, 2, 3] },
      { cls := .X, wires := [2] }, { cls := .X, wires := [1] }, { cls := .X, wires := [0] },
      { cls := .X, wires := [2] }, { cls := .X, wires := [1] }, { cls := .X, wires := [0] }] 5 3 [4] = false := by
  decide +kernel

/-- (about the unrepaired compiler; the instance is in the class of `C03_fragment_partial`.)  With no requested
return name nothing is kept and `uncompute_all` replays the gate of the result qubit after its control is
uncomputed: `(a & b) & c` (output of the unrepaired compiler with ancillas 3, 4) leaves qubit 4 dirty -/
theorem C03_fragment_norets_witness :
    inFragment ["a", "b", "c"] [("_ret", .and [.and [.sym "a", .sym "b"], .sym "c"])] [] = true ∧
    inCleanFragment ["a", "b", "c"] [("_ret", .and [.and [.sym "a", .sym "b"], .sym "c"])] [] = true ∧
    validateClean [{ cls := .MCX 2, wires := [0, 1, 3] }, { cls := .MCX 2, wires := [2, 3, 4] },
      { cls := .MCX 2, wires := [0, 1, 3] }, { cls := .MCX 2, wires := [2, 3, 4] }] 5 3 [] = false := by
  decide +kernel

/-! ## Cleanliness on the general class

Proofs: `QV/Proofs/CompilerGenGates.lean`, `CompilerGenClean.lean`, on top of the state invariant of
`C02_general_partial`.  The statement loop runs in a kept phase (the intermediates) and a return phase; the two
invariants, and why they give cleanliness, are described at the head of `CompilerGenClean.lean`. -/

/-- C03 on the general class (`inGeneralCleanClass` = `inGeneralClean` ∨ `inCleanFragment`): the class of
`C02_general_partial` – arguments, several return bits, `Not` / `And` / `Or` / `Xor` of any arity with ANY sharing of
sub-expressions inside and across definitions (cache hits, also of a return statement on the kept ancillas of an
intermediate), re-binding of intermediates and arguments, constants, re-use of released ancillas, every admissible
sequence of ancilla choices – restricted to definition lists in which the intermediates come first and the requested
return bits last (`keptThenRet`), each return bit a NEW name defined once whose right-hand side is without constants
or a bare constant (`retDefs`; sympy leaves no other form), final uncomputation on.

Not covered (`docs/notes/C02_C03_C06.md`): a requested return name that is defined twice or is also an argument
(re-binding is free for the intermediates only) – for a name defined twice the compiler is WRONG (finding: the first
result qubit is uncomputed by `uncompute_all` after its ancillas were released); an intermediate defined after a
return bit (it may re-use ancillas the return statement released: the replayed part of the return statement is then a palindrome `W ++ W.reverse`, not proved; no instance of the check's
corpus has this shape); a constant inside a return bit's compound expression (model only). -/
theorem C03_general_partial (inputs : List String) (defs : List (String × BExp)) (rets : List String)
    (choices : List Nat) (s : CState)
    (hf : inGeneralCleanClass inputs defs rets = true)
    (h : (compile inputs defs (some rets) true).run { choices := choices } = .ok ((), s)) :
    Clean s.qc.gates.toList s.qc.numQubits inputs.length (rets.filterMap (dictGet? s.qc.qmap)) := by
  simp only [inGeneralCleanClass, Bool.or_eq_true] at hf
  rcases hf with hf | hf
  · obtain ⟨hg, hkr⟩ := inGeneralClean_parts hf
    obtain ⟨hnd, hfr, hgen, _⟩ := inGeneral_parts hg
    intro x hx q _
    exact compile_general_clean h hnd hfr hgen hkr x hx q
  · exact C03_fragment_partial inputs defs rets choices s hf h

/-- an instance of the class that is not in `inCleanFragment`: two intermediates (`m` is read three times, `And(a, b)`
is computed for `m` and found in the cache by both return statements), two return bits; the second return
statement re-uses the ancillas the first released -/
example : inGeneralClean ["a", "b", "c"]
    [("m", .or [.and [.sym "a", .sym "b"], .sym "c"]),
     ("t", .xor [.sym "m", .not (.sym "a")]),
     ("_ret.0", .xor [.and [.sym "a", .sym "b"], .sym "m", .not (.sym "t")]),
     ("_ret.1", .or [.and [.sym "a", .sym "b"], .and [.sym "t", .sym "m", .sym "c"]])] ["_ret.0", "_ret.1"] = true ∧
  inCleanFragment ["a", "b", "c"]
    [("m", .or [.and [.sym "a", .sym "b"], .sym "c"]),
     ("t", .xor [.sym "m", .not (.sym "a")]),
     ("_ret.0", .xor [.and [.sym "a", .sym "b"], .sym "m", .not (.sym "t")]),
     ("_ret.1", .or [.and [.sym "a", .sym "b"], .and [.sym "t", .sym "m", .sym "c"]])] ["_ret.0", "_ret.1"] = false := by
  decide +kernel

/-- not in the class: the return name is defined twice (the real compiler leaves qubit 4 dirty on input `011`) -/
example : inGeneralClean ["a", "b", "c"]
    [("r", .and [.sym "c", .or [.sym "a", .sym "b"]]), ("r", .sym "a")] ["r"] = false := by decide +kernel

/-- non-vacuity on a program outside `inCleanFragment` (kernel-evaluated; programs with `And` / `Or` are exercised
through the driver, `List.mergeSort` does not evaluate in the kernel): an intermediate, then the return bit -/
example : inGeneralClean ["a", "b", "c"]
      [("m", .xor [.sym "a", .sym "b"]), ("_ret", .xor [.sym "m", .not (.sym "c")])] ["_ret"] = true ∧
    ∃ s, (compile ["a", "b", "c"]
      [("m", .xor [.sym "a", .sym "b"]), ("_ret", .xor [.sym "m", .not (.sym "c")])]
      (some ["_ret"]) true).run { choices := [3, 4] } = .ok ((), s) :=
  ⟨by decide +kernel, run_ok_of_toBool (by decide +kernel)⟩

end QV.C03
