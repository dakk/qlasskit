import QV.Proofs.Call
/-!
# C07 – Calling one compiled function from another is function composition

> When a function calls another compiled function (passed as a definition, defined inline, or
> wrapped as an equality oracle), the caller's expressions equal the caller's Python meaning with
> the callee applied to the actual argument values, whatever the shape of the arguments
> (variables, tuple elements, repeated or swapped arguments, several calls) and whatever names
> caller and callee use.  The callee object is unchanged.

Model: `QV/Model/Call.lean` (`Env.bind_function` with its guard, `know_function` / `getdef` = `resolve`, the *Known function* branch of
`translate_expression`, `oraclize`'s handling of the callee).  The statement is about the call
mechanism (the translation of the rest of the caller is C01's subject); the actuals are any bit
expressions of the callee's shape (variables, tuple elements, repeated, swapped, results of other
calls).  *Well-formed* (`WF`) = closed over the argument bits, distinct argument
bits, return bits = the names of the last definitions, pairwise distinct; single assignment is NOT
required: the callee may re-assign locals and its own parameters (`bind_function` compresses with
one simultaneous replacement per definition: finding `C07-compress-sequential`, flag `compressSequential` off).
-/
namespace QV.C07
open QV QV.Call

/-- the property, for the model with quirks `q` -/
def C07_statement (q : Quirks) : Prop :=
  ∀ (f : LogicFun) (ords : List (List String)) (actuals : List Actual) (ρ : Env),
    WF f → Shaped f.args actuals →
    (∀ rs, callSite q (bindFunction q ords f) actuals = .ok rs →
      rs.map (·.eval ρ) = f.sem ((actualBits actuals).map (·.eval ρ)) ∧
      (∀ r ∈ rs, ∀ n ∈ r.syms, ∃ a ∈ actualBits actuals, n ∈ a.syms)) ∧
    (∀ name, (oraclize q f name).calleeAfter = f)

/-- the substitution lemma for `BExp` (restates `BExp.eval_subst`; the environment is `Call.compEnv σ ρ` written out) -/
theorem subst_lemma (σ : String → Option BExp) (ρ : Env) (e : BExp) :
    (e.subst σ).eval ρ = e.eval (fun n => match σ n with | some r => r.eval ρ | none => ρ n) :=
  eval_subst σ ρ e

/-- one step of sequential substitution (what `e.subs(dict)` does); for a whole pair list whose images
mention no key: `seq_eq_sim` -/
theorem seq_subst_sem (x : String) (r : BExp) (L : Defs) (e : BExp) (ρ : Env) :
    (seqSubst ((x, r) :: L) e).eval ρ = (seqSubst L (subst1 x r e)).eval ρ ∧
    (subst1 x r e).eval ρ = e.eval (upd ρ x (r.eval ρ)) :=
  ⟨rfl, eval_subst1 x r e ρ⟩

/-- sequential and simultaneous substitution agree (semantically) when no image mentions a
substituted key – in any processing order of the pairs -/
theorem seq_eq_sim (L : Defs) (e : BExp) (ρ : Env)
    (h : ∀ kv ∈ L, ∀ kv' ∈ L, kv'.1 ∉ kv.2.syms) :
    (seqSubst L e).eval ρ = (simSubst L e).eval ρ := by
  rw [eval_seqSubst L e ρ h, eval_simSubst]

example : ∀ kv ∈ ([("f_x", .sym "a"), ("f_y", .sym "b")] : Defs),
    ∀ kv' ∈ ([("f_x", .sym "a"), ("f_y", .sym "b")] : Defs), kv'.1 ∉ kv.2.syms := by
  simp [BExp.syms]

/-- … and they differ when one does: `andf(andf_y, andf_x)` with formals `andf_x, andf_y` -/
theorem seq_ne_sim_witness :
    let L : Defs := [("andf_x", .sym "andf_y"), ("andf_y", .sym "andf_x")]
    let e : BExp := .and [.sym "andf_x", .sym "andf_y"]
    let ρ : Env := envOf [("andf_x", true), ("andf_y", false)]
    (seqSubst L e).eval ρ ≠ (simSubst L e).eval ρ := by
  decide

/-- after `bind_function`'s renaming every symbol of a callee expression carries the prefix -/
theorem rename_prefixed (p : String) (e : BExp) : ∀ n ∈ (renameSim p e).syms, ∃ m ∈ e.syms, n = pref p m := by
  intro n hn
  rw [syms_renameSim] at hn
  obtain ⟨m, hm, rfl⟩ := List.mem_map.mp hn
  exact ⟨m, hm, rfl⟩

/-- no caller name has the form `p_…` for a callee symbol -/
def noPrefixClash (p : String) (callerNames : List String) (e : BExp) : Bool :=
  callerNames.all (fun c => e.syms.all (fun m => c != pref p m))

/-- the prefix makes the callee's formal names disjoint from the caller's names unless the
caller already uses that prefix -/
theorem rename_disjoint (p : String) (callerNames : List String) (e : BExp)
    (h : noPrefixClash p callerNames e = true) : ∀ n ∈ (renameSim p e).syms, n ∉ callerNames := by
  intro n hn hc
  obtain ⟨m, hm, rfl⟩ := rename_prefixed p e n hn
  simp only [noPrefixClash, List.all_eq_true, bne_iff_ne, ne_eq] at h
  exact h _ hc m hm rfl

example : noPrefixClash "andf" ["a", "b"] (.and [.sym "x", .sym "y"]) = true := by decide

/-- the side condition is needed: a caller argument called `andf_x` *is* the renamed formal -/
theorem prefix_clash_witness :
    noPrefixClash "andf" ["andf_y", "andf_x"] (.and [.sym "x", .sym "y"]) = false ∧
    "andf_x" ∈ (renameSim "andf" (.and [.sym "x", .sym "y"])).syms := by
  decide

theorem rename_sem (p : String) (e : BExp) (ρ : Env) :
    (renameSim p e).eval ρ = e.eval (fun n => ρ (pref p n)) := eval_renameSim p e ρ

/-- the code's one-symbol-at-a-time renaming agrees with `renameSim` when the expression has no symbol
`p_x` next to its own symbol `x` (every `order` that covers the free symbols) -/
theorem rename_seq_agrees (p : String) (order : List String) (e : BExp) (ρ : Env)
    (hcov : ∀ n ∈ e.syms, n ∈ order) (hno : ∀ x ∈ order, pref p x ∉ order) :
    (renameSeq p order e).eval ρ = (renameSim p e).eval ρ := by
  rw [eval_renameSim]
  refine eval_seqSubst_of _ e ρ _ ?_ ?_ ?_
  · intro kv hkv kv' hkv' hmem
    obtain ⟨x, hx, rfl⟩ := List.mem_map.mp hkv
    obtain ⟨y, hy, rfl⟩ := List.mem_map.mp hkv'
    exact hno x hx (List.mem_singleton.mp hmem ▸ hy)
  · intro kv hkv
    obtain ⟨x, _, rfl⟩ := List.mem_map.mp hkv
    rfl
  · exact fun n hn h => absurd rfl (h _ (List.mem_map.mpr ⟨n, hcov n hn, rfl⟩))

example : (∀ n ∈ (BExp.and [.sym "x", .sym "y"]).syms, n ∈ ["y", "x"]) ∧
    (∀ x ∈ ["y", "x"], pref "g" x ∉ ["y", "x"]) := by decide

/-- meaning of the bound callee, for every definition list (no well-formedness: a definition may
re-bind an earlier name or an argument bit): its (compressed, prefixed) expressions evaluate, in any
environment, to the values the callee's last definitions take when the list is run sequentially
with each symbol `b` starting at the value of `p_b` -/
theorem bind_sem (q : Quirks) (hq : q.renameSequential = false) (hq' : q.compressSequential = false)
    (f : LogicFun) (ords : List (List String)) (ρ : Env) :
    (bindFunction q ords f).exps.map (fun se => se.2.eval ρ)
      = lastN f.ret.bitvec.length (vals (fun n => ρ (pref f.name n)) f.exps) := by
  rw [bindFunction_exps q hq, ← lastN_map, compress_vals q hq' ρ, compEnv_nil, vals_renamed]

/-- … and when the return bits are the (pairwise distinct) names of the last definitions these are
the final values of the return bits: the bound expressions are the callee's meaning with `b ↦ p_b` -/
theorem bind_sem_ret (q : Quirks) (hq : q.renameSequential = false) (hq' : q.compressSequential = false)
    (f : LogicFun) (ords : List (List String)) (ρ : Env)
    (hlast : (lastN f.ret.bitvec.length f.exps).map (·.1) = f.ret.bitvec)
    (hnodup : f.ret.bitvec.Pairwise (· ≠ ·)) :
    (bindFunction q ords f).exps.map (fun se => se.2.eval ρ)
      = f.ret.bitvec.map (run (fun n => ρ (pref f.name n)) f.exps) := by
  rw [bind_sem q hq hq', ret_vals_eq_run _ _ _ hlast hnodup]

/-- single assignment implies the weaker well-formedness the theorems assume -/
theorem wf_of_strict (f : LogicFun) (h : WFStrict f) : WF f where
  closed := Ok_closed _ _ _ h.ok
  argsNodup := h.argsNodup
  retLast := h.retLast
  retNodup := by
    rw [← h.retLast, lastN_eq_drop, List.map_drop]
    exact (Ok_names_nodup _ _ _ h.ok).sublist (List.drop_sublist _ _)
  retNonempty := h.retNonempty

/-- with flag `compressSequential` on (`e.subs(d_exp)`) the compression has the same meaning on single-assignment
callees: the defect needs a callee that re-binds a name -/
theorem bind_sem_sequential (q : Quirks) (hq : q.renameSequential = false)
    (hq' : q.compressSequential = true) (f : LogicFun) (ords : List (List String)) (hwf : WFStrict f)
    (ρ : Env) :
    (bindFunction q ords f).exps.map (fun se => se.2.eval ρ)
      = lastN f.ret.bitvec.length (vals (fun n => ρ (pref f.name n)) f.exps) := by
  have h := compress_seq_vals q hq' ((argBits f).map (pref f.name)) ρ (renamed f.name f.exps) [] [] ρ
    (Ok_renamed f.name _ _ _ hwf.ok) (by simp) (by simp) (by simp) (fun _ _ => rfl) (by simp)
  rw [bindFunction_exps q hq, ← lastN_map, h, vals_renamed]

/-- function composition: for every well-formed callee (it may re-assign locals and its own
parameters), every list of actual argument expressions of its shape and every caller environment,
the call succeeds and its result bits evaluate to the callee's meaning on the values of the actuals;
they mention only symbols of the actuals -/
theorem call_composition (q : Quirks) (hq1 : q.argIndexFromName = false)
    (hq2 : q.subsSequential = false) (hq3 : q.renameSequential = false)
    (hq4 : q.compressSequential = false)
    (f : LogicFun) (ords : List (List String)) (actuals : List Actual) (ρ : Env)
    (hwf : WF f) (hsh : Shaped f.args actuals) :
    ∃ rs, callSite q (bindFunction q ords f) actuals = .ok rs ∧
      rs.map (·.eval ρ) = f.sem ((actualBits actuals).map (·.eval ρ)) ∧
      (∀ r ∈ rs, ∀ n ∈ r.syms, ∃ a ∈ actualBits actuals, n ∈ a.syms) := by
  obtain ⟨hcall, hlen⟩ := call_none_eq q hq1 hq2 f ords actuals hwf hsh
  refine ⟨_, hcall, ?_, ?_⟩
  · -- values: the bound callee (`bind_sem`), read in the environment `ρ1` the actuals induce on `ρ`
    let pairs := ((argBits f).map (pref f.name)).zip (actualBits actuals)
    let ρ1 := compEnv (lookup pairs) ρ
    rw [List.map_map]
    have h1 : ((fun x : BExp => x.eval ρ) ∘ fun se : String × BExp => simSubst pairs se.2)
        = fun se => se.2.eval ρ1 := by
      funext se; simp [eval_simSubst, ρ1]
    rw [h1, bind_sem q hq3 hq4 f ords ρ1,
      vals_congr (argBits f) f.exps [] _ (zipEnv (argBits f) ((actualBits actuals).map (·.eval ρ)))
        hwf.closed]
    · exact ret_vals_eq_run _ _ _ hwf.retLast hwf.retNodup
    · intro n hn
      rcases hn with hn | hn
      · exact compEnv_actuals ρ f.name _ _ hlen n hn
      · simp at hn
  · -- free symbols: the compressed expressions are over the prefixed argument bits, all of which are replaced
    intro r hr n hn
    obtain ⟨se, hse, rfl⟩ := List.mem_map.mp hr
    rw [bindFunction_exps q hq3] at hse
    have hA := compress_syms q hq4 ((argBits f).map (pref f.name)) (renamed f.name f.exps) [] []
      (Closed_renamed f.name _ _ _ hwf.closed) (by simp) (by simp) se (mem_lastN _ _ _ hse)
    obtain ⟨m, hm, hh⟩ := syms_subst _ se.2 n hn
    obtain ⟨a, ha, hl⟩ := lookup_zip_some _ _ hlen m (hA m hm)
    rcases hh with ⟨hnone, _⟩ | ⟨r, hsome, hr⟩
    · rw [hl] at hnone; cases hnone
    · rw [hl] at hsome; cases hsome; exact ⟨a, ha, hr⟩

/-- the model threads the callee by value (`to_logicfun` deep-copies): with flag `oraclizeRenames` off the callee
object is the same afterwards, whatever its name -/
theorem callee_unchanged (q : Quirks) (hq : q.oraclizeRenames = false) (f : LogicFun) (name : String) :
    (oraclize q f name).calleeAfter = f := by
  unfold oraclize
  split <;> simp [hq]

theorem C07_full : C07_statement Quirks.none := by
  intro f ords actuals ρ hwf hsh
  refine ⟨?_, fun name => callee_unchanged _ rfl f name⟩
  intro rs hrs
  obtain ⟨rs', h1, h2, h3⟩ := call_composition Quirks.none rfl rfl rfl rfl f ords actuals ρ hwf hsh
  rw [h1] at hrs
  cases hrs
  exact ⟨h2, h3⟩

/-- a well-formed callee with Qint argument and intermediate definition, and shaped actuals that
are a swapped/repeated mix of expressions: the hypotheses are satisfiable -/
def exCallee : LogicFun :=
  { name := "f", args := [⟨"x", ["x.0", "x.1"]⟩, ⟨"b", ["b"]⟩], ret := ⟨"_ret", ["_ret.0", "_ret.1"]⟩
    exps := [("t", .xor [.sym "x.0", .sym "b"]), ("_ret.0", .not (.sym "t")),
             ("_ret.1", .and [.sym "x.1", .sym "t"])] }

example : WF exCallee :=
  ⟨by simp [Closed, exCallee, argBits, BExp.syms, symsList], by decide, by decide, by decide, by decide⟩

example : Shaped exCallee.args [⟨true, false, [.sym "c.1", .sym "c.1"]⟩, ⟨false, false, [.not (.sym "c.0")]⟩] := by
  simp [Shaped, exCallee]

/-- a callee that re-assigns its own parameters (`a = a ^ b; b = a and b; return a or b`, the definition
list qlasskit's translator produces for it): well-formed in the sense the theorems need, not
single-assignment -/
def rpCallee : LogicFun :=
  { name := "rp", args := [⟨"a", ["a"]⟩, ⟨"b", ["b"]⟩], ret := ⟨"_ret", ["_ret"]⟩
    exps := [("__a", .xor [.sym "a", .sym "b"]), ("a", .sym "__a"),
             ("__b", .and [.sym "a", .sym "b"]), ("b", .sym "__b"),
             ("_ret", .or [.sym "a", .sym "b"])] }

example : WF rpCallee :=
  ⟨by simp [Closed, rpCallee, argBits, BExp.syms, symsList], by decide, by decide, by decide, by decide⟩

example : ¬ WFStrict rpCallee := fun h => by
  have := h.ok
  simp [Ok, rpCallee, argBits] at this

/-! ## which definition a call reaches: name histories of the callee environment

`Env.defs` is a list; `bind_function` refuses a definition called like a type or like one of
`RESERVED_FUNCTION_NAMES` (`QV.Gen.reservedFunctionNames`, read from env.py) and appends every other one,
`know_function` = exactly one definition of that name, `getdef` = the first.  In Python a call reaches the MOST
RECENT binding of the name.  The code never hands a caller a stale definition: it resolves a name only while it was
bound once; and it never binds a definition it would not call. -/

/-- `bind_function`'s guard: a definition called like a type the environment knows (a call of that name is a typecast
for `translate_expression`) or like a reserved name (ast2ast rewrites the call) is REFUSED – it is never dropped
without a word, and the environment is not extended -/
theorem bind_reserved_refused (q : Quirks) (types : List String) (defs : List LogicFun)
    (ords : List (List String)) (f : LogicFun) (h : refusedName types f.name = true) :
    envBind q types defs ords f = .error "Exception" := by
  simp only [envBind, h, ↓reduceIte]

/-- the names of the source's table (`QV.Gen.reservedFunctionNames`) are refused whatever types the environment
knows: among them every name ast2ast / `translate_expression` dispatch on -/
theorem reserved_table_refused (types : List String) :
    ∀ n ∈ QV.Gen.reservedFunctionNames, refusedName types n = true := by
  intro n hn
  simp only [refusedName, Bool.or_eq_true]
  exact Or.inr (List.contains_iff_mem.mpr hn)

example : ∀ n ∈ ["print", "range", "len", "sum", "ord", "chr", "any", "all", "min", "max", "abs", "int", "float"],
    n ∈ QV.Gen.reservedFunctionNames := by decide

/-- every other definition is APPENDED – also when the environment already holds a definition of that name: the
guard does not look at the definitions -/
theorem bind_appends (q : Quirks) (types : List String) (defs : List LogicFun)
    (ords : List (List String)) (f : LogicFun) (h : refusedName types f.name = false) :
    envBind q types defs ords f = .ok (defs ++ [bindFunction q ords f]) := by
  simp only [envBind, h, ↓reduceIte, Bool.false_eq_true]

theorem bind_ok_inv (q : Quirks) (types : List String) (defs defs' : List LogicFun)
    (ords : List (List String)) (f : LogicFun) (h : envBind q types defs ords f = .ok defs') :
    refusedName types f.name = false ∧ defs' = defs ++ [bindFunction q ords f] := by
  unfold envBind at h
  split at h
  · cases h
  · rename_i hr
    cases h
    exact ⟨by simpa using hr, rfl⟩

/-- the environment after binding `f1` and then `f2` (any accepted names, equal or not): both are there, in that
order -/
theorem bind_twice (q : Quirks) (types : List String) (defs : List LogicFun)
    (o1 o2 : List (List String)) (f1 f2 : LogicFun)
    (h1 : refusedName types f1.name = false) (h2 : refusedName types f2.name = false) :
    (envBind q types defs o1 f1 >>= fun d => envBind q types d o2 f2)
      = .ok (defs ++ [bindFunction q o1 f1, bindFunction q o2 f2]) := by
  rw [bind_appends q types defs o1 f1 h1]
  show envBind q types (defs ++ [bindFunction q o1 f1]) o2 f2 = _
  rw [bind_appends q types _ o2 f2 h2]
  simp

/-- a call always resolves to a definition the environment holds under that name, and then it is the ONLY one of
that name (so also the most recent one) – `know_function` is "exactly one", `getdef` the first -/
theorem resolve_sound (defs : List LogicFun) (n : String) (d : LogicFun) (h : resolve defs n = some d) :
    d ∈ defs ∧ d.name = n ∧ ∀ d' ∈ defs, d'.name = n → d' = d := by
  rw [resolve_eq] at h
  split at h
  · next d0 heq =>
    cases h
    have hb : ∀ d', d' = d ↔ d' ∈ defs ∧ d'.name = n := fun d' => by rw [← mem_bindings, heq, List.mem_singleton]
    exact ⟨((hb d).mp rfl).1, ((hb d).mp rfl).2, fun d' h1 h2 => (hb d').mpr ⟨h1, h2⟩⟩
  · cases h

/-- after the first (accepted) binding of a name, a call of that name reaches that definition -/
theorem resolve_first_binding (q : Quirks) (types : List String) (defs defs' : List LogicFun)
    (ords : List (List String)) (f : LogicFun) (hb : envBind q types defs ords f = .ok defs')
    (hfresh : ∀ d ∈ defs, d.name ≠ f.name) :
    resolve defs' f.name = some (bindFunction q ords f) := by
  simp [resolve_eq, bindings_envBind hb, bindings_eq_nil hfresh]

/-- after a SECOND (accepted) binding under the same name no call of that name is resolved at all
(`UnknownSymbolException`): in particular a call never reaches the first, stale definition – whatever the two
bodies are -/
theorem resolve_rebound (q : Quirks) (types : List String) (defs d1 d2 : List LogicFun)
    (o1 o2 : List (List String)) (f1 f2 : LogicFun)
    (hb1 : envBind q types defs o1 f1 = .ok d1) (hb2 : envBind q types d1 o2 f2 = .ok d2)
    (hn : f2.name = f1.name) :
    resolve d2 f1.name = none := by
  rw [resolve_eq, bindings_envBind hb2, bindings_envBind hb1]
  rcases bindings defs f1.name with _ | ⟨d, l⟩ <;> simp [hn]

/-- binding another name – accepted or refused – does not change what a name resolves to -/
theorem resolve_other_name (q : Quirks) (types : List String) (defs : List LogicFun)
    (ords : List (List String)) (g : LogicFun) (n : String) (hne : g.name ≠ n) :
    resolve (match envBind q types defs ords g with | .ok d => d | .error _ => defs) n = resolve defs n := by
  cases h : envBind q types defs ords g with
  | error _ => rfl
  | ok d => simp [resolve_eq, bindings_envBind h, hne]

def incCallee : LogicFun :=
  { name := "inc", args := [⟨"x", ["x.0", "x.1"]⟩], ret := ⟨"_ret", ["_ret.0", "_ret.1"]⟩
    exps := [("_ret.0", .not (.sym "x.0")), ("_ret.1", .xor [.sym "x.0", .sym "x.1"])] }

def andCallee : LogicFun :=
  { name := "andf", args := [⟨"x", ["x"]⟩, ⟨"y", ["y"]⟩], ret := ⟨"_ret", ["_ret"]⟩
    exps := [("_ret", .and [.sym "x", .sym "y"])] }

def gCallee : LogicFun :=
  { name := "g", args := [⟨"x", ["x"]⟩, ⟨"g_x", ["g_x"]⟩], ret := ⟨"_ret", ["_ret"]⟩
    exps := [("_ret", .and [.sym "x", .not (.sym "g_x")])] }

example : WF incCallee :=
  ⟨by simp [Closed, incCallee, argBits, BExp.syms, symsList], by decide, by decide, by decide, by decide⟩
example : WF andCallee :=
  ⟨by simp [Closed, andCallee, argBits, BExp.syms, symsList], by decide, by decide, by decide, by decide⟩
example : WF gCallee :=
  ⟨by simp [Closed, gCallee, argBits, BExp.syms, symsList], by decide, by decide, by decide, by decide⟩

/-- `inc(t[1])` with `t : Tuple[Qint2, Qint2]`: the index recovered from the name `t.1.0` is
`1.0`, the key `inc_x.1.0` is no formal bit, the formal bits stay in the caller's expressions -/
theorem argIndexFromName_witness :
    let acts : List Actual := [⟨true, false, [.sym "t.1.0", .sym "t.1.1"]⟩]
    let ρ : Env := envOf [("t.1.0", true), ("t.1.1", false)]
    callVals { argIndexFromName := true } incCallee [] acts ρ
        ≠ some (incCallee.sem ((actualBits acts).map (·.eval ρ)))
      ∧ "inc_x.0" ∈ callSyms { argIndexFromName := true } incCallee [] acts
      ∧ callVals Quirks.none incCallee [] acts ρ = some (incCallee.sem ((actualBits acts).map (·.eval ρ))) := by
  decide

/-- `andf(andf_y, andf_x)` in a caller whose arguments are called `andf_y, andf_x`: sequential
substitution in key order turns `andf_x & andf_y` into `andf_x` -/
theorem subsSequential_witness :
    let acts : List Actual := [⟨false, false, [.sym "andf_y"]⟩, ⟨false, false, [.sym "andf_x"]⟩]
    let ρ : Env := envOf [("andf_x", true), ("andf_y", false)]
    callVals { subsSequential := true } andCallee [] acts ρ
        ≠ some (andCallee.sem ((actualBits acts).map (·.eval ρ)))
      ∧ callVals Quirks.none andCallee [] acts ρ = some (andCallee.sem ((actualBits acts).map (·.eval ρ))) := by
  decide

/-- a callee `g(x, g_x)`: renaming `x` first makes both symbols `g_x`, then both `g_g_x` -/
theorem renameSequential_witness :
    let acts : List Actual := [⟨false, false, [.sym "a"]⟩, ⟨false, false, [.sym "b"]⟩]
    let ρ : Env := envOf [("a", true), ("b", false)]
    callVals { renameSequential := true } gCallee [["x", "g_x"]] acts ρ
        ≠ some (gCallee.sem ((actualBits acts).map (·.eval ρ)))
      ∧ callVals Quirks.none gCallee [["x", "g_x"]] acts ρ = some (gCallee.sem ((actualBits acts).map (·.eval ρ))) := by
  decide

/-- `rp(p, q)` for the inline callee `a = a ^ b; b = a and b; return a or b`: at `b = __b`, with flag
`compressSequential` on, `rp___b.subs({rp___a: rp_a ^ rp_b, rp___b: (rp_a ^ rp_b) & rp_b, rp_a: rp_a ^ rp_b})` goes one
pair after the other in name order, so `rp_a` is substituted again inside the value just put in for `rp___b`
(`((rp_a ^ rp_b) ^ rp_b) & rp_b` = `rp_a & rp_b`); the caller returns `p` instead of `p ^ q`: `True` on
`p = q = True`, the callee gives `False`.  One simultaneous replacement (`xreplace`, flag off) is right -/
theorem compressSequential_witness :
    let acts : List Actual := [⟨false, false, [.sym "p"]⟩, ⟨false, false, [.sym "q"]⟩]
    let ρ : Env := envOf [("p", true), ("q", true)]
    callVals { compressSequential := true } rpCallee [] acts ρ
        ≠ some (rpCallee.sem ((actualBits acts).map (·.eval ρ)))
      ∧ callVals Quirks.none rpCallee [] acts ρ = some (rpCallee.sem ((actualBits acts).map (·.eval ρ))) := by
  decide

/-- `oraclize` of a callee that is itself called `oracle` renames the callee object -/
theorem oraclizeRenames_witness :
    (oraclize { oraclizeRenames := true } { andCallee with name := "oracle" } "oracle").calleeAfter.name
      ≠ "oracle" := by
  decide

end QV.C07
