import QV.Proofs.Tools
import QV.Proofs.Anf
/-!
# C17 — Command-line tools print what the library computes

"For every script containing compiled functions, py2bexp prints, for every requested normal
form (anf, cnf, dnf, nnf) and format, an expression over the function's argument bits logically
equivalent to the conjunction of the selected function's return bits, and in DIMACS format a
clause set that has, under a one-to-one numbering of the function's variables, exactly the same
satisfying assignments; py2qasm prints the QASM export of the selected function's circuit for
the chosen compiler and QASM version.  The entry-point option selects the named function; a
script with a single function needs no option."

Model: `QV/Model/Tools.lean`; the last section replaces the parameter `anf` by the tool's own `to_anf`
(`QV/Model/Anf.lean`): `NFSpecRest` (cnf / dnf / nnf only) gives `NFSpec (withAnf nf)` (`anf_meets_NFSpec`), and
`C17_full_anf` is `C17_full` at `withAnf nf`.  Parameters (hypotheses, not axioms): sympy's normal forms `nf`
(`NFSpec`: semantics-preserving, total, `cnf` yields a conjunction of clauses over no new
symbols), the iteration order of `free_symbols` (`order`), the compiler (`compile`).
-/
namespace QV.C17
open QV QV.Tools

/-- what is assumed of sympy's `to_anf/to_cnf/to_dnf/to_nnf` -/
structure NFSpec (nf : NF) : Prop where
  total : ∀ f e, ∃ r, nf f e = .ok r
  sound : ∀ f e r, nf f e = .ok r → ∀ ρ, r.eval ρ = e.eval ρ
  cnfShape : ∀ e r, nf .cnf e = .ok r →
    ∃ cs : List Clause, r = cnfBExp cs ∧ ∀ s ∈ clauseVars cs, s ∈ e.syms

/-- `-e name` names a function of the script, or the script has a single function and no `-e` -/
def Selects (bs : List Binding) (ep : Option String) (i : Nat) : Prop :=
  (∃ e, ep = some e ∧ e ≠ "" ∧ finalValue bs e = some { name := e, fn := some i })
  ∨ (ep = none ∧ ∃ n, qlassfMembers bs = [(n, i)])

/-- what the printed thing must mean, given the selected function's return bits -/
def PrintedOk (order : List String) (rets : List String) (exprs : Defs) : Printed → Prop
  | .expr e => ∀ ρ, e.eval ρ = retConj ρ rets exprs
  | .dimacs _ d =>
      d.nvars = order.length ∧
      -- the numbering is one-to-one between the variables and 1..nvars
      (∀ k, k < order.length → num order (order.getD k "") = k + 1) ∧
      -- same satisfying assignments under it
      (∀ σ, d.eval σ = retConj (fun s => σ (num order s)) rets exprs)

/-- The property, for the library with the listed defects repaired (`q = Quirks.none`). -/
def C17_statement : Prop :=
  ∀ (nf : NF), NFSpec nf →
  ∀ (fnDefs : Nat → List String × Defs) (bs : List Binding) (ep : Option String) (i : Nat),
    Selects bs ep i →
  -- py2bexp
  (∀ (form : Form) (fmt : Format) (order : List String), order.Nodup →
    (∀ r r1, convertToBoolExpression Quirks.none nf form
        (combined Quirks.none (fnDefs i).1 (fnDefs i).2) = .ok r →
      dimacsInput Quirks.none nf form r = .ok r1 → ∀ s ∈ r1.syms, s ∈ order) →
    ∃ p, py2bexpMain Quirks.none nf fnDefs bs ep form fmt order = some (.ok p)
      ∧ PrintedOk order (fnDefs i).1 (fnDefs i).2 p)
  -- py2qasm
  ∧ (∀ (compile : String → Nat → QCirc) (compiler ver : String),
      py2qasmStdout compile bs ep compiler ver
        = some (exportQasm (if ver = "3.0" then 3 else 2) (compile compiler i) ++ "\n"))

/-- `-e name` selects exactly the QlassF the name is bound to when the script has run -/
theorem entrypoint_iff (bs : List Binding) (e : String) (i : Nat) (he : e ≠ "") :
    selectEntry (some e) (parseStr bs) = some i ↔ finalValue bs e = some { name := e, fn := some i } := by
  have he' : (e == "") = false := by simpa using he
  simp only [selectEntry, he', Bool.false_eq_true, if_false, Option.map_eq_some_iff]
  constructor
  · rintro ⟨⟨n, j⟩, hx, rfl⟩
    obtain rfl : n = e := by simpa using List.find?_some hx
    exact (mem_parseStr bs n j).1 (List.mem_of_find?_eq_some hx)
  · exact fun h => ⟨_, find_unique _ e i (parseStr_distinct bs) ((mem_parseStr bs e i).2 h), rfl⟩

theorem entrypoint_selects (bs : List Binding) (e : String) (i : Nat) (he : e ≠ "")
    (h : finalValue bs e = some { name := e, fn := some i }) :
    selectEntry (some e) (parseStr bs) = some i := (entrypoint_iff bs e i he).2 h

/-- `-e name` with a name that is not bound to a QlassF selects nothing ("No qlassf function found") -/
theorem entrypoint_missing (bs : List Binding) (e : String) (he : e ≠ "")
    (h : ∀ i, finalValue bs e ≠ some { name := e, fn := some i }) :
    selectEntry (some e) (parseStr bs) = none :=
  Option.eq_none_iff_forall_ne_some.2 fun i hi => h i ((entrypoint_iff bs e i he).1 hi)

/-- a script with a single QlassF needs no `-e` -/
theorem single_function_default (bs : List Binding) (n : String) (i : Nat)
    (h : qlassfMembers bs = [(n, i)]) :
    selectEntry none (parseStr bs) = some i := by
  have hp := parseStr_perm bs
  rw [h] at hp
  have := List.perm_singleton.1 hp
  simp [selectEntry, findLast, this]

/-- without `-e` the default is the function with the greatest name (code-point order),
whatever the order of definition: `getmembers` sorts, `find_last_qlassf` takes the last -/
theorem default_is_greatest_name (bs : List Binding) (i : Nat)
    (h : selectEntry none (parseStr bs) = some i) :
    ∃ n, (n, i) ∈ parseStr bs ∧ ∀ x ∈ parseStr bs, x.1 ≤ n := by
  simp only [selectEntry, findLast, Option.map_eq_some_iff] at h
  obtain ⟨x, hx, rfl⟩ := h
  refine ⟨x.1, List.mem_of_getLast? hx, ?_⟩
  have hp := parseStr_sorted bs
  obtain ⟨ys, hys⟩ := List.getLast?_eq_some_iff.1 hx
  rw [hys] at hp ⊢
  intro y hy
  rcases List.mem_append.1 hy with hy' | hy'
  · exact (List.pairwise_append.1 hp).2.2 y hy' x (by simp)
  · simp only [List.mem_singleton] at hy'
    subst hy'
    exact String.le_refl _

/-- without `-e` the default is a function of the script -/
theorem default_is_member (bs : List Binding) (i : Nat)
    (h : selectEntry none (parseStr bs) = some i) :
    ∃ n, finalValue bs n = some { name := n, fn := some i } :=
  let ⟨n, hn, _⟩ := default_is_greatest_name bs i h
  ⟨n, (mem_parseStr bs n i).1 hn⟩

theorem selects_sound (bs : List Binding) (ep : Option String) (i : Nat) (h : Selects bs ep i) :
    selectEntry ep (parseStr bs) = some i := by
  rcases h with ⟨e, rfl, he, hf⟩ | ⟨rfl, n, hn⟩
  · exact entrypoint_selects bs e i he hf
  · exact single_function_default bs n i hn

/-- repaired library: the combined expression is the conjunction of the return bits, for every
definition list (intermediates, CSE symbols, rebinding included) -/
theorem bexp_equiv_full (rets : List String) (exprs : Defs) (ρ : Env) :
    (combined Quirks.none rets exprs).eval ρ = retConj ρ rets exprs :=
  combined_none_eval ρ rets exprs

/-- every quirk setting `q`: right when (if `bexpConjoinsIntermediates` is on) the definition list has only return bits on the left and no
right-hand side mentions a defined symbol -/
theorem bexp_equiv_partial (q : Quirks) (rets : List String) (exprs : Defs) (ρ : Env)
    (h : q.bexpConjoinsIntermediates = true → noIntermediates rets exprs = true) :
    (combined q rets exprs).eval ρ = retConj ρ rets exprs := by
  cases hq : q.bexpConjoinsIntermediates with
  | true => exact combined_quirk_eval q hq ρ rets exprs (h hq)
  | false =>
    have : combined q rets exprs = combined Quirks.none rets exprs := by
      simp [combined, hq, Quirks.none]
    rw [this]; exact combined_none_eval ρ rets exprs

example : noIntermediates ["_ret.0", "_ret.1"]
    [("_ret.0", .xor [.sym "a", .sym "b"]), ("_ret.1", .and [.sym "a", .sym "b"])] = true := by decide

/-- defect: `x0 = a & b; _ret = x0 ^ c` — the printed conjunction `(a & b) & (x0 ^ c)` has the
free symbol `x0` and is false at a=b=1, c=0, x0=0 where the function returns 1 -/
theorem bexp_intermediates_witness :
    let q : Quirks := { bexpConjoinsIntermediates := true }
    let exprs : Defs := [("x0", .and [.sym "a", .sym "b"]), ("_ret", .xor [.sym "x0", .sym "c"])]
    let ρ : Env := fun s => s == "a" || s == "b"
    (combined q ["_ret"] exprs).eval ρ = false ∧ retConj ρ ["_ret"] exprs = true
      ∧ noIntermediates ["_ret"] exprs = false := by decide

theorem nfCall_ok (q : Quirks) (nf : NF) (f : Form) (e r : BExp) (h : nfCall q nf f e = .ok r) :
    nf f e = .ok r := nf_of_nfCall h

theorem convert_eq_nfCall (q : Quirks) (nf : NF) (form : Form) (c : BExp) (h : form ≠ .sympy) :
    convertToBoolExpression q nf form c = nfCall q nf form c := by
  cases form <;> first | rfl | exact absurd rfl h

/-- the normal-form dispatch keeps the meaning (any quirk set: a refused call prints nothing) -/
theorem form_dispatch_sound (q : Quirks) (nf : NF) (hnf : NFSpec nf) (form : Form) (c r : BExp)
    (h : convertToBoolExpression q nf form c = .ok r) : ∀ ρ, r.eval ρ = c.eval ρ :=
  (convert_stage q nf form c).sound hnf.sound h

/-- defect: more than 8 variables and `-f cnf` (or dnf, or `-t dimacs`): nothing is printed,
whatever sympy could do -/
theorem nf_var_limit_witness (nf : NF) :
    let q : Quirks := { nfVarLimit := true }
    let c : BExp := .or [.sym "a", .sym "b", .sym "c", .sym "d", .sym "e", .sym "f", .sym "g",
      .sym "h", .sym "i"]
    convertToBoolExpression q nf .cnf c = .error "ValueError" := by
  intro q c
  have h : (q.nfVarLimit && (Form.cnf == Form.cnf || Form.cnf == Form.dnf)
      && decide ((dedupStrings (preds c)).length > 8)) = true := by decide
  simp only [convertToBoolExpression, nfCall, h, if_true]

/-- defect in the *parameter* (sympy 1.12 `to_anf` maps `~(a ^ ~a)` to `True`): with a normal
form that is not semantics-preserving the printed expression is wrong — `NFSpec.sound` is a
necessary hypothesis, and it is validated on every call of a run -/
theorem anf_unsound_witness :
    let nf : NF := fun _ _ => .ok .tt
    let c : BExp := .not (.xor [.sym "a", .not (.sym "a")])
    convertToBoolExpression Quirks.none nf .anf c = .ok .tt
      ∧ (BExp.tt).eval (fun _ => false) = true ∧ c.eval (fun _ => false) = false :=
  ⟨rfl, by decide, by decide⟩

/-- For every list of clauses of literals, every quirk set whose trigger the list avoids and
every variable order covering the clause variables: `convert_to_dimacs` succeeds, the header
counts are right, and the printed clause set evaluates, under the numbering `num order`, exactly
as the CNF expression does — so the satisfying assignments correspond one to one. -/
theorem dimacs_sat (q : Quirks) (cs : List Clause) (order : List String)
    (hv : ∀ s ∈ clauseVars cs, s ∈ order) (ht : dimacsTriggers q cs = false) :
    ∃ d, toDimacs q (cnfBExp cs) order = .ok d ∧ d.nvars = order.length
      ∧ d.clauses.length = cs.length
      ∧ ∀ σ : Nat → Bool, d.eval σ = (cnfBExp cs).eval (fun s => σ (num order s)) := by
  refine ⟨_, toDimacs_cnfBExp q cs order hv ht, rfl, by simp, ?_⟩
  intro σ
  rw [cnfBExp_eval, dimacs_eval_litInt cs order σ hv]

example : dimacsTriggers { dimacsSingleClause := true, dimacsAtomCnf := true }
    [[⟨false, "a"⟩, ⟨false, "b"⟩], [⟨true, "b"⟩, ⟨false, "c"⟩]] = false := by decide

/-- the numbering is one-to-one: with `order` duplicate-free (it enumerates a set), variable
`order[k]` gets number `k+1`, and every listed symbol's number leads back to it -/
theorem dimacs_numbering_bijective (order : List String) (hnd : order.Nodup) :
    (∀ k, k < order.length → num order (order.getD k "") = k + 1) ∧
    (∀ s ∈ order, 1 ≤ num order s ∧ num order s ≤ order.length
        ∧ order.getD (num order s - 1) "" = s) := by
  exact ⟨fun k hk => num_getD order k hnd hk, getD_num order⟩

/-- every assignment of the variables is represented: reading variable `k+1` as `ρ order[k]`
evaluates the printed clauses as the CNF evaluates at `ρ` -/
theorem dimacs_sat_env (q : Quirks) (cs : List Clause) (order : List String)
    (hv : ∀ s ∈ clauseVars cs, s ∈ order) (ht : dimacsTriggers q cs = false) (ρ : Env) :
    ∃ d, toDimacs q (cnfBExp cs) order = .ok d ∧
      d.eval (fun k => ρ (order.getD (k - 1) "")) = evalClauses ρ cs := by
  obtain ⟨d, hd, _, _, he⟩ := dimacs_sat q cs order hv ht
  refine ⟨d, hd, ?_⟩
  rw [he, cnfBExp_eval]
  simp only [evalClauses]
  apply List.all_congr_mem
  intro c hc
  apply List.any_congr_mem
  intro l hl
  have h := (getD_num order l.var (hv _ (List.mem_flatMap.2 ⟨c, hc, List.mem_map_of_mem hl⟩))).2.2
  simp only [Lit.eval, h]

/-- defect (`dimacsSingleClause`): `a | b | c` is printed as the three unit clauses `1 0`, `2 0`,
`3 0`; at a=1, b=c=0 the function is true and the clause set false -/
theorem dimacs_single_clause_witness :
    let q : Quirks := { dimacsSingleClause := true }
    let cs : List Clause := [[⟨false, "a"⟩, ⟨false, "b"⟩, ⟨false, "c"⟩]]
    let σ : Nat → Bool := fun k => k == 1
    ∃ d, toDimacs q (cnfBExp cs) ["a", "b", "c"] = .ok d ∧ d.clauses = [[1], [2], [3]]
      ∧ d.eval σ = false
      ∧ (cnfBExp cs).eval (fun s => σ (num ["a", "b", "c"] s)) = true
      ∧ dimacsTriggers q cs = true :=
  ⟨_, rfl, by decide, by decide, by decide, by decide⟩

/-- defect (`dimacsAtomCnf`): the CNF `a` is printed with no clause at all (`p cnf 1 0`), which
every assignment satisfies; `False` likewise; `~a` raises `KeyError` -/
theorem dimacs_atom_witness :
    let q : Quirks := { dimacsAtomCnf := true }
    (∃ d, toDimacs q (cnfBExp [[⟨false, "a"⟩]]) ["a"] = .ok d ∧ d.clauses = []
        ∧ d.eval (fun _ => false) = true
        ∧ (cnfBExp [[⟨false, "a"⟩]]).eval (fun _ => false) = false)
    ∧ (∃ d, toDimacs q (cnfBExp [[]]) [] = .ok d ∧ d.clauses = []
        ∧ d.eval (fun _ => false) = true ∧ (cnfBExp [[]]).eval (fun _ => false) = false)
    ∧ toDimacs q (cnfBExp [[⟨true, "a"⟩]]) ["a"] = .error "KeyError" :=
  ⟨⟨_, rfl, by decide, by decide, by decide⟩, ⟨_, rfl, by decide, by decide, by decide⟩, rfl⟩

theorem dimacsTriggers_none (cs : List Clause) : dimacsTriggers Quirks.none cs = false := by
  match cs with
  | [] => rfl
  | [c] => simp [dimacsTriggers, Quirks.none]
  | c1 :: c2 :: cs => simp [dimacsTriggers, Quirks.none]

/-- Every quirk setting `q`: whatever py2bexp prints means the combined expression,
provided no CNF sympy returned in the run has a shape that triggers a listed DIMACS defect.
(With `bexp_equiv_partial` the combined expression is the conjunction of the return bits when
the definition list has no intermediates.) -/
theorem py2bexp_output_partial (q : Quirks) (nf : NF) (hnf : NFSpec nf) (form : Form)
    (fmt : Format) (c : BExp) (order : List String) (p : Printed)
    (h : py2bexpOutput q nf form fmt c order = .ok p)
    (hord : ∀ r r1, convertToBoolExpression q nf form c = .ok r →
      dimacsInput q nf form r = .ok r1 → ∀ s ∈ r1.syms, s ∈ order)
    (htr : ∀ e cs, nf .cnf e = .ok (cnfBExp cs) → dimacsTriggers q cs = false) :
    match p with
    | .expr e => ∀ ρ, e.eval ρ = c.eval ρ
    | .dimacs _ d => d.nvars = order.length ∧ ∀ σ, d.eval σ = c.eval (fun s => σ (num order s)) := by
  obtain ⟨r, hcv, hp⟩ := py2bexpOutput_ok h
  have hr := (convert_stage q nf form c).sound hnf.sound hcv
  cases fmt with
  | sympy => cases hp; exact hr
  | dimacs =>
    obtain ⟨r1, cnf, d, hdi, hc, hd, rfl⟩ := hp
    have hr1 := (dimacsInput_stage q nf form r).sound hnf.sound hdi
    have hc' := nf_of_nfCall hc
    obtain ⟨cs, rfl, hvars⟩ := hnf.cnfShape r1 cnf hc'
    obtain ⟨d', hd', hn, _, hev⟩ :=
      dimacs_sat q cs order (fun s hs => hord r r1 hcv hdi s (hvars s hs)) (htr r1 cs hc')
    obtain rfl : d' = d := Except.ok.inj (hd'.symm.trans hd)
    exact ⟨hn, fun σ => by rw [hev σ, hnf.sound _ _ _ hc', hr1, hr]⟩

/-- ... and something IS printed: with the variable limit off every stage of py2bexp succeeds, provided no CNF sympy
returns has a shape that triggers a listed DIMACS defect -/
theorem py2bexp_output_total (q : Quirks) (hq : q.nfVarLimit = false) (nf : NF) (hnf : NFSpec nf) (form : Form)
    (fmt : Format) (c : BExp) (order : List String)
    (hord : ∀ r r1, convertToBoolExpression q nf form c = .ok r →
      dimacsInput q nf form r = .ok r1 → ∀ s ∈ r1.syms, s ∈ order)
    (htr : ∀ e cs, nf .cnf e = .ok (cnfBExp cs) → dimacsTriggers q cs = false) :
    ∃ p, py2bexpOutput q nf form fmt c order = .ok p := by
  obtain ⟨r, hr⟩ := (convert_stage q nf form c).total hq hnf.total
  cases fmt with
  | sympy => exact ⟨.expr r, by simp [py2bexpOutput, hr]⟩
  | dimacs =>
    obtain ⟨r1, hr1⟩ := (dimacsInput_stage q nf form r).total hq hnf.total
    obtain ⟨cnf, hcnf⟩ := hnf.total .cnf r1
    obtain ⟨cs, rfl, hvars⟩ := hnf.cnfShape r1 cnf hcnf
    obtain ⟨d, hd, _⟩ := dimacs_sat q cs order (fun s hs => hord r r1 hr hr1 s (hvars s hs)) (htr r1 cs hcnf)
    exact ⟨.dimacs (form != .cnf) d, by simp [py2bexpOutput, hr, hr1, nfCall_noLimit hq, hcnf, hd]⟩

/-- py2qasm prints the export of the selected function's circuit under the chosen compiler;
`-q 3.0` selects OPENQASM 3, anything else OPENQASM 2 -/
theorem py2qasm_prints_export (compile : String → Nat → QCirc) (bs : List Binding)
    (ep : Option String) (i : Nat) (hsel : selectEntry ep (parseStr bs) = some i)
    (compiler ver : String) :
    py2qasmStdout compile bs ep compiler ver
      = some (exportQasm (if ver = "3.0" then 3 else 2) (compile compiler i) ++ "\n") := by
  simp [py2qasmStdout, hsel, qasmVersion]

/-- the version header of the printed text follows the option -/
theorem qasm_version_header (qc : QCirc) :
    exportQasm 3 qc = "OPENQASM 3.0;\n\n" ++ gateDef qc ++ applyLine qc
    ∧ exportQasm 2 qc = "OPENQASM 2.0;\n\n" ++ "include \"qelib1.inc\";\n\n"
        ++ s!"qreg q[{qc.numQubits}];\n" ++ gateDef qc ++ applyLine qc :=
  ⟨rfl, rfl⟩

theorem C17_full : C17_statement := by
  intro nf hnf fnDefs bs ep i hsel
  have hs := selects_sound bs ep i hsel
  constructor
  · intro form fmt order hnd hord
    have htr : ∀ e cs, nf .cnf e = .ok (cnfBExp cs) → dimacsTriggers Quirks.none cs = false :=
      fun _ cs _ => dimacsTriggers_none cs
    obtain ⟨p, hp⟩ := py2bexp_output_total Quirks.none rfl nf hnf form fmt _ order hord htr
    refine ⟨p, by simp [py2bexpMain, hs, hp], ?_⟩
    have hpart := py2bexp_output_partial Quirks.none nf hnf form fmt _ order p hp hord htr
    cases p with
    | expr e => exact fun ρ => (hpart ρ).trans (bexp_equiv_full _ _ ρ)
    | dimacs w d =>
      exact ⟨hpart.1, (dimacs_numbering_bijective order hnd).1,
        fun σ => (hpart.2 σ).trans (bexp_equiv_full _ _ _)⟩
  · exact fun compile compiler ver => py2qasm_prints_export compile bs ep i hs compiler ver

/-- the hypothesis `Selects` of `C17_statement` is satisfiable: a two-function script with `-e`, and below a
single-function script without.  No `nf` meeting `NFSpec` is constructed in this file: `NFSpec` is obtained only
from `NFSpecRest` (`anf_meets_NFSpec`), which stays an assumption about sympy. -/
example : Selects [⟨"zeta", some 0⟩, ⟨"helper", none⟩, ⟨"alpha", some 1⟩] (some "zeta") 0 :=
  Or.inl ⟨"zeta", rfl, by decide, by decide⟩

example : Selects [⟨"qlassf", none⟩, ⟨"only", some 0⟩] none 0 :=
  Or.inr ⟨rfl, "only", by decide⟩

/-! ## the algebraic normal form is computed, not assumed

`/repo` fbcfb53: `py2bexp.to_anf(expr) = ANFform(sorted(expr.free_symbols, key=str), truth table values)`.
Model: `QV/Model/Anf.lean` (`anfOf`); the other three forms are parameters. -/
open QV.Anf

/-- sympy's rounds over blocks (`anf_coeffs`) compute the transform by halves, for every `n` -/
theorem anf_coeffs_butterfly (n : Nat) (t : List Bool) (h : t.length = 2 ^ n) :
    anfCoeffs n t = mobius n t := by
  simp [anfCoeffs, rounds_singletons n t h]

/-- hence the monomials obtained through the rounds are those obtained by halves -/
theorem anf_butterfly_same (e : BExp) : anfTermsButterfly e = anfTerms e := by
  simp only [anfTermsButterfly, anfTerms]
  rw [anf_coeffs_butterfly _ _ (length_table e _ _)]

/-- the ANF built from the truth table means the expression, at every assignment, for every
expression (any number of variables) -/
theorem anf_of_table_sound (e : BExp) (ρ : Env) : (anfOf e).eval ρ = e.eval ρ := by
  simp only [anfOf, anfTerms, xorExp_eval, evalXor_terms, pe_mobius_table]
  apply BExp.eval_congr
  intro s hs
  exact ovr_mem ρ s _ _ ((mem_vars e s).2 hs)

/-- every symbol of the ANF is a symbol of the expression -/
theorem anf_no_new_symbols (e : BExp) : ∀ s ∈ (anfOf e).syms, s ∈ e.syms := by
  intro s hs
  rw [anfOf, syms_xorExp, mem_symsList_map] at hs
  obtain ⟨m, hm, hsm⟩ := hs
  exact (mem_vars e s).1 (mem_monos _ m (mem_terms _ _ m hm) s hsm)

/-- what is assumed of sympy once `anf` is computed: `to_cnf/to_dnf/to_nnf` only -/
structure NFSpecRest (nf : NF) : Prop where
  total : ∀ f e, f ≠ .anf → ∃ r, nf f e = .ok r
  sound : ∀ f e r, f ≠ .anf → nf f e = .ok r → ∀ ρ, r.eval ρ = e.eval ρ
  cnfShape : ∀ e r, nf .cnf e = .ok r →
    ∃ cs : List Clause, r = cnfBExp cs ∧ ∀ s ∈ clauseVars cs, s ∈ e.syms

theorem withAnf_of_ne (nf : NF) {f : Form} (e : BExp) (hf : f ≠ .anf) : withAnf nf f e = nf f e := by
  cases f <;> first | rfl | exact absurd rfl hf

/-- the modelled ANF meets the spec asked of the parameter: with `to_anf` computed,
`NFSpec` follows from the assumptions on the other three forms alone -/
theorem anf_meets_NFSpec (nf : NF) (h : NFSpecRest nf) : NFSpec (withAnf nf) where
  total := by
    intro f e
    by_cases hf : f = .anf
    · exact ⟨anfOf e, by rw [hf]; rfl⟩
    · rw [withAnf_of_ne nf e hf]; exact h.total f e hf
  sound := by
    intro f e r hr ρ
    by_cases hf : f = .anf
    · subst hf; cases hr; exact anf_of_table_sound e ρ
    · rw [withAnf_of_ne nf e hf] at hr; exact h.sound f e r hf hr ρ
  cnfShape := fun e r hr => h.cnfShape e r hr

/-- the full statement for the tool whose `to_anf` is the modelled
algorithm; the only hypotheses about normal forms concern `cnf`, `dnf`, `nnf` -/
theorem C17_full_anf (nf : NF) (hnf : NFSpecRest nf)
    (fnDefs : Nat → List String × Defs) (bs : List Binding) (ep : Option String) (i : Nat)
    (hsel : Selects bs ep i) :
    (∀ (form : Form) (fmt : Format) (order : List String), order.Nodup →
      (∀ r r1, convertToBoolExpression Quirks.none (withAnf nf) form
          (combined Quirks.none (fnDefs i).1 (fnDefs i).2) = .ok r →
        dimacsInput Quirks.none (withAnf nf) form r = .ok r1 → ∀ s ∈ r1.syms, s ∈ order) →
      ∃ p, py2bexpMain Quirks.none (withAnf nf) fnDefs bs ep form fmt order = some (.ok p)
        ∧ PrintedOk order (fnDefs i).1 (fnDefs i).2 p)
    ∧ (∀ (compile : String → Nat → QCirc) (compiler ver : String),
        py2qasmStdout compile bs ep compiler ver
          = some (exportQasm (if ver = "3.0" then 3 else 2) (compile compiler i) ++ "\n")) :=
  C17_full (withAnf nf) (anf_meets_NFSpec nf hnf) fnDefs bs ep i hsel

/-- `py2bexp -f anf` (sympy format): what is printed is the modelled ANF of the conjunction of the
return bits, it means that conjunction, and nothing is assumed of sympy (any `nf`) -/
theorem py2bexp_prints_anf (nf : NF) (fnDefs : Nat → List String × Defs) (bs : List Binding)
    (ep : Option String) (i : Nat) (hsel : Selects bs ep i) (order : List String) :
    py2bexpMain Quirks.none (withAnf nf) fnDefs bs ep .anf .sympy order
        = some (.ok (.expr (anfOf (combined Quirks.none (fnDefs i).1 (fnDefs i).2))))
      ∧ ∀ ρ, (anfOf (combined Quirks.none (fnDefs i).1 (fnDefs i).2)).eval ρ
          = retConj ρ (fnDefs i).1 (fnDefs i).2 := by
  refine ⟨?_, fun ρ => ?_⟩
  · simp [py2bexpMain, selects_sound bs ep i hsel, py2bexpOutput, convertToBoolExpression, nfCall,
      Quirks.none, withAnf]
  · rw [anf_of_table_sound, bexp_equiv_full]

/-- `~(a ^ ~a)` (which sympy 1.12 `to_anf` maps to `True`): no monomial, the ANF is `False` -/
example : vars (.not (.xor [.sym "a", .not (.sym "a")])) = ["a"]
    ∧ anfTerms (.not (.xor [.sym "a", .not (.sym "a")])) = []
    ∧ (anfOf (.not (.xor [.sym "a", .not (.sym "a")])) == .ff) = true := by
  have hv : vars (.not (.xor [.sym "a", .not (.sym "a")])) = ["a"] := by
    unfold vars
    rw [show dedupStrings (BExp.not (.xor [.sym "a", .not (.sym "a")])).syms = ["a"] from by decide]
    simp
  refine ⟨hv, ?_, ?_⟩
  · simp only [anfTerms, hv]; decide
  · simp only [anfOf, anfTerms, hv]; decide

/-- `(a & b) | c` has the ANF `c ^ (a & b) ^ (a & b & c)` (index order: c, ab, abc) -/
example : vars (.or [.and [.sym "a", .sym "b"], .sym "c"]) = ["a", "b", "c"]
    ∧ anfTerms (.or [.and [.sym "a", .sym "b"], .sym "c"]) = [["c"], ["a", "b"], ["a", "b", "c"]]
    ∧ (anfOf (.or [.and [.sym "a", .sym "b"], .sym "c"])
        == .xor [.sym "c", .and [.sym "a", .sym "b"], .and [.sym "a", .sym "b", .sym "c"]]) = true := by
  have hv : vars (.or [.and [.sym "a", .sym "b"], .sym "c"]) = ["a", "b", "c"] := by
    unfold vars
    rw [show dedupStrings (BExp.or [.and [.sym "a", .sym "b"], .sym "c"]).syms = ["a", "b", "c"] from by decide]
    simp [List.mergeSort, List.MergeSort.Internal.splitInTwo]
  refine ⟨hv, ?_, ?_⟩
  · simp only [anfTerms, hv]; decide
  · simp only [anfOf, anfTerms, hv]; decide

/-- the variables are sorted by name whatever the order of occurrence -/
example : vars (.or [.sym "c", .and [.sym "b", .sym "a"], .sym "c"]) = ["a", "b", "c"] := by
  unfold vars
  rw [show dedupStrings (BExp.or [.sym "c", .and [.sym "b", .sym "a"], .sym "c"]).syms = ["b", "a", "c"] from by decide]
  simp [List.mergeSort, List.MergeSort.Internal.splitInTwo]

/-- sympy's rounds on the table of `(a & b) | c` (`[0,1,0,1,0,1,1,1]`) -/
example : anfCoeffs 3 [false, true, false, true, false, true, true, true]
    = [false, true, false, false, false, false, true, true] := by decide

end QV.C17
