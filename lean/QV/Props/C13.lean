import QV.Proofs.ExportQasm
/-!
# C13 – Exports denote the same operation on the same qubits

> For every circuit, the object or text produced by each available exporter (Qiskit circuit and
> gate, Cirq circuit and gate, Sympy, OpenQASM 2 and 3 text) applies the same gates in the same
> order to the same qubit indices, so that qubit i of the circuit is qubit i of the export and the
> two have the same unitary. The QASM gate declares exactly one formal parameter per qubit, in
> index order.

Model: `QV/Model/Export.lean` (call list of the qiskit exporter, op list of the cirq exporter,
factor list of the sympy exporter, the QASM text and a line reader for it).  "Same gates, same
order, same qubit indices" is `calls.filterMap reading = gates.filterMap gateOp`: the list of
(base gate, number of controls, wire list, parameter) read off the export equals the one of the
circuit's non-nop gates.  That the calls *mean* these gates in qiskit/cirq/sympy is the trusted
reading `QkCall.op` / `CqOp.op` / `SyGate.op`, validated numerically by the harness on every case.

The theorems hold for every gate list / circuit (induction over the exporter loop).
-/
namespace QV.C13
open QV QV.Export

/-- every gate is what `QCircuit.append` accepts, with in-range wires and a numeric parameter
exactly on the phase gates -/
def circWF (fv : FloatOf) (n : Nat) (gs : List AGate) : Prop := ∀ g ∈ gs, gateWF fv n g = true

/-- The property, for the model with every listed defect repaired (`Quirks.none`): each exporter
succeeds on its exportable gate set and its output reads as the circuit's non-nop gates; the QASM
declaration has one formal per qubit in index order and – for a circuit whose names are
`wellNamed` (identifier-shaped, distinct, no clash with a fallback name `q<i>`), whose parameter
literals are single tokens and whose gates are (controlled) library gates – both versions are
emitted, the circuit-mode text is header ++ declaration ++ call on `q[0..n-1]`, and the
declaration is read back as the circuit's name, distinct formals and exactly the circuit's
operations on the positions of its qubits.

(`qasmExportable` is needed: an `MCtrl` of a gate that is not one of the library's has a line
`cc<name>` without a reading, see `qasm_unknown_inner_witness`.  `wellNamed` and `paramsPlain` are
conditions on the input; they give `qasmReadable … = true` and `(qasmFormals …).Nodup`, the two
conditions on the output under which `qasm_resolves` is stated.) -/
def C13_statement : Prop :=
  ∀ (fv : FloatOf) (c : Circ), circWF fv c.numQubits c.gates →
    (∀ gm, (∀ g ∈ c.gates, qiskitExportable g.cls = true) →
      ∃ calls, exportQiskit Quirks.none fv gm c.gates = .ok calls ∧
        calls.filterMap QkCall.op = c.gates.filterMap gateOp) ∧
    ((∀ g ∈ c.gates, cirqExportable g.cls = true) →
      ∃ ops, exportCirq Quirks.none c.gates = .ok ops ∧
        ops.filterMap CqOp.op = c.gates.filterMap gateOp) ∧
    ((∀ g ∈ c.gates, sympyExportable g.cls = true) →
      ∃ fs, exportSympy c.gates = .ok fs ∧ fs.filterMap SyGate.op = c.gates.filterMap gateOp) ∧
    (qasmFormals Quirks.none c = (List.range c.numQubits).map (nameOfIndex c.qmap)) ∧
    (wellNamed c = true → paramsPlain c.gates = true →
      (∀ g ∈ c.gates, qasmExportable g.cls = true) →
      ∀ ver, ∃ text d ops, exportQasm Quirks.none fv ver true c = .ok text ∧
        exportQasm Quirks.none fv ver false c =
          .ok (qasmHeader ver c.numQubits ++ text ++ callLine c.name c.numQubits) ∧
        parseDecl text = some d ∧ d.name = c.name ∧
        d.formals = qasmFormals Quirks.none c ∧ d.formals.Nodup ∧ declOps d = some ops ∧
        ops = c.gates.filterMap gateTOp)

/-- qiskit, circuit and gate mode, every quirk setting `q`: whenever the exporter returns, the
calls it made on `QuantumCircuit` read as the circuit's non-nop gates, in order, on the same
qubit indices, with the same parameters. -/
theorem qiskit_translation (q : Quirks) (fv : FloatOf) (gateMode : Bool) (n : Nat) (gs : List AGate)
    (calls : List QkCall) (hwf : circWF fv n gs)
    (h : exportQiskit q fv gateMode gs = .ok calls) :
    calls.filterMap QkCall.op = gs.filterMap gateOp :=
  runSteps_translate (fun g hg => qiskitStep_spec q fv gateMode (hwf g hg)) h

/-- cirq (`_decompose_` of the exported gate; circuit mode wraps the same gate) -/
theorem cirq_translation (q : Quirks) (fv : FloatOf) (n : Nat) (gs : List AGate)
    (ops : List CqOp) (hwf : circWF fv n gs) (h : exportCirq q gs = .ok ops) :
    ops.filterMap CqOp.op = gs.filterMap gateOp :=
  runSteps_translate (fun g hg => cirqStep_spec q fv (hwf g hg)) h

/-- sympy: the factors multiplied in, in application order -/
theorem sympy_translation (fv : FloatOf) (n : Nat) (gs : List AGate)
    (fs : List SyGate) (hwf : circWF fv n gs) (h : exportSympy gs = .ok fs) :
    fs.filterMap SyGate.op = gs.filterMap gateOp :=
  runSteps_translate (fun g hg => sympyStep_spec fv (hwf g hg)) h

/-- the hypotheses are satisfiable by a non-trivial circuit (MCX(3), CP, a barrier) -/
example : ∃ calls, exportQiskit Quirks.none (fun _ => some ⟨false, 1, 2⟩) false
    [⟨.H, [0], .none, 0⟩, ⟨.MCX 3, [0, 1, 2, 3], .none, 0⟩, ⟨.Barrier, [], .none, 0⟩,
     ⟨.CP, [2, 0], .lit "0.5", 0⟩] = .ok calls ∧ calls.length = 4 := ⟨_, rfl, rfl⟩

example : circWF (fun _ => some ⟨false, 1, 2⟩) 4
    [⟨.H, [0], .none, 0⟩, ⟨.MCX 3, [0, 1, 2, 3], .none, 0⟩, ⟨.Barrier, [], .none, 0⟩,
     ⟨.CP, [2, 0], .lit "0.5", 0⟩] := by
  intro g hg
  simp at hg
  rcases hg with rfl | rfl | rfl | rfl <;> rfl

/-- circuit mode = header, the gate declaration of gate mode, the call on `q[0..n-1]` -/
theorem qasm_text_shape (q : Quirks) (fv : FloatOf) (ver : Nat) (c : Circ) (gate : Text)
    (h : exportQasm q fv ver true c = .ok gate) :
    exportQasm q fv ver false c = .ok (qasmHeader ver c.numQubits ++ gate ++ callLine c.name c.numQubits)
      ∧ (callArgs c.numQubits).length = c.numQubits := by
  rw [exportQasm_eq] at h ⊢
  cases hb : qasmBody q fv c with
  | error m => rw [hb] at h; cases h
  | ok body =>
    rw [hb] at h
    cases h
    exact ⟨rfl, by simp [callArgs]⟩

/-- the emitted gate declaration (any quirk setting, both versions) is read back as: the circuit's
name, the formals the exporter chose, and one line per non-nop gate, in order -/
theorem qasm_roundtrip (q : Quirks) (fv : FloatOf) (ver : Nat) (c : Circ)
    (hr : qasmReadable q fv c = true) :
    ∃ text body, exportQasm q fv ver true c = .ok text ∧ qasmBody q fv c = .ok body ∧
      parseDecl text = some { name := c.name, formals := qasmFormals q c, body := body } := by
  unfold qasmReadable at hr
  cases hb : qasmBody q fv c with
  | error m => simp [hb] at hr
  | ok body =>
    simp only [hb, Bool.and_eq_true, List.all_eq_true] at hr
    exact ⟨renderGate c.name (qasmFormals q c) body, body, by rw [exportQasm_eq, hb]; rfl, rfl,
      parseDecl_renderGate _ _ _ hr.1.1 hr.1.2 hr.2⟩

/-- the lines of the body are exactly the non-nop gates, in order: name `g.__name__.lower()`,
arguments = names of the gate's wires -/
theorem qasm_body_lines (q : Quirks) (fv : FloatOf) (c : Circ) (body : List QLine)
    (h : qasmBody q fv c = .ok body) :
    body = c.gates.filterMap (fun g => if g.cls.isNop then none else qasmLineOf q fv c g) := by
  rw [(runSteps_ok_eq _ _ _ h).1]
  refine List.filterMap_congr_mem _ fun g _ => ?_
  unfold qasmStep
  by_cases hn : g.cls.isNop = true
  · rw [if_pos hn, if_pos hn]; rfl
  · rw [if_neg hn, if_neg hn]
    cases qasmLineOf q fv c g <;> rfl

/-- repaired exporter: exactly one formal per qubit, in index order -/
theorem qasm_formals_full (c : Circ) :
    qasmFormals Quirks.none c = (List.range c.numQubits).map (nameOfIndex c.qmap) ∧
    (qasmFormals Quirks.none c).length = c.numQubits ∧
    ∀ w, qasmWireName Quirks.none c w = some (nameOfIndex c.qmap w) := by
  simp [qasmFormals, qasmWireName, Quirks.none]

/-- with distinct formals, the argument naming wire `w` resolves to position `w`: qubit `w` of the
circuit is `q[w]` of the call -/
theorem qasm_wire_position (c : Circ) (w : Nat) (hw : w < c.numQubits)
    (hnd : (qasmFormals Quirks.none c).Nodup) :
    indexOfName (qasmFormals Quirks.none c) (nameOfIndex c.qmap w) = some w :=
  indexOfName_formals qasmRepaired_none c w hw hnd

/-- `qasmReadable` (hypothesis of `qasm_roundtrip`) holds of a circuit with aliased names, MCX and a
barrier -/
example : qasmReadable Quirks.none (fun _ => none)
    { name := "f".toList, numQubits := 3, qmap := [("a".toList, 0), ("b".toList, 1), ("c".toList, 0), ("r".toList, 2)],
      gates := [⟨.H, [0], .none, 0⟩, ⟨.MCX 2, [0, 1, 2], .none, 0⟩, ⟨.Barrier, [], .none, 0⟩] } = true := by decide +kernel

/-- qiskit, both modes: on a well-formed circuit over `qiskitExportable` gates the repaired
exporter returns, and what it returns reads as the circuit -/
theorem qiskit_total (fv : FloatOf) (gm : Bool) (n : Nat) (gs : List AGate) (hwf : circWF fv n gs)
    (he : ∀ g ∈ gs, qiskitExportable g.cls = true) :
    ∃ calls, exportQiskit Quirks.none fv gm gs = .ok calls ∧
      calls.filterMap QkCall.op = gs.filterMap gateOp :=
  runSteps_correct (fun g hg => qiskitStep_spec Quirks.none fv gm (hwf g hg)) fun g hg => ⟨he g hg, rfl⟩

/-- cirq: same, on `cirqExportable` gates (barriers and nop gates are skipped) -/
theorem cirq_total (fv : FloatOf) (n : Nat) (gs : List AGate) (hwf : circWF fv n gs)
    (he : ∀ g ∈ gs, cirqExportable g.cls = true) :
    ∃ ops, exportCirq Quirks.none gs = .ok ops ∧ ops.filterMap CqOp.op = gs.filterMap gateOp :=
  runSteps_correct (fun g hg => cirqStep_spec Quirks.none fv (hwf g hg)) fun g hg => ⟨he g hg, rfl⟩

/-- sympy: same, on `sympyExportable` gates (X, H, CX, SWAP, CCX, MCX(k ≥ 1), nops) -/
theorem sympy_total (fv : FloatOf) (n : Nat) (gs : List AGate) (hwf : circWF fv n gs)
    (he : ∀ g ∈ gs, sympyExportable g.cls = true) :
    ∃ fs, exportSympy gs = .ok fs ∧ fs.filterMap SyGate.op = gs.filterMap gateOp :=
  runSteps_correct (fun g hg => sympyStep_spec fv (hwf g hg)) he

/-- QASM, both versions and modes: for every `q` with `QasmRepaired q` (formals and parameter test
repaired; `qasmParam2f`, the one open finding – parameters printed `{p:.2f}` –, on or off) the exporter returns on every
well-formed circuit over `qasmExportable` gates, whatever the names -/
theorem qasm_total (q : Quirks) (hq : QasmRepaired q) (fv : FloatOf) (ver : Nat) (gm : Bool) (c : Circ)
    (hwf : circWF fv c.numQubits c.gates) (he : ∀ g ∈ c.gates, qasmExportable g.cls = true) :
    ∃ text, exportQasm q fv ver gm c = .ok text := by
  rw [exportQasm_eq, qasmBody_eq hq fv c hwf he]
  exact ⟨_, rfl⟩

/-- every gate name the exporter prints is read back as the class's base gate and number of
controls (`c…c<base>`; every class shape, any `n`, any library inner gate) -/
theorem qasm_name_reading (cls : GClass) (bk : Base × Nat) (h : kind cls = some bk) :
    kindOfQasm (qasmName cls) = some bk := kindOfQasm_qasmName h

/-- every `q` with `QasmRepaired q` (`qasmParam2f` on or off), readable
text, distinct formals, (controlled) library gates: the declaration that is read back applies
exactly the circuit's non-nop gates, in order, each on the formal positions = qubit indices of
its wires; the parameter text is what `q` prints (`gateTOpQ`: the literal, or `{p:.2f}` of its
value under `qasmParam2f`) -/
theorem qasm_resolves_q (q : Quirks) (hq : QasmRepaired q) (fv : FloatOf) (ver : Nat) (c : Circ)
    (hwf : circWF fv c.numQubits c.gates) (he : ∀ g ∈ c.gates, qasmExportable g.cls = true)
    (hr : qasmReadable q fv c = true) (hnd : (qasmFormals q c).Nodup) :
    ∃ text d, exportQasm q fv ver true c = .ok text ∧ parseDecl text = some d ∧
      d.name = c.name ∧ d.formals = (List.range c.numQubits).map (nameOfIndex c.qmap) ∧
      declOps d = some (c.gates.filterMap (gateTOpQ q fv)) := by
  obtain ⟨text, body, h1, h2, h3⟩ := qasm_roundtrip q fv ver c hr
  refine ⟨text, _, h1, h3, rfl, qasmFormals_repaired hq c, ?_⟩
  rw [qasm_body_lines q fv c body h2]
  exact declOps_body hq fv c hwf he hnd

/-- fully repaired exporter: the parameter read back is the literal of the gate's parameter -/
theorem qasm_resolves (fv : FloatOf) (ver : Nat) (c : Circ) (hwf : circWF fv c.numQubits c.gates)
    (he : ∀ g ∈ c.gates, qasmExportable g.cls = true)
    (hr : qasmReadable Quirks.none fv c = true) (hnd : (qasmFormals Quirks.none c).Nodup) :
    ∃ text d, exportQasm Quirks.none fv ver true c = .ok text ∧ parseDecl text = some d ∧
      d.name = c.name ∧ d.formals = qasmFormals Quirks.none c ∧
      declOps d = some (c.gates.filterMap gateTOp) := by
  obtain ⟨text, d, h1, h2, h3, h4, h5⟩ :=
    qasm_resolves_q Quirks.none qasmRepaired_none fv ver c hwf he hr hnd
  refine ⟨text, d, h1, h2, h3, h4.trans (qasmFormals_repaired qasmRepaired_none c).symm, ?_⟩
  rw [h5]
  congr 1
  exact List.filterMap_congr_mem _ (fun g _ => gateTOpQ_none fv g)

/-- `wellNamed` (circuit name and qubit names identifier-shaped, names distinct, no qubit name
equal to the fallback name `q<i>` of an unnamed qubit) and single-token parameter literals give
the two conditions on the output used above: every emitted token is readable and the formals are
pairwise distinct.  Aliased and dotted names of compiled functions are allowed.  Holds for
every `q` with `QasmRepaired q` (`{p:.2f}` prints sign, digits and a point). -/
theorem qasm_wellNamed_readable (q : Quirks) (hq : QasmRepaired q) (fv : FloatOf) (c : Circ)
    (hwf : circWF fv c.numQubits c.gates)
    (he : ∀ g ∈ c.gates, qasmExportable g.cls = true)
    (hp : paramsPlain c.gates = true) (hn : wellNamed c = true) :
    qasmReadable q fv c = true ∧ (qasmFormals q c).Nodup :=
  have hs := wellNamed_spec hn
  ⟨readable_of_spec hq fv hwf he hp hs, formals_nodup hq hs⟩

/-- with only flag `qasmParam2f` on (the open finding `C13-qasm-param-2f`), from conditions on the input alone:
both versions of the gate declaration are emitted and read back as the circuit's name, one
formal per qubit in index order, pairwise distinct, and exactly the circuit's non-nop gates on
the positions of their qubits – only the parameter is the two-decimal rendering of its value -/
theorem qasm_asis_resolves (fv : FloatOf) (ver : Nat) (c : Circ) (hwf : circWF fv c.numQubits c.gates)
    (he : ∀ g ∈ c.gates, qasmExportable g.cls = true)
    (hp : paramsPlain c.gates = true) (hn : wellNamed c = true) :
    ∃ text d, exportQasm { qasmParam2f := true } fv ver true c = .ok text ∧ parseDecl text = some d ∧
      d.name = c.name ∧ d.formals = (List.range c.numQubits).map (nameOfIndex c.qmap) ∧
      d.formals.Nodup ∧
      declOps d = some (c.gates.filterMap (gateTOpQ { qasmParam2f := true } fv)) := by
  have hq : QasmRepaired { qasmParam2f := true } := ⟨rfl, rfl⟩
  obtain ⟨hr, hnd⟩ := qasm_wellNamed_readable _ hq fv c hwf he hp hn
  obtain ⟨text, d, h1, h2, h3, h4, h5⟩ := qasm_resolves_q _ hq fv ver c hwf he hr hnd
  refine ⟨text, d, h1, h2, h3, h4, ?_, h5⟩
  rw [h4, ← qasmFormals_repaired hq c]
  exact hnd

/-- `wellNamed` (it reads the names only, hence `gates := []`) holds of the name map of a compiled
`c = a` (aliased: `a` and `c` both name qubit 0) with a dotted name and an unnamed qubit 3;
`paramsPlain`, below, of a gate list with MCX, a 17-digit parameter and a barrier -/
example : wellNamed
    { name := "f".toList, numQubits := 4,
      qmap := [("a".toList, 0), ("b.0".toList, 1), ("c".toList, 0), ("_ret".toList, 2)],
      gates := [] } = true := by decide +kernel

example : paramsPlain [⟨.H, [0], .none, 0⟩, ⟨.MCX 2, [0, 1, 2], .none, 0⟩, ⟨.Barrier, [], .none, 0⟩,
    ⟨.CP, [3, 0], .lit "0.7853981633974483", 0⟩] = true := by decide +kernel

theorem C13_full : C13_statement := by
  intro fv c hwf
  refine ⟨fun gm he => qiskit_total fv gm _ _ hwf he, fun he => cirq_total fv _ _ hwf he,
    fun he => sympy_total fv _ _ hwf he, (qasm_formals_full c).1, ?_⟩
  intro hn hp he ver
  obtain ⟨hr, hnd⟩ := qasm_wellNamed_readable _ qasmRepaired_none fv c hwf he hp hn
  obtain ⟨text, d, h1, h2, h3, h4, h5⟩ := qasm_resolves fv ver c hwf he hr hnd
  exact ⟨text, d, _, h1, (qasm_text_shape Quirks.none fv ver c text h1).1, h2, h3, h4, h4 ▸ hnd, h5, rfl⟩

/-- The conditional part, for *every* quirk setting `q`: *if* an exporter returns, its output reads as the
circuit; the QASM declaration is read back line by line; the repaired exporter's formals are one
per qubit in index order.  `C13_full` adds, for the repaired model, that the exporters do return
and that the lines resolve to the circuit's operations; `qasm_asis_resolves` does the same with
only `qasmParam2f` on. -/
theorem C13_partial (q : Quirks) (fv : FloatOf) (c : Circ) (hwf : circWF fv c.numQubits c.gates) :
    (∀ gm calls, exportQiskit q fv gm c.gates = .ok calls →
      calls.filterMap QkCall.op = c.gates.filterMap gateOp) ∧
    (∀ ops, exportCirq q c.gates = .ok ops → ops.filterMap CqOp.op = c.gates.filterMap gateOp) ∧
    (∀ fs, exportSympy c.gates = .ok fs → fs.filterMap SyGate.op = c.gates.filterMap gateOp) ∧
    (qasmFormals Quirks.none c = (List.range c.numQubits).map (nameOfIndex c.qmap)) ∧
    (∀ ver, qasmReadable q fv c = true →
      ∃ text body, exportQasm q fv ver true c = .ok text ∧
        parseDecl text = some { name := c.name, formals := qasmFormals q c, body := body } ∧
        body = c.gates.filterMap (fun g => if g.cls.isNop then none else qasmLineOf q fv c g)) := by
  refine ⟨fun gm calls h => qiskit_translation q fv gm _ _ calls hwf h,
    fun ops h => cirq_translation q fv _ _ ops hwf h,
    fun fs h => sympy_translation fv _ _ fs hwf h, (qasm_formals_full c).1, ?_⟩
  intro ver hr
  obtain ⟨text, body, h1, h2, h3⟩ := qasm_roundtrip q fv ver c hr
  exact ⟨text, body, h1, h3, qasm_body_lines q fv c body h2⟩

/-- `C13-qasm-formals-from-names`: a second name for qubit 0 (what `c = a` compiles to) gives a
gate with 4 formals for 3 qubits, while the call passes 3 arguments -/
theorem qasm_formals_witness :
    let c : Circ := ⟨['g'], 3, [(['a'], 0), (['b'], 1), (['c'], 0), (['r'], 2)], [⟨.CCX, [0, 1, 2], .none, 0⟩]⟩
    (qasmFormals { qasmFormalsFromKeys := true } c).length = 4 ∧ (callArgs c.numQubits).length = 3 ∧
    (qasmFormals Quirks.none c).length = 3 := by decide

/-- same defect, re-bound names: the formals are not in index order, so the call binds `r` (qubit 2)
to `q[1]` -/
theorem qasm_formals_order_witness :
    let c : Circ := ⟨['g'], 3, [(['a'], 0), (['r'], 2), (['b'], 1)], [⟨.CX, [0, 2], .none, 0⟩]⟩
    indexOfName (qasmFormals { qasmFormalsFromKeys := true } c) ['r'] = some 1 ∧
    qasmWireName { qasmFormalsFromKeys := true } c 2 = some ['r'] := by decide

/-- `C13-qasm-param-2f`: π/4 (the double 884279719003555/2^50) is printed as `0.79`, which is not
its value -/
theorem qasm_param2f_witness :
    fmt2f ⟨false, 884279719003555, 1125899906842624⟩ = ['0', '.', '7', '9'] ∧
    884279719003555 * 100 ≠ 79 * 1125899906842624 := by decide

/-- `C13-param-zero-dropped`: `cp(0.0)` – the qiskit exporter calls `qc.cp(*w)` and raises; the
QASM line carries no parameter; the repaired exporters keep it -/
theorem param_zero_witness :
    let fv : FloatOf := fun _ => some ⟨false, 0, 1⟩
    let g : AGate := ⟨.CP, [0, 1], .lit "0.0", 0⟩
    let c : Circ := ⟨['q', 'c'], 2, [(['a'], 0), (['b'], 1)], [g]⟩
    (exportQiskit { exportParamTruthy := true } fv false [g]).toOption = none ∧
    ((qasmLineOf { exportParamTruthy := true } fv c g).map (·.ptext)) = some none ∧
    (exportQiskit Quirks.none fv false [g]).toOption = some [.meth ['c', 'p'] (some (.lit "0.0")) [0, 1]] := by
  decide +kernel

/-- `C13-cirq-nop-raises`: a barrier makes the cirq export raise; repaired, it is skipped -/
theorem cirq_barrier_witness :
    let gs : List AGate := [⟨.X, [0], .none, 0⟩, ⟨.Barrier, [], .none, 0⟩, ⟨.CX, [0, 1], .none, 0⟩]
    (exportCirq { cirqNopRaises := true } gs).toOption = none ∧
    (exportCirq Quirks.none gs).toOption = some [.named ['X'] [0], .named ['C', 'N', 'O', 'T'] [0, 1]] := by
  decide +kernel

/-- why `C13_statement` needs `qasmExportable`: `MCtrl(g, 2)` for a gate `g` that is not one of the
library's nine is accepted by `QCircuit.append`, the text is readable and the formals distinct, but
the line `ccfoo a b c` has no reading – and the circuit entry itself denotes no operation -/
theorem qasm_unknown_inner_witness :
    let c : Circ := ⟨['g'], 3, [(['a'], 0), (['b'], 1), (['c'], 2)], [⟨.MCtrl "FOO" 2, [0, 1, 2], .none, 0⟩]⟩
    gateWF (fun _ => none) 3 ⟨.MCtrl "FOO" 2, [0, 1, 2], .none, 0⟩ = true ∧
    qasmReadable Quirks.none (fun _ => none) c = true ∧ wellNamed c = true ∧
    qasmExportable (.MCtrl "FOO" 2) = false ∧
    (match exportQasm Quirks.none (fun _ => none) 3 true c with
      | .ok t => (parseDecl t).bind declOps
      | .error _ => none) = none := by decide +kernel

/-- the fallback name of an unnamed qubit avoids the names of the other qubits: with `{"q1": 0}`
on two qubits the exporter declares `gate g q1 _q1` (`gate g q1 q1` before commit 9fc5457 of the
library); `wellNamed` excludes the case although the exporter handles it, which keeps its statement simple -/
theorem qasm_fallback_fresh_example :
    let c : Circ := ⟨['g'], 2, [(['q', '1'], 0)], [⟨.CX, [0, 1], .none, 0⟩]⟩
    qasmFormals Quirks.none c = [['q', '1'], ['_', 'q', '1']] ∧ wellNamed c = false := by decide +kernel

end QV.C13
