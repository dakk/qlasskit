import QV.Model.Grover
import QV.Proofs.Grover
import QV.Proofs.GroverAmp
import QV.Props.C09
import QV.Proofs.EndToEnd
import QV.Proofs.SortNat
/-!
# C15 – Grover search amplifies exactly the solutions of the predicate

> For every predicate f (or function g with a target value y, searching g(x)==y) whose number of
> solutions matches the declared count and is at most a quarter of the search space, the output
> distribution of the Grover circuit's search register depends only on the set of solutions and
> not on how the predicate is written or compiled, every solution is more likely than every
> non-solution, and (for search registers of up to six qubits, the range explored) a solution is
> measured with probability above one half.  Decoding a measured string yields the solution in
> the predicate's argument type.

Model: `QV.Model.Grover` (constructor gate list, default iteration count, reduced amplitude
recurrence, exact integer amplitude semantics of the gates used).

`C15_full : C15_statement` is the full property: the (n, M) table is evaluated exactly (`grover_table`: 31 entries,
the property itself bounds n ≤ 6), and the step from the gate list to the reduced recurrence is proved for all n, all
predicates, all clean xor-oracles and all iteration counts (`grover_distribution`; lemmas in `QV/Proofs/GroverAmp.lean`).

Assumed (hypotheses of the theorems, not proved about qlasskit's compiler here): the compiled
oracle is a clean xor-oracle (`CleanXorOracle`: X/CX/CCX/MCX gates on distinct wires inside its
`nq` qubits, `_ret ^= f x`, scratch qubits returned to 0) – C02/C03/C06's matter; the textbook
action of H / X-like / Z-like gates on amplitudes (`applyWave`).  The two sections "End to end" at the
end of this file discharge the first hypothesis for what the compiler model produces on the classes of
`C06_fragment_partial` / `C06_general_partial` (`C15_end_to_end_fragment`, `C15_end_to_end_general`).
-/
namespace QV.C15
open QV QV.Grover QV.Types

/-- The full property, over the exact amplitude semantics `probNum` of the constructor's gate
list: for every search width `2 ≤ n ≤ 6`, every predicate `f` with `M` solutions,
`1 ≤ M ≤ 2^n/4`, and every clean xor-oracle `og` of `f` (however written or compiled), the
default iteration count `k` exists and the probability of reading `x` on the search register is
`ps/d` on solutions and `pn/d` on non-solutions, where `(ps, pn, d) = predict n M k` depends on
`(n, M)` only – so the distribution depends only on the solution set –, `ps > pn`,
`M·ps/d > 1/2`; and decoding the measured string of a value returns the value. -/
def C15_statement : Prop :=
  (∀ (q : Quirks) (n M nq ret : Nat) (og : List AGate) (f : BState → Bool),
    2 ≤ n → n ≤ 6 → ((allStates n).filter f).length = M → 1 ≤ M → 4 * M ≤ 2 ^ n →
    CleanXorOracle n nq ret og f →
    ∃ k, kDefault n M = some k ∧
      let gs := groverGates q n og nq ret k
      let pr := predict n M k
      (∀ x : BState, x.length = n →
        probNum gs (nq + 1) n x * pr.2.2 = (if f x then pr.1 else pr.2.1) * 2 ^ hCount gs) ∧
      pr.2.1 < pr.1 ∧ pr.2.2 < 2 * (M * pr.1))
  ∧ (∀ (t : QTy) (v : QVal), C09.WT t v → decodeOutput t (encode t v).reverse = v)

/-- the table is exactly the range of the property: 2 ≤ n ≤ 6, 1 ≤ M ≤ 2^n/4 (31 entries) -/
theorem mem_table (n M : Nat) :
    (n, M) ∈ Grover.table ↔ 2 ≤ n ∧ n ≤ 6 ∧ 1 ≤ M ∧ 4 * M ≤ 2 ^ n := by
  -- row `i` of the table is `n = i + 2`, `M = 1 … 2^(i+2)/4 = 2^i`
  have hrow : ∀ i : Nat, 2 ^ (i + 2) / 4 = 2 ^ i := fun i => by
    rw [Nat.pow_add]; exact Nat.mul_div_cancel _ (by decide)
  unfold Grover.table
  simp only [List.mem_flatMap, List.mem_map, List.mem_range, Prod.mk.injEq, hrow]
  constructor
  · rintro ⟨i, hi, m, hm, rfl, rfl⟩
    rw [Nat.pow_add]
    omega
  · rintro ⟨h2, h6, hM, hq⟩
    obtain ⟨i, rfl⟩ : ∃ i, n = i + 2 := ⟨n - 2, by omega⟩
    rw [Nat.pow_add] at hq
    exact ⟨i, by omega, M - 1, by omega, rfl, by omega⟩

theorem table_length : Grover.table.length = 31 := by decide

/-- On every entry of the table both rational bounds on π give the same iteration count, so the
modelled default is `⌈π/4·√(N/M)⌉` for the real π (given `3.141592 < π < 3.141593`). -/
theorem kdefault_table : ∀ e ∈ Grover.table,
    kDefaultWith piLo e.1 e.2 = kDefaultWith piHi e.1 e.2 := by decide +kernel

/-- the default count is the least admissible `k`, for all n and M > 0 -/
theorem kdefault_least (n M : Nat) (hM : 0 < M) :
    ∃ k, kDefault n M = some k ∧ kOk piHi n M k = true ∧ ∀ j < k, kOk piHi n M j = false := by
  refine ⟨kSearch piHi n M (2 ^ n + 1) 0, ?_, ?_, ?_⟩
  · simp [kDefault, kDefaultWith, Nat.ne_of_gt hM]
  · exact kSearch_ok piHi n M _ 0 (2 ^ n) (Nat.zero_le _) (by omega)
      (kOk_pow piHi n M (by decide) hM)
  · intro j hj
    exact kSearch_least piHi n M _ 0 j (Nat.zero_le _) hj

/-- the default count is at least 1 wherever it exists (so `repeat` never sees 0) -/
theorem kdefault_pos (n M k : Nat) (h : kDefault n M = some k) : 1 ≤ k := by
  have hM : 0 < M := by
    apply Nat.pos_of_ne_zero; rintro rfl; simp [kDefault, kDefaultWith] at h
  obtain ⟨k', h1, h2, _⟩ := kdefault_least n M hM
  obtain rfl : k' = k := Option.some.inj (h1.symm.trans h)
  -- `k = 0` is not admissible: `π²·2^n ≤ 0` fails
  apply Nat.pos_of_ne_zero; rintro rfl
  simp [kOk, piHi] at h2

private def tableOk : Bool :=
  Grover.table.all fun e =>
    match kDefault e.1 e.2 with
    | some k => entryOk e.1 e.2 k
    | none => false

private theorem tableOk_true : tableOk = true := by decide +kernel

/-- For every (n, M) with 2 ≤ n ≤ 6 and 1 ≤ M ≤ 2^n/4, with the default
iteration count `k`, the reduced model predicts: a solution is measured with probability
`M·ps/d > 1/2`; each solution is more likely than each non-solution (`ps > pn`); the
probabilities sum to one.  Exact integer arithmetic over the whole finite table. -/
theorem grover_table (n M : Nat) (h2 : 2 ≤ n) (h6 : n ≤ 6) (hM : 1 ≤ M) (hq : 4 * M ≤ 2 ^ n) :
    ∃ k, kDefault n M = some k ∧
      (predict n M k).2.2 < 2 * (M * (predict n M k).1) ∧
      (predict n M k).2.1 < (predict n M k).1 ∧
      M * (predict n M k).1 + ((2 : Int) ^ n - M) * (predict n M k).2.1 = (predict n M k).2.2 := by
  have hmem := (mem_table n M).2 ⟨h2, h6, hM, hq⟩
  have h := tableOk_true
  unfold tableOk at h
  rw [List.all_eq_true] at h
  have he := h (n, M) hmem
  simp only at he
  split at he
  · rename_i k hk
    refine ⟨k, hk, ?_⟩
    unfold entryOk at he
    simp only [Bool.and_eq_true, decide_eq_true_eq] at he
    exact ⟨he.1.1, he.1.2, he.2⟩
  · cases he

/-- one iteration multiplies the weighted squared norm by exactly `N²` – the common denominator
(all N, M; an algebraic identity; restates `Grover.norm_rstep`) -/
theorem step_normalised (N M : Int) (s : RState) :
    (rstep N M s).norm N M = N ^ 2 * s.norm N M := norm_rstep N M s

/-- total probability one after any number of iterations, for all n, M, k -/
theorem total_probability (n M k : Nat) :
    M * (predict n M k).1 + ((2 : Int) ^ n - M) * (predict n M k).2.1 = (predict n M k).2.2 := by
  have h := norm_riter ((2 : Int) ^ n) M k RState.init
  rw [norm_init] at h
  simp only [predict]
  simp only [RState.norm] at h
  rw [h, pow_succ]

theorem grover_length (q : Quirks) (n : Nat) (og : List AGate) (nq ret k : Nat) :
    (groverGates q n og nq ret k).length
      = n + 1 + repeatCopies q k * (og.length + 1 + (4 * n + 5)) := by
  have h := countP_grover (fun _ => true) q n og nq ret k 1 1 1 (fun _ => rfl) (fun _ => rfl) (fun _ _ => rfl)
  rw [List.countP_true] at h
  rw [h]; ring

/-- with the default (≥ 1) iteration count the gate list does not depend on the `repeat(0)`
quirk -/
theorem grover_quirk_free (q : Quirks) (n : Nat) (og : List AGate) (nq ret k : Nat) (hk : 1 ≤ k) :
    groverGates q n og nq ret k = groverGates Quirks.none n og nq ret k := by
  unfold groverGates; rw [repeatCopies_pos q hk, repeatCopies_pos Quirks.none hk]

/-- every gate of the algorithm circuit acts inside its `nq + 1` qubits, provided the oracle's
gates act inside the oracle's `nq` qubits, `_ret` is one of them and the search register fits -/
theorem grover_wires (q : Quirks) (n : Nat) (og : List AGate) (nq ret k : Nat)
    (hn : n ≤ nq) (hret : ret < nq) (hog : ∀ g ∈ og, ∀ w ∈ g.wires, w < nq) :
    ∀ g ∈ groverGates q n og nq ret k, ∀ w ∈ g.wires, w < groverNumQubits n nq := by
  have hnum : groverNumQubits n nq = nq + 1 := by unfold groverNumQubits; omega
  rw [hnum]
  intro g hg w hw
  rcases mem_groverGates hg with hg | ⟨i, hi, rfl | rfl⟩ | rfl | rfl
  · exact Nat.lt_succ_of_lt (hog g hg w hw)
  · simp [gH] at hw; omega
  · simp [gX] at hw; omega
  · simp [gMCZ] at hw; omega
  · simp [gMCZ, List.mem_range] at hw; omega

/-- the search register read by `output_qubits` is the first `n` qubits -/
theorem output_register (n : Nat) : outputQubits n = List.range n := rfl

/-- `decode_output` of the measured string of a value (qubit 0 rightmost) of the
predicate's argument type returns that value – for every nested argument type (from C09) -/
theorem decode_solution (t : QTy) (v : QVal) (h : C09.WT t v) :
    decodeOutput t (encode t v).reverse = v :=
  C09.interpretAsQtype_encode t v h _ rfl

/-- everything `C15_statement` says about the *predicted* distribution and about decoding
(no gate list occurs: `C15_full` below is about the circuit).  "Partial" = this part of the statement;
no quirk flag is involved. -/
theorem C15_partial :
    (∀ (n M : Nat), 2 ≤ n → n ≤ 6 → 1 ≤ M → 4 * M ≤ 2 ^ n →
      ∃ k, kDefault n M = some k ∧ 1 ≤ k ∧
        (predict n M k).2.1 < (predict n M k).1 ∧
        (predict n M k).2.2 < 2 * (M * (predict n M k).1) ∧
        M * (predict n M k).1 + ((2 : Int) ^ n - M) * (predict n M k).2.1 = (predict n M k).2.2)
    ∧ (∀ (t : QTy) (v : QVal), C09.WT t v → decodeOutput t (encode t v).reverse = v) := by
  refine ⟨?_, decode_solution⟩
  intro n M h2 h6 hM hq
  obtain ⟨k, hk, h1, h2', h3⟩ := grover_table n M h2 h6 hM hq
  exact ⟨k, hk, kdefault_pos n M k hk, h2', h1, h3⟩


/-- For every `n`, every number `m` of qubits between the search register
and the phase qubit and every integer wave `ψ`: the diffuser gate list (`H X` on search and
phase qubits, `MCtrl(Z)`, `X H`) is `2^(n+1)·(I − 2|u⟩⟨u|)`, `|u⟩` uniform on search ⊗ phase:
`(Dψ)(z, mid, b) = 2^(n+1)·ψ(z, mid, b) − 2·Σ_{x,c} ψ(x, mid, c)`.  (Restates `Grover.diffuser_reflection`.) -/
theorem diffuser_reflection (n m : Nat) (ψ : Wave) (z mid : List Bool) (b : Bool)
    (hz : z.length = n) (hm : mid.length = m) :
    runWave (diffuser n (n + m)) ψ (z ++ mid ++ [b])
      = 2 ^ (n + 1) * ψ (z ++ mid ++ [b])
        - 2 * Amp.sumBits n (fun x => ψ (x ++ mid ++ [false]) + ψ (x ++ mid ++ [true])) :=
  Grover.diffuser_reflection n m ψ z mid b hz hm

/-- Oracle + kick-back on class-uniform states: `oracle_qc` (compiled clean xor-oracle, then
`MCtrl(Z)` from `_ret` onto the phase qubit) maps a state that is `c ·` the reduced state `R` to
`c ·` `phaseStep (oracleStep R)`: the `_ret = 0/1` sectors are swapped on solutions only, then
|+⟩ and |−⟩ are swapped where `_ret = 1`. -/
theorem oracle_kickback (n nq ret : Nat) (og : List AGate) (f : BState → Bool)
    (h : CleanXorOracle n nq ret og f) (c : Int) (R : RState) (ψ : Wave)
    (hψ : ClassUniform n (nq - n) (ret - n) f c R ψ) :
    ClassUniform n (nq - n) (ret - n) f c (phaseStep (oracleStep R))
      (runWave (oracleWithPhase og ret nq) ψ) := by
  have hO := oracleSpec_of_clean n nq ret og f h
  have h1 : n + (ret - n) = ret := by have := h.1; omega
  have h2 : n + (nq - n) = nq := by have := h.1; have := h.2.1; omega
  unfold oracleWithPhase
  rw [runWave_append, runWave_cons, runWave_nil]
  have := phase_step n (nq - n) (ret - n) f c _ _ hO.km
    (oracle_step og n (nq - n) (ret - n) f c R ψ hO hψ)
  rwa [h1, h2] at this

/-- (`Grover.class_uniform_invariant` with the count through `count_allStates`.)  For every `n`, every predicate `f`,
every clean xor-oracle `og` of `f` and every number `j` of iterations: the state of the Grover gate list (H layers, then `j`
copies of oracle + kick-back + diffuser) vanishes off the clean basis states and on them is
`2^j ·` the reduced state `riter N M j init` with `M = #{x | f x}`: at `(x, _ret = r, phase = b)`
the amplitude is `2^j·(A_{r,+} + (−1)^b·A_{r,−})`, `A` = the solution numerators if `f x`, the
non-solution numerators otherwise. -/
theorem class_uniform_invariant (n nq ret : Nat) (og : List AGate) (f : BState → Bool)
    (h : CleanXorOracle n nq ret og f) (j : Nat) :
    ClassUniform n (nq - n) (ret - n) f (2 ^ j)
      (riter (2 ^ n) (((allStates n).filter f).length : Nat) j RState.init)
      (runWave (hLayer n ++ [gH nq] ++ repeatGates (iteration n og nq ret) j) zeroWave) := by
  rw [count_allStates]
  exact Grover.class_uniform_invariant n nq ret og f h j

/-- The measured distribution is the prediction – for every search width `n`, every predicate
`f` (with `M` solutions, any `M`), every clean xor-oracle of `f` and every iteration count
`k ≥ 1`: P(read `x`) = `probNum/2^h` equals `ps/d` on solutions and `pn/d` on non-solutions,
`(ps, pn, d) = predict n M k`. -/
theorem grover_distribution (q : Quirks) (n M nq ret : Nat) (og : List AGate) (f : BState → Bool)
    (hM : ((allStates n).filter f).length = M) (h : CleanXorOracle n nq ret og f)
    (k : Nat) (hk : 1 ≤ k) (x : BState) (hx : x.length = n) :
    probNum (groverGates q n og nq ret k) (nq + 1) n x * (predict n M k).2.2
      = (if f x then (predict n M k).1 else (predict n M k).2.1)
        * 2 ^ hCount (groverGates q n og nq ret k) := by
  have hM' : Amp.countBits n f = M := by rw [← count_allStates]; exact hM
  rw [probNum_grover q n nq ret og f h k hk x hx, hCount_grover q n og nq ret k h.2.2.1 hk, hM']
  simp only [predict, classOf]
  cases f x <;> simp only [Bool.false_eq_true, if_true, if_false] <;> ring

/-- Independence of how the predicate is written or compiled: two clean xor-oracles of the
same predicate – different gate lists, different numbers of scratch qubits, different position of
`_ret` – give the same probability of every outcome `x` (same numerator, same number of `H`
gates). -/
theorem compilation_independent (q q' : Quirks) (n nq ret nq' ret' : Nat) (og og' : List AGate)
    (f : BState → Bool) (h : CleanXorOracle n nq ret og f) (h' : CleanXorOracle n nq' ret' og' f)
    (k : Nat) (hk : 1 ≤ k) (x : BState) (hx : x.length = n) :
    probNum (groverGates q n og nq ret k) (nq + 1) n x
      = probNum (groverGates q' n og' nq' ret' k) (nq' + 1) n x
    ∧ hCount (groverGates q n og nq ret k) = hCount (groverGates q' n og' nq' ret' k) := by
  rw [probNum_grover q n nq ret og f h k hk x hx, probNum_grover q' n nq' ret' og' f h' k hk x hx,
    hCount_grover q n og nq ret k h.2.2.1 hk, hCount_grover q' n og' nq' ret' k h'.2.2.1 hk]
  exact ⟨rfl, rfl⟩

theorem C15_full : C15_statement := by
  refine ⟨?_, decode_solution⟩
  intro q n M nq ret og f h2 h6 hcount hM hq hO
  obtain ⟨k, hk, hsucc, hgt, _⟩ := grover_table n M h2 h6 hM hq
  refine ⟨k, hk, ?_⟩
  dsimp only
  refine ⟨?_, hgt, hsucc⟩
  intro x hx
  exact grover_distribution q n M nq ret og f hcount hO k (kdefault_pos n M k hk) x hx

/-! ## The listed defect that reaches C15 (finding `C15-or2xor-oracle`) -/

def wNames : List String := ["a.0", "a.1", "a.2"]
/-- `a == 0 or a == 7` on three bits, as the optimizer sees it -/
def wExpr : BExp :=
  .or [.and [.sym "a.0", .sym "a.1", .sym "a.2"],
       .and [.not (.sym "a.0"), .not (.sym "a.1"), .not (.sym "a.2")]]

/-- With flag `or2xorNoArity` on, `transform_or2xor` rewrites the predicate with solution set
{0, 7} to one with solution set {0, 3, 4, 7}, and the non-solution 3 is read with
exactly the probability of the solution 0 (1/4 each): "every solution is more likely than every
non-solution" fails, and the solutions are found with probability 1/2, not above. -/
theorem or2xor_oracle_witness :
    solutionsOf wNames wExpr = [0, 7] ∧
    solutionsOf wNames (or2xor { or2xorNoArity := true } wExpr) = [0, 3, 4, 7] ∧
    predicateDist { or2xorNoArity := true } wNames wExpr 2 3
      = predicateDist { or2xorNoArity := true } wNames wExpr 2 0 ∧
    predicateDist { or2xorNoArity := true } wNames wExpr 2 0 = some (8192, 32768) := by
  decide +kernel

/-- the same input with the flag off: the solution set is kept and the
non-solution 3 is strictly less likely than the solution 0 -/
theorem or2xor_oracle_repaired :
    solutionsOf wNames (or2xor Quirks.none wExpr) = [0, 7] ∧
    predicateDist Quirks.none wNames wExpr 2 3 = some (256, 32768) ∧
    predicateDist Quirks.none wNames wExpr 2 0 = some (15616, 32768) := by
  decide +kernel

/-- with the flag off the guard never fires on an `And` of more than two arguments -/
theorem or2xor_guard_binary (a0 a1 b0 b1 : BExp) (r0 r1 : List BExp)
    (h : or2xorFires Quirks.none [.and (a0 :: a1 :: r0), .and (b0 :: b1 :: r1)] = true) :
    r0 = [] ∧ r1 = [] := by
  simp only [or2xorFires, Quirks.none, Bool.false_or, Bool.and_eq_true, List.isEmpty_iff] at h
  exact h.2

/-- the table entry (3, 1): three iterations, P(solution) = 1655872 / 2097152 ≈ 0.7896 -/
example : kDefault 3 1 = some 3 ∧ predict 3 1 3 = (1655872, 63040, 2097152) ∧
    (3, 1) ∈ Grover.table := by decide +kernel

/-- a clean xor-oracle exists: `CCX` on two search bits computing `x0 ∧ x1` into `_ret` (index 2) -/
example : CleanXorOracle 2 3 2 [{ cls := .CCX, wires := [0, 1, 2] }]
    (fun x => x.getD 0 false && x.getD 1 false) := by
  refine ⟨by decide, by decide, by decide, by decide, by decide, ?_⟩
  intro x hx r
  match x, hx with
  | [a, b], _ => cases a <;> cases b <;> cases r <;> decide

/-- a "gate" on a duplicated wire (`QCircuit.append` raises on it) next to a correct `CCX` oracle -/
def dupOracle : List AGate :=
  [{ cls := .CCX, wires := [0, 1, 2] }, { cls := .CX, wires := [3, 3] }]

/-- Why `CleanXorOracle` asks for distinct wires: `dupOracle` meets every other clause
(classical gate classes, wires inside the 4 oracle qubits, `_ret ^= x0 ∧ x1` on every clean basis
state), but `CX [3, 3]` is not a permutation of basis states, `applyWave` (precomposition with
the classical action) is then not the action of a unitary, and the weight of the non-solution
`00` comes out as twice the prediction: without the clause `C15_statement` is false. -/
theorem distinct_wires_needed :
    allClassical dupOracle = true ∧ (∀ g ∈ dupOracle, ∀ w ∈ g.wires, w < 4) ∧
    (∀ x ∈ allStates 2, ∀ r : Bool, runClassical dupOracle (oracleState 4 2 x r)
        = oracleState 4 2 x (xor r (x.getD 0 false && x.getD 1 false))) ∧
    probNum (groverGates Quirks.none 2 dupOracle 4 2 1) 5 2 [false, false] * (predict 2 1 1).2.2
      = 2 * ((predict 2 1 1).2.1 * 2 ^ hCount (groverGates Quirks.none 2 dupOracle 4 2 1)) := by
  refine ⟨by decide, by decide, by decide +kernel, ?_⟩
  -- Evaluating the amplitudes gate by gate doubles the work at each of the nine `H` gates.  The six
  -- of the diffuser go first, by its closed form; the kernel evaluates what is left.
  have hg : groverGates Quirks.none 2 dupOracle 4 2 1
      = hLayer 2 ++ [gH 4] ++ oracleWithPhase dupOracle 2 4 ++ diffuser 2 4 := rfl
  have hD : ∀ (ψ : Wave) (mid : List Bool) (b : Bool), mid.length = 2 →
      runWave (diffuser 2 4) ψ ([false, false] ++ (mid ++ [b]))
        = 8 * ψ ([false, false] ++ (mid ++ [b]))
          - 2 * Amp.sumBits 2 (fun x => ψ (x ++ mid ++ [false]) + ψ (x ++ mid ++ [true])) := by
    intro ψ mid b hm
    rw [← List.append_assoc]
    exact Grover.diffuser_reflection 2 2 ψ [false, false] mid b rfl hm
  unfold probNum
  rw [allStates_sum, Amp.sumBits_snoc,
    Amp.sumBits_congr 2 _ _ (fun mid hm => by
      rw [hg, runWave_append, hD _ mid false hm, hD _ mid true hm])]
  decide +kernel

/-- a well-typed value for `decode_solution` -/
example : C09.WT (.tuple [.qint 2, .qint 2]) (.tuple [.int 1, .int 2]) := by
  simp [C09.WT, C09.WTs]

/-! ## End to end: the oracle is what the compiler model produces (`QV/Proofs/EndToEnd.lean`)

`C15_full` assumes `CleanXorOracle`.  For the decidable class `inXorFragment` of `C06_fragment_partial`
(one definition `r = e`, `e` a tree over the argument bits built from `Not` / `And` / `Or` / `Xor` of any
arity with no compound sub-expression twice, distinct non-reserved argument names, the output qubit not an
argument qubit) the hypothesis is a theorem about the model of the compiler (`EndToEnd.compile_oracles`:
`C06_fragment_partial` for the xor-oracle, `C02.compile_gates_wellformed` for gate classes / wire bounds /
distinct wires, `C02.compile_bookkeeping` for `_ret < num_qubits`). -/

section EndToEnd
open QV.Compiler (compile inXorFragment dictGet? CState)
open QV.EndToEnd (predOf)

/-- For every predicate definition `r = e` of the class `inXorFragment`
over `2 ≤ n ≤ 6` argument bits whose denoted predicate `predOf inputs defs r` (`x ↦ ⟦e⟧` with argument `i`
= bit `i` of `x`) has `1 ≤ M ≤ 2^n/4` solutions, and every successful run of the compiler model
`compile inputs defs (some [r]) true` (every admissible sequence of ancilla choices; `s` = the final compiler
state): the return name is mapped to a qubit `ret`, and the Grover gate list built from the compiled gate
list `s.qc.gates`, its number of qubits and `ret` satisfies the conclusion of `C15_full`, with no hypothesis
about the oracle left. -/
theorem C15_end_to_end_fragment (q : Quirks) (inputs : List String) (defs : List (String × BExp))
    (r : String) (choices : List Nat) (s : CState) (M : Nat)
    (hf : inXorFragment inputs defs [r] = true)
    (h : (compile inputs defs (some [r]) true).run { choices := choices } = .ok ((), s))
    (h2 : 2 ≤ inputs.length) (h6 : inputs.length ≤ 6)
    (hcount : ((allStates inputs.length).filter (predOf inputs defs r)).length = M)
    (hM : 1 ≤ M) (hq : 4 * M ≤ 2 ^ inputs.length) :
    ∃ ret k, dictGet? s.qc.qmap r = some ret ∧ kDefault inputs.length M = some k ∧
      let gs := groverGates q inputs.length s.qc.gates.toList s.qc.numQubits ret k
      let pr := predict inputs.length M k
      (∀ x : BState, x.length = inputs.length →
        probNum gs (s.qc.numQubits + 1) inputs.length x * pr.2.2
          = (if predOf inputs defs r x then pr.1 else pr.2.1) * 2 ^ hCount gs) ∧
      pr.2.1 < pr.1 ∧ pr.2.2 < 2 * (M * pr.1) := by
  obtain ⟨ret, hret, _, _, hO, _⟩ :=
    EndToEnd.compile_oracles inputs defs [r] choices s hf h r List.mem_cons_self
  obtain ⟨k, hk, hdist⟩ :=
    C15_full.1 q inputs.length M s.qc.numQubits ret s.qc.gates.toList (predOf inputs defs r)
      h2 h6 hcount hM hq hO
  exact ⟨ret, k, hret, hk, hdist⟩

/-- the end-to-end form of `grover_distribution`: any number `n` of argument bits, any number `M` of
solutions, any `k ≥ 1` – also the explicit `n_iterations` of the constructor -/
theorem C15_end_to_end_distribution (q : Quirks) (inputs : List String) (defs : List (String × BExp))
    (r : String) (choices : List Nat) (s : CState) (M : Nat)
    (hf : inXorFragment inputs defs [r] = true)
    (h : (compile inputs defs (some [r]) true).run { choices := choices } = .ok ((), s))
    (hcount : ((allStates inputs.length).filter (predOf inputs defs r)).length = M)
    (k : Nat) (hk : 1 ≤ k) :
    ∃ ret, dictGet? s.qc.qmap r = some ret ∧
      ∀ x : BState, x.length = inputs.length →
        probNum (groverGates q inputs.length s.qc.gates.toList s.qc.numQubits ret k) (s.qc.numQubits + 1)
            inputs.length x * (predict inputs.length M k).2.2
          = (if predOf inputs defs r x then (predict inputs.length M k).1 else (predict inputs.length M k).2.1)
            * 2 ^ hCount (groverGates q inputs.length s.qc.gates.toList s.qc.numQubits ret k) := by
  obtain ⟨ret, hret, _, _, hO, _⟩ :=
    EndToEnd.compile_oracles inputs defs [r] choices s hf h r List.mem_cons_self
  exact ⟨ret, hret, fun x hx =>
    grover_distribution q inputs.length M s.qc.numQubits ret s.qc.gates.toList (predOf inputs defs r)
      hcount hO k hk x hx⟩

/-- Independence of how the predicate is written or compiled, end to end: two definitions of the class
(different expressions, different argument or return names) that denote the same predicate on `n` bits,
compiled by any two successful runs of the compiler model (different ancilla choices, different numbers of
scratch qubits, different position of the return qubit): for every iteration count `k ≥ 1` the two Grover gate
lists give every outcome `x` the same probability (same numerator, same number of `H` gates). -/
theorem C15_end_to_end_independent (q q' : Quirks) (inputs inputs' : List String)
    (defs defs' : List (String × BExp)) (r r' : String) (choices choices' : List Nat) (s s' : CState)
    (hf : inXorFragment inputs defs [r] = true) (hf' : inXorFragment inputs' defs' [r'] = true)
    (h : (compile inputs defs (some [r]) true).run { choices := choices } = .ok ((), s))
    (h' : (compile inputs' defs' (some [r']) true).run { choices := choices' } = .ok ((), s'))
    (hlen : inputs'.length = inputs.length)
    (hsame : ∀ x : List Bool, x.length = inputs.length → predOf inputs defs r x = predOf inputs' defs' r' x)
    (k : Nat) (hk : 1 ≤ k) (x : BState) (hx : x.length = inputs.length) :
    ∃ ret ret', dictGet? s.qc.qmap r = some ret ∧ dictGet? s'.qc.qmap r' = some ret' ∧
      probNum (groverGates q inputs.length s.qc.gates.toList s.qc.numQubits ret k)
          (s.qc.numQubits + 1) inputs.length x
        = probNum (groverGates q' inputs.length s'.qc.gates.toList s'.qc.numQubits ret' k)
          (s'.qc.numQubits + 1) inputs.length x ∧
      hCount (groverGates q inputs.length s.qc.gates.toList s.qc.numQubits ret k)
        = hCount (groverGates q' inputs.length s'.qc.gates.toList s'.qc.numQubits ret' k) := by
  obtain ⟨ret, hret, _, _, hO, _⟩ :=
    EndToEnd.compile_oracles inputs defs [r] choices s hf h r List.mem_cons_self
  obtain ⟨ret', hret', _, _, hO', _⟩ :=
    EndToEnd.compile_oracles inputs' defs' [r'] choices' s' hf' h' r' List.mem_cons_self
  rw [hlen] at hO'
  have hO'' := EndToEnd.cleanXorOracle_congr hO' (fun y hy => (hsame y hy).symm)
  exact ⟨ret, ret', hret, hret',
    compilation_independent q q' inputs.length _ ret _ ret' _ _ _ hO hO'' k hk x hx⟩

def exInputs : List String := ["a.0", "a.1", "a.2"]
/-- `a.0 ∧ a.1 ∧ ¬a.2` on three bits (the predicate `a == 3` of a `Qint[3]` argument as the front end
hands it to the compiler) -/
def exDefs : List (String × BExp) := [("_ret", .and [.sym "a.0", .sym "a.1", .not (.sym "a.2")])]
def exInputs' : List String := ["b.0", "b.1", "b.2"]
/-- the same predicate written differently: `(a.0 ∧ a.1) ∧ ¬(a.2 ∨ ¬a.1)` over arguments called `b.i` -/
def exDefs' : List (String × BExp) :=
  [("_ret", .and [.and [.sym "b.0", .sym "b.1"], .not (.or [.sym "b.2", .not (.sym "b.1")])])]

/-- the model compiles `exDefs` (ancilla choices 3, 4: qubit 3 = `¬a.2`, qubit 4 = `_ret`; five gates
`CX 2→3, X 3, MCX [0,1,3]→4, X 3, CX 2→3`).  Kernel evaluation of `compile`, with `sortNat` (a
`List.mergeSort`) rewritten to insertion sort first (`EndToEnd.sortNat_eq`). -/
theorem exDefs_compiles :
    ∃ s, (compile exInputs exDefs (some ["_ret"]) true).run { choices := [3, 4] } = .ok ((), s) := by
  apply Compiler.run_ok_of_toBool
  simp only [compile, exInputs, exDefs, Compiler.compileDefs, Compiler.compileExpr, Compiler.compileArgs,
    EndToEnd.sortNat_eq]
  decide +kernel

theorem exDefs'_compiles :
    ∃ s, (compile exInputs' exDefs' (some ["_ret"]) true).run { choices := [3, 4, 5, 6] } = .ok ((), s) := by
  apply Compiler.run_ok_of_toBool
  simp only [compile, exInputs', exDefs', Compiler.compileDefs, Compiler.compileExpr, Compiler.compileArgs,
    EndToEnd.sortNat_eq]
  decide +kernel

theorem ex_same_predicate :
    ∀ x : List Bool, x.length = exInputs.length → predOf exInputs exDefs "_ret" x = predOf exInputs' exDefs' "_ret" x := by
  have h : ∀ a b c : Bool,
      predOf exInputs exDefs "_ret" [a, b, c] = predOf exInputs' exDefs' "_ret" [a, b, c] := by
    decide +kernel
  intro x hx
  match x, hx with
  | [a, b, c], _ => exact h a b c

theorem ex_in_fragment :
    inXorFragment exInputs exDefs ["_ret"] = true ∧ inXorFragment exInputs' exDefs' ["_ret"] = true := by
  decide +kernel

/-- non-vacuity of `C15_end_to_end_fragment`: every hypothesis holds for `exDefs` (class membership, a
successful run of the model, one solution among eight), so the Grover circuit built from the model's gate
list finds the solution `110` (bit 0 first) with probability `1655872/2097152 ≈ 0.79` after the default
three iterations -/
example : ∃ s ret k,
    (compile exInputs exDefs (some ["_ret"]) true).run { choices := [3, 4] } = .ok ((), s) ∧
    dictGet? s.qc.qmap "_ret" = some ret ∧ kDefault 3 1 = some k ∧
    (∀ x : BState, x.length = 3 →
      probNum (groverGates Quirks.none 3 s.qc.gates.toList s.qc.numQubits ret k) (s.qc.numQubits + 1) 3 x
          * (predict 3 1 k).2.2
        = (if predOf exInputs exDefs "_ret" x then (predict 3 1 k).1 else (predict 3 1 k).2.1)
          * 2 ^ hCount (groverGates Quirks.none 3 s.qc.gates.toList s.qc.numQubits ret k)) ∧
    (predict 3 1 k).2.2 < 2 * (1 * (predict 3 1 k).1) := by
  obtain ⟨s, hs⟩ := exDefs_compiles
  obtain ⟨ret, k, hret, hk, hd, _, hhalf⟩ :=
    C15_end_to_end_fragment Quirks.none exInputs exDefs "_ret" [3, 4] s 1 ex_in_fragment.1 hs
      (by decide) (by decide) (by decide +kernel) (by decide) (by decide)
  exact ⟨s, ret, k, hs, hret, hk, hd, hhalf⟩

/-- non-vacuity of `C15_end_to_end_independent`: the two ways of writing the predicate, compiled to
different circuits (5 vs. 7 qubits), give the same distribution -/
example : ∃ (s s' : CState) (ret ret' : Nat),
    (compile exInputs exDefs (some ["_ret"]) true).run { choices := [3, 4] } = .ok ((), s) ∧
    (compile exInputs' exDefs' (some ["_ret"]) true).run { choices := [3, 4, 5, 6] } = .ok ((), s') ∧
    dictGet? s.qc.qmap "_ret" = some ret ∧ dictGet? s'.qc.qmap "_ret" = some ret' ∧
    ∀ x : BState, x.length = 3 →
      probNum (groverGates Quirks.none 3 s.qc.gates.toList s.qc.numQubits ret 3) (s.qc.numQubits + 1) 3 x
        = probNum (groverGates Quirks.none 3 s'.qc.gates.toList s'.qc.numQubits ret' 3) (s'.qc.numQubits + 1) 3 x := by
  obtain ⟨s, hs⟩ := exDefs_compiles
  obtain ⟨s', hs'⟩ := exDefs'_compiles
  have H := fun x hx =>
    C15_end_to_end_independent Quirks.none Quirks.none exInputs exInputs' exDefs exDefs' "_ret" "_ret" _ _ s s'
      ex_in_fragment.1 ex_in_fragment.2 hs hs' rfl ex_same_predicate 3 (by decide) x hx
  -- the two return qubits do not depend on `x`
  obtain ⟨ret, ret', hret, hret', _⟩ := H [false, false, false] rfl
  refine ⟨s, s', ret, ret', hs, hs', hret, hret', fun x hx => ?_⟩
  obtain ⟨ret2, ret2', h1, h2, hp, _⟩ := H x hx
  rw [hret] at h1; rw [hret'] at h2
  cases h1; cases h2
  exact hp

end EndToEnd

/-! ## End to end on the general compiler class (`C06.C06_general_partial`)

The class `inXorFragment` above is a single tree-like definition.  `inGeneralClean inputs defs [r]` admits what the
front end and the optimizer really hand over: several definitions (named intermediates first, the return bit a new
name defined once, last), sub-expressions shared inside and across definitions (cache hits), re-binding, constants.
`C06_general_partial` has two side conditions about the *compiled* circuit, both decidable on the compiler's
output and both evaluated by the driver per instance: the qubit of the return name is not an argument qubit and is
never a control of a compiled gate (`retNeverControl`; it fails e.g. when the return bit is an alias of an
intermediate other gates read).  They are hypotheses here too. -/

section EndToEndGeneral
open QV.Compiler (compile inGeneralClean inXorFragment dictGet? CState retNeverControl)
open QV.EndToEnd (predOf)

/-- As `C15_end_to_end_fragment`, for every definition list of
`inGeneralClean inputs defs [r]` and every successful run of the compiler model whose return qubit `ret` is not an
argument qubit and never a control. -/
theorem C15_end_to_end_general (q : Quirks) (inputs : List String) (defs : List (String × BExp))
    (r : String) (choices : List Nat) (s : CState) (ret M : Nat)
    (hf : inGeneralClean inputs defs [r] = true)
    (h : (compile inputs defs (some [r]) true).run { choices := choices } = .ok ((), s))
    (hret : dictGet? s.qc.qmap r = some ret) (hge : inputs.length ≤ ret)
    (hnc : retNeverControl s.qc.gates.toList ret = true)
    (h2 : 2 ≤ inputs.length) (h6 : inputs.length ≤ 6)
    (hcount : ((allStates inputs.length).filter (predOf inputs defs r)).length = M)
    (hM : 1 ≤ M) (hq : 4 * M ≤ 2 ^ inputs.length) :
    ∃ k, kDefault inputs.length M = some k ∧
      let gs := groverGates q inputs.length s.qc.gates.toList s.qc.numQubits ret k
      let pr := predict inputs.length M k
      (∀ x : BState, x.length = inputs.length →
        probNum gs (s.qc.numQubits + 1) inputs.length x * pr.2.2
          = (if predOf inputs defs r x then pr.1 else pr.2.1) * 2 ^ hCount gs) ∧
      pr.2.1 < pr.1 ∧ pr.2.2 < 2 * (M * pr.1) := by
  obtain ⟨_, hO, _⟩ := EndToEnd.compile_oracles_general inputs defs r choices s ret hf h hret hge hnc
  exact C15_full.1 q inputs.length M s.qc.numQubits ret s.qc.gates.toList (predOf inputs defs r)
    h2 h6 hcount hM hq hO

/-- the distribution for every width, every number of solutions and every iteration count `k ≥ 1`, general class -/
theorem C15_end_to_end_general_distribution (q : Quirks) (inputs : List String) (defs : List (String × BExp))
    (r : String) (choices : List Nat) (s : CState) (ret M : Nat)
    (hf : inGeneralClean inputs defs [r] = true)
    (h : (compile inputs defs (some [r]) true).run { choices := choices } = .ok ((), s))
    (hret : dictGet? s.qc.qmap r = some ret) (hge : inputs.length ≤ ret)
    (hnc : retNeverControl s.qc.gates.toList ret = true)
    (hcount : ((allStates inputs.length).filter (predOf inputs defs r)).length = M)
    (k : Nat) (hk : 1 ≤ k) (x : BState) (hx : x.length = inputs.length) :
    probNum (groverGates q inputs.length s.qc.gates.toList s.qc.numQubits ret k) (s.qc.numQubits + 1)
        inputs.length x * (predict inputs.length M k).2.2
      = (if predOf inputs defs r x then (predict inputs.length M k).1 else (predict inputs.length M k).2.1)
        * 2 ^ hCount (groverGates q inputs.length s.qc.gates.toList s.qc.numQubits ret k) := by
  obtain ⟨_, hO, _⟩ := EndToEnd.compile_oracles_general inputs defs r choices s ret hf h hret hge hnc
  exact grover_distribution q inputs.length M s.qc.numQubits ret s.qc.gates.toList (predOf inputs defs r)
    hcount hO k hk x hx

/-- Independence of how the predicate is written or compiled, general class: two definition lists of the
general class (e.g. one with a named intermediate read twice, one a single tree) that denote the same predicate,
any two successful compilations meeting the side conditions: same probability of every outcome, for every
`k ≥ 1`. -/
theorem C15_end_to_end_general_independent (q q' : Quirks) (inputs inputs' : List String)
    (defs defs' : List (String × BExp)) (r r' : String) (choices choices' : List Nat) (s s' : CState)
    (ret ret' : Nat)
    (hf : inGeneralClean inputs defs [r] = true) (hf' : inGeneralClean inputs' defs' [r'] = true)
    (h : (compile inputs defs (some [r]) true).run { choices := choices } = .ok ((), s))
    (h' : (compile inputs' defs' (some [r']) true).run { choices := choices' } = .ok ((), s'))
    (hret : dictGet? s.qc.qmap r = some ret) (hge : inputs.length ≤ ret)
    (hnc : retNeverControl s.qc.gates.toList ret = true)
    (hret' : dictGet? s'.qc.qmap r' = some ret') (hge' : inputs'.length ≤ ret')
    (hnc' : retNeverControl s'.qc.gates.toList ret' = true)
    (hlen : inputs'.length = inputs.length)
    (hsame : ∀ x : List Bool, x.length = inputs.length → predOf inputs defs r x = predOf inputs' defs' r' x)
    (k : Nat) (hk : 1 ≤ k) (x : BState) (hx : x.length = inputs.length) :
    probNum (groverGates q inputs.length s.qc.gates.toList s.qc.numQubits ret k)
        (s.qc.numQubits + 1) inputs.length x
      = probNum (groverGates q' inputs.length s'.qc.gates.toList s'.qc.numQubits ret' k)
        (s'.qc.numQubits + 1) inputs.length x ∧
    hCount (groverGates q inputs.length s.qc.gates.toList s.qc.numQubits ret k)
      = hCount (groverGates q' inputs.length s'.qc.gates.toList s'.qc.numQubits ret' k) := by
  obtain ⟨_, hO, _⟩ := EndToEnd.compile_oracles_general inputs defs r choices s ret hf h hret hge hnc
  obtain ⟨_, hO', _⟩ :=
    EndToEnd.compile_oracles_general inputs' defs' r' choices' s' ret' hf' h' hret' hge' hnc'
  rw [hlen] at hO'
  have hO'' := EndToEnd.cleanXorOracle_congr hO' (fun y hy => (hsame y hy).symm)
  exact compilation_independent q q' inputs.length _ ret _ ret' _ _ _ hO hO'' k hk x hx

/-- `m = a.0 & a.1; _ret = m ^ (a.2 & m)`: two statements, the intermediate `m` read twice – the predicate
`a.0 ∧ a.1 ∧ ¬a.2` of `exDefs` again; outside `inXorFragment` -/
def exGenDefs : List (String × BExp) :=
  [("m", .and [.sym "a.0", .sym "a.1"]), ("_ret", .xor [.sym "m", .and [.sym "a.2", .sym "m"]])]
/-- one statement in which the compound sub-expression `a.0 & a.1` occurs twice (a cache hit of the compiler's
expression map): `_ret = (a.0 & a.1) ^ (a.2 & (a.0 & a.1))`; not tree-like, outside `inXorFragment` -/
def exHitDefs : List (String × BExp) :=
  [("_ret", .xor [.and [.sym "a.0", .sym "a.1"], .and [.sym "a.2", .and [.sym "a.0", .sym "a.1"]]])]

theorem exGen_class : inGeneralClean exInputs exGenDefs ["_ret"] = true ∧ inXorFragment exInputs exGenDefs ["_ret"] = false ∧
    inGeneralClean exInputs exHitDefs ["_ret"] = true ∧ inXorFragment exInputs exHitDefs ["_ret"] = false ∧
    inGeneralClean exInputs exDefs ["_ret"] = true := by
  decide +kernel

/-- the model compiles `exGenDefs` (choices 3, 4: `m` on qubit 3, `_ret` on qubit 4; gates
`MCX [0,1]→3, CX 3→4, MCX [2,3]→4, MCX [0,1]→3`), `_ret` sits on qubit 4 and is never a control -/
theorem exGen_compiles :
    ∃ s, (compile exInputs exGenDefs (some ["_ret"]) true).run { choices := [3, 4] } = .ok ((), s) ∧
      dictGet? s.qc.qmap "_ret" = some 4 ∧ retNeverControl s.qc.gates.toList 4 = true := by
  apply EndToEnd.runCheck_ok
  simp only [compile, exInputs, exGenDefs, Compiler.compileDefs, Compiler.compileExpr, Compiler.compileArgs,
    Compiler.compileXorArgs, EndToEnd.sortNat_eq]
  decide +kernel

/-- the model compiles `exHitDefs` (choices 3, 4: `_ret` on qubit 3, the shared `a.0 & a.1` on qubit 4) -/
theorem exHit_compiles :
    ∃ s, (compile exInputs exHitDefs (some ["_ret"]) true).run { choices := [3, 4] } = .ok ((), s) ∧
      dictGet? s.qc.qmap "_ret" = some 3 ∧ retNeverControl s.qc.gates.toList 3 = true := by
  apply EndToEnd.runCheck_ok
  simp only [compile, exInputs, exHitDefs, Compiler.compileDefs, Compiler.compileExpr, Compiler.compileArgs,
    Compiler.compileXorArgs, EndToEnd.sortNat_eq]
  decide +kernel

theorem exGen_same_predicate :
    ∀ x : List Bool, x.length = exInputs.length →
      predOf exInputs exGenDefs "_ret" x = predOf exInputs exDefs "_ret" x ∧
      predOf exInputs exHitDefs "_ret" x = predOf exInputs exDefs "_ret" x := by
  have h : ∀ a b c : Bool,
      predOf exInputs exGenDefs "_ret" [a, b, c] = predOf exInputs exDefs "_ret" [a, b, c] ∧
      predOf exInputs exHitDefs "_ret" [a, b, c] = predOf exInputs exDefs "_ret" [a, b, c] := by
    decide +kernel
  intro x hx
  match x, hx with
  | [a, b, c], _ => exact h a b c

/-- non-vacuity of `C15_end_to_end_general`: every hypothesis holds for the two-statement predicate -/
example : ∃ s k,
    (compile exInputs exGenDefs (some ["_ret"]) true).run { choices := [3, 4] } = .ok ((), s) ∧
    kDefault 3 1 = some k ∧
    (∀ x : BState, x.length = 3 →
      probNum (groverGates Quirks.none 3 s.qc.gates.toList s.qc.numQubits 4 k) (s.qc.numQubits + 1) 3 x
          * (predict 3 1 k).2.2
        = (if predOf exInputs exGenDefs "_ret" x then (predict 3 1 k).1 else (predict 3 1 k).2.1)
          * 2 ^ hCount (groverGates Quirks.none 3 s.qc.gates.toList s.qc.numQubits 4 k)) ∧
    (predict 3 1 k).2.2 < 2 * (1 * (predict 3 1 k).1) := by
  obtain ⟨s, hs, hq, hnc⟩ := exGen_compiles
  obtain ⟨k, hk, hd, _, hhalf⟩ :=
    C15_end_to_end_general Quirks.none exInputs exGenDefs "_ret" [3, 4] s 4 1 exGen_class.1 hs hq (by decide) hnc
      (by decide) (by decide) (by decide +kernel) (by decide) (by decide)
  exact ⟨s, k, hs, hk, hd, hhalf⟩

/-- non-vacuity of `C15_end_to_end_general_independent`: the two-statement list with the shared intermediate, the
one-statement list with the cache hit and the tree-like `exDefs` (in both classes), compiled to three different
circuits, give the same distribution -/
example : ∃ (s s' s'' : CState) (ret'' : Nat),
    (compile exInputs exGenDefs (some ["_ret"]) true).run { choices := [3, 4] } = .ok ((), s) ∧
    (compile exInputs exHitDefs (some ["_ret"]) true).run { choices := [3, 4] } = .ok ((), s') ∧
    (compile exInputs exDefs (some ["_ret"]) true).run { choices := [3, 4] } = .ok ((), s'') ∧
    dictGet? s''.qc.qmap "_ret" = some ret'' ∧
    ∀ x : BState, x.length = 3 →
      probNum (groverGates Quirks.none 3 s.qc.gates.toList s.qc.numQubits 4 3) (s.qc.numQubits + 1) 3 x
        = probNum (groverGates Quirks.none 3 s'.qc.gates.toList s'.qc.numQubits 3 3) (s'.qc.numQubits + 1) 3 x ∧
      probNum (groverGates Quirks.none 3 s.qc.gates.toList s.qc.numQubits 4 3) (s.qc.numQubits + 1) 3 x
        = probNum (groverGates Quirks.none 3 s''.qc.gates.toList s''.qc.numQubits ret'' 3) (s''.qc.numQubits + 1) 3 x := by
  obtain ⟨s, hs, hq, hnc⟩ := exGen_compiles
  obtain ⟨s', hs', hq', hnc'⟩ := exHit_compiles
  obtain ⟨s'', hs''⟩ := exDefs_compiles
  obtain ⟨ret'', hret'', _, _, hO'', _⟩ :=
    EndToEnd.compile_oracles exInputs exDefs ["_ret"] [3, 4] s'' ex_in_fragment.1 hs'' "_ret" List.mem_cons_self
  refine ⟨s, s', s'', ret'', hs, hs', hs'', hret'', fun x hx => ⟨?_, ?_⟩⟩
  · exact (C15_end_to_end_general_independent Quirks.none Quirks.none exInputs exInputs exGenDefs exHitDefs
      "_ret" "_ret" _ _ s s' 4 3 exGen_class.1 exGen_class.2.2.1 hs hs' hq (by decide) hnc hq' (by decide) hnc' rfl
      (fun y hy => ((exGen_same_predicate y hy).1).trans ((exGen_same_predicate y hy).2).symm)
      3 (by decide) x hx).1
  · -- against the tree-like definition, through the fragment bridge
    obtain ⟨_, hO, _⟩ := EndToEnd.compile_oracles_general exInputs exGenDefs "_ret" [3, 4] s 4 exGen_class.1 hs hq
      (by decide) hnc
    have hO2 := EndToEnd.cleanXorOracle_congr hO'' (fun y hy => ((exGen_same_predicate y hy).1).symm)
    exact (compilation_independent Quirks.none Quirks.none 3 _ 4 _ ret'' _ _ _ hO hO2 3 (by decide) x hx).1

end EndToEndGeneral

end QV.C15
