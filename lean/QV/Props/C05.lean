import QV.Model.Codec
import QV.Proofs.Codec
import QV.Props.C09
import QV.Proofs.SortNat
import QV.Proofs.EndToEnd05
/-!
# C05 – Values survive the encode → circuit → decode round trip

Property (from `/verif/properties.jsonl`): for every compiled function and argument values v,
initialising the input qubits from the bit string produced for v, running the circuit, reading
the output qubits in the order the function reports them and decoding that reading yields the
value f(v) in the function's high-level return type (bool, integers, fixed-point, chars, nested
tuples/lists).  The reported input and output qubit lists name in-range qubits in argument and
return bit order, and two output bits share a qubit only if they always carry the same value.

The theorems are about `QV.Model.Codec` (+ `QV.Model.Types` for the scalar codecs, whose
inverse laws are C09's theorems).  What the *circuit* computes is C02's business and what the
*expressions* mean is C01's: here they are the hypotheses `Computes` / `F ∘ encode = encode ∘ f`
of `C05_statement`; everything between the Python values and the qubits is proved.  `WT` / `WTs` and
`interpretAsQtype_encode` are from `Props/C09.lean`.  A theorem with `q : Quirks` holds for every quirk setting, the
`_partial` ones under a decidable guard; `Quirks.none` is the repaired library; a `_witness` has one flag on.
`C05_end_to_end_general` discharges `Computes` for the compiler model.
-/
namespace QV.C05
open QV QV.Types QV.Codec QV.C09

/-- the circuit `gs` on `nq` qubits, started with the `n` input bits `x` on qubits `0..n-1` and
zeros elsewhere, leaves `F x` on the qubits `oq` (C02's conclusion in list form, `EndToEnd05.computes_of_correct`) -/
def Computes (gs : List AGate) (nq n : Nat) (oq : List Nat) (F : List Bool → List Bool) : Prop :=
  ∀ x : List Bool, x.length = n →
    oq.map (fun q => (runClassical gs (x ++ List.replicate (nq - n) false)).getD q false) = F x

/-- The full property, at `Quirks.none` (`output_qubits` being defined at all is `output_qubits_total` for the codec
model's own `compileMap`, clause 1 of `C05_end_to_end_general` for the compiler model's final map). -/
def C05_statement : Prop :=
  ∀ (sig : List (String × QTy)) (ret : QTy) (f : List QVal → QVal) (F : List Bool → List Bool)
    (gs : List AGate) (m : QMap) (oq : List Nat),
    (∀ vs, WTs (sig.map (·.2)) vs →
      WT ret (f vs) ∧ F (encodeList (sig.map (·.2)) vs) = encode ret (f vs)) →
    m.WF →
    outputQubits m (retArg ret).bitvec = some oq →
    Computes gs m.numQubits (sizeList (sig.map (·.2))) oq F →
    -- input qubits: 0 .. n-1 in argument bit order
    inputQubits (translateArguments sig) = List.range (sizeList (sig.map (·.2))) ∧
    -- output qubits: one per return bit, in range
    (oq.length = ret.size ∧ ∀ q ∈ oq, q < m.numQubits) ∧
    -- the round trip
    (∀ vs, WTs (sig.map (·.2)) vs →
      decodeOutput (retArg ret)
        (readOut (runClassical gs (initState m.numQubits
          (encodeInput (translateArguments sig) vs))) oq) = f vs) ∧
    -- two output bits share a qubit only if they always carry the same value
    (∀ i j : Nat, oq[i]? = oq[j]? → ∀ x, x.length = sizeList (sig.map (·.2)) → (F x)[i]? = (F x)[j]?)

theorem arg_bitvec_length (base : String) (t : QTy) :
    (translateArgument base t).bitvec.length = t.size := argNames_length t _

theorem input_qubits_range (sig : List (String × QTy)) :
    inputQubits (translateArguments sig) = List.range (sizeList (sig.map (·.2))) := by
  rw [inputQubits_eq, inputSymbols_length]

/-- step 1 of the compiler puts the j-th input bit (in argument order, tuples depth-first) on
qubit j -/
theorem input_symbol_qubit (ns : List Name) (hnd : ns.Nodup) (m : QMap) (j : Nat) (hj : j < ns.length) :
    (m.addQubits ns).get ns[j] = some (m.numQubits + j) := by
  rw [QMap.get, addQubits_eq]
  exact dictGet_setAll_mem (e := (ns[j], m.numQubits + j)) (by rwa [List.zipIdx_map_fst])
    (List.mk_add_mem_zipIdx_iff_getElem?.mpr (List.getElem?_eq_getElem hj)) _

/-- the input bit names of a signature with distinct argument names are pairwise distinct, so
(with `input_symbol_qubit`) the j-th argument bit – arguments in order, tuples depth-first –
is on qubit j of the compiled circuit's qubit map -/
theorem input_bits_on_qubits (sig : List (String × QTy)) (hnd : (sig.map (·.1)).Nodup) (j : Nat)
    (hj : j < (inputSymbols (translateArguments sig)).length) :
    (QMap.addQubits {} (inputSymbols (translateArguments sig))).get
      (inputSymbols (translateArguments sig))[j] = some j := by
  have := input_symbol_qubit _ (inputSymbols_nodup sig hnd) {} j hj
  simpa using this

/-- layout of the `encode_input` string: reversed, it is the concatenation, argument after argument and
tuples depth-first (`encodeList`), of the little-endian element encodings -/
theorem encode_layout (sig : List (String × QTy)) (vs : List QVal) :
    (encodeInput (translateArguments sig) vs).reverse
      = boolListToBin (encodeList (sig.map (·.2)) vs) := by
  simp [encodeInput, translateArguments_tys, valToBinList_eq]

/-- character `j` of the string is the bit of qubit `n-1-j` -/
theorem encode_input_char (sig : List (String × QTy)) (vs : List QVal) (j : Nat)
    (hj : j < (encodeList (sig.map (·.2)) vs).length) :
    (encodeInput (translateArguments sig) vs)[j]?
      = ((encodeList (sig.map (·.2)) vs)[(encodeList (sig.map (·.2)) vs).length - 1 - j]?).map bitChar := by
  have h := encode_layout sig vs
  have h2 : encodeInput (translateArguments sig) vs
      = (boolListToBin (encodeList (sig.map (·.2)) vs)).reverse := by
    rw [← h, List.reverse_reverse]
  rw [h2, List.getElem?_reverse (by simpa [boolListToBin] using hj)]
  simp [boolListToBin]

theorem encode_input_length (sig : List (String × QTy)) (vs : List QVal)
    (h : WTs (sig.map (·.2)) vs) :
    (encodeInput (translateArguments sig) vs).length = (inputQubits (translateArguments sig)).length := by
  have := congrArg List.length (encode_layout sig vs)
  simp only [List.length_reverse, boolListToBin, List.length_map] at this
  rw [this, encodeList_length _ _ h, input_qubits_range]; simp

/-- the basis state prepared from the string carries the flat encoding on qubits `0..n-1` and
zeros on the other qubits -/
theorem init_state_layout (sig : List (String × QTy)) (vs : List QVal) (nq : Nat)
    (h : WTs (sig.map (·.2)) vs) :
    initState nq (encodeInput (translateArguments sig) vs)
      = encodeList (sig.map (·.2)) vs ++ List.replicate (nq - sizeList (sig.map (·.2))) false := by
  unfold initState
  have hl := encode_input_length sig vs h
  rw [input_qubits_range] at hl
  simp only [List.length_range] at hl
  rw [encode_layout, hl]
  simp [boolListToBin]

/-- decoding the reading whose character `j` is return bit `m-1-j` returns the value, for
every nested type (string and list readings) -/
theorem decode_encode (t : QTy) (v : QVal) (h : WT t v) :
    decodeOutput (retArg t) (encode t v).reverse = v := by
  rw [decodeOutput, formatOutcome_of_le (Nat.le_refl _), List.reverse_reverse]
  exact interpretAsQtype_encode t v h _ (arg_bitvec_length _ t)

/-- integer readings (`Quirks.none`): the integer whose binary digits are the reading -/
theorem decode_encode_int (t : QTy) (v : QVal) (h : WT t v) (hs : 0 < t.size) :
    decodeOutputInt Quirks.none (retArg t) (valLE (encode t v)) = v := by
  have hl := encode_length t v h
  have hlt := valLE_lt (encode t v)
  rw [hl] at hlt
  unfold decodeOutputInt
  simp only [Quirks.none, Bool.false_eq_true, if_false, retArg, arg_bitvec_length]
  rw [zfill_binDigits hs hlt]
  have := toBitsLE_valLE (encode t v)
  rw [hl] at this
  rw [this]
  exact decode_encode t v h

/-- trigger of quirk `formatOutcomeIntPadRight`: the integer has fewer binary digits than the
return type has bits -/
def intPadTrigger (q : Quirks) (r : Arg) (n : Nat) : Bool :=
  q.formatOutcomeIntPadRight && decide ((binDigits n).length < r.bitvec.length)

theorem decode_int_partial (q : Quirks) (r : Arg) (n : Nat) (h : intPadTrigger q r n = false) :
    decodeOutputInt q r n = decodeOutputInt Quirks.none r n := by
  unfold decodeOutputInt
  cases hq : q.formatOutcomeIntPadRight
  · simp [Quirks.none]
  · simp only [intPadTrigger, hq, Bool.true_and, decide_eq_false_iff_not, Nat.not_lt] at h
    simp [Quirks.none, zfill, Nat.sub_eq_zero_of_le h, formatOutcomeInt]

/-! ## The codec calls leave the caller's reading alone and repeat their result -/

/-- trigger of quirk `formatOutcomePadsInPlace`: a list reading shorter than `out_len` -/
def padInPlaceTrigger (q : Quirks) (out : List Bool) (outLen : Option Nat) : Bool :=
  q.formatOutcomePadsInPlace && decide (out.length < outLen.getD out.length)

/-- `Quirks.none`: `format_outcome` / `interpret_as_qtype` never change the list they are given -/
theorem format_outcome_arg_pure (out : List Bool) (outLen : Option Nat) :
    formatOutcomeArgAfter Quirks.none out outLen = out := by
  simp [formatOutcomeArgAfter, Quirks.none]

theorem format_outcome_arg_partial (q : Quirks) (out : List Bool) (outLen : Option Nat)
    (h : padInPlaceTrigger q out outLen = false) : formatOutcomeArgAfter q out outLen = out := by
  unfold formatOutcomeArgAfter
  cases hq : q.formatOutcomePadsInPlace
  · simp
  · simp only [padInPlaceTrigger, hq, Bool.true_and, decide_eq_false_iff_not, Nat.not_lt] at h
    exact formatOutcome_of_le h

/-- `decode_output` never changes the reading it is given (with or without the quirk: it calls
`format_outcome` without `out_len` and copies) -/
theorem decode_output_arg_pure (q : Quirks) (istr : List Bool) : decodeOutputArgAfter q istr = istr := by
  unfold decodeOutputArgAfter formatOutcomeArgAfter
  split
  · exact formatOutcome_of_le (Nat.le_refl _)
  · rfl

/-- a second call on the same object gives the same result and leaves the object as the first call
left it — also with the quirk (the padded list has the requested length) -/
theorem format_outcome_repeat (q : Quirks) (out : List Bool) (outLen : Option Nat) :
    formatOutcome (formatOutcomeArgAfter q out outLen) outLen = formatOutcome out outLen ∧
    formatOutcomeArgAfter q (formatOutcomeArgAfter q out outLen) outLen
      = formatOutcomeArgAfter q out outLen := by
  have idem := formatOutcome_of_le (le_length_formatOutcome out outLen)
  unfold formatOutcomeArgAfter
  cases q.formatOutcomePadsInPlace <;> simp [idem]

/-- `output_qubits` is defined iff every name of `returns.bitvec` is a key of the qubit map -/
theorem output_qubits_total_iff (m : QMap) (bv : List Name) :
    (outputQubits m bv).isSome ↔ ∀ n ∈ bv, (m.get n).isSome := outputQubits_some_iff m bv

/-- when defined it lists one in-range qubit per return bit, in `bitvec` order -/
theorem output_qubits_in_range (m : QMap) (bv : List Name) (l : List Nat) (hwf : m.WF)
    (h : outputQubits m bv = some l) :
    l.length = bv.length ∧ (∀ q ∈ l, q < m.numQubits) ∧
      ∀ i (hi : i < bv.length), m.get bv[i] = l[i]? := by
  have hm := outputQubits_eq_some.mp h
  refine ⟨by simpa using (congrArg List.length hm).symm, fun q hq => ?_, fun i hi => ?_⟩
  · obtain ⟨n, _, hn⟩ := List.mem_map.mp (hm ▸ List.mem_map_of_mem (f := some) hq)
    exact hwf _ (dictGet_mem hn)
  · have := congrArg (·[i]?) hm
    rw [List.getElem?_map, List.getElem?_map, List.getElem?_eq_getElem hi, Option.map_some] at this
    cases hl : l[i]? <;> simp_all

/-- with every flag off the names defined by the Return are `returns.bitvec` -/
theorem return_names_repaired (e : RExp) : returnNames Quirks.none e = (retArg e.ty).bitvec := by
  simp [returnNames, Quirks.none, retNames_tyShape, retArg, translateArgument]

theorem return_names_partial (q : Quirks) (e : RExp) (h : retNamesAgree e = true) :
    returnNames q e = (retArg e.ty).bitvec := by
  unfold returnNames
  split
  · simpa [retNamesAgree, retArg, translateArgument] using h
  · simp [retNames_tyShape, retArg, translateArgument]

/-- the keys of the qubit map after compilation are the input bits and the symbols defined by
the expression list -/
theorem compile_map_keys (inputs : List Name) (steps : List (Name × Nat)) (nq : Nat) (k : Name) :
    ((compileMap inputs steps nq).get k).isSome ↔ k ∈ inputs ∨ k ∈ steps.map (·.1) := by
  rw [QMap.get, compileMap_entries, dictGet_setAll_isSome]
  simp [dictGet, List.zipIdx_map_fst]

/-- `output_qubits` of a compiled function is defined iff every name of `returns.bitvec` is an
input bit or a symbol defined by the expression list – for the symbols of the Return: iff the
Return's naming covers `returns.bitvec` -/
theorem output_qubits_total_iff_names (inputs : List Name) (steps : List (Name × Nat)) (nq : Nat)
    (ret : QTy) :
    (outputQubits (compileMap inputs steps nq) (retArg ret).bitvec).isSome
      ↔ ∀ n ∈ (retArg ret).bitvec, n ∈ inputs ∨ n ∈ steps.map (·.1) := by
  simp only [output_qubits_total_iff, compile_map_keys]

/-- `output_qubits` is defined as soon as the Return defines the names of `returns.bitvec` -/
theorem output_qubits_total_of_names (q : Quirks) (inputs : List Name) (temps : List (Name × Nat))
    (e : RExp) (irets : List Nat) (nq : Nat) (hnames : returnNames q e = (retArg e.ty).bitvec)
    (hlen : irets.length = (returnNames q e).length) :
    (outputQubits (compileMap inputs (temps ++ (returnNames q e).zip irets) nq)
      (retArg e.ty).bitvec).isSome := by
  rw [output_qubits_total_iff_names]
  intro n hn
  right
  rw [List.map_append, List.mem_append]
  right
  rw [← List.unzip_fst, List.unzip_zip (by omega), hnames]
  exact hn

/-- at `Quirks.none` `output_qubits` (of the codec model's `compileMap`) is always defined: the Return defines exactly the
names of `returns.bitvec` -/
theorem output_qubits_total (inputs : List Name) (temps : List (Name × Nat)) (e : RExp)
    (irets : List Nat) (nq : Nat) (hlen : irets.length = (returnNames Quirks.none e).length) :
    (outputQubits (compileMap inputs (temps ++ (returnNames Quirks.none e).zip irets) nq)
      (retArg e.ty).bitvec).isSome :=
  output_qubits_total_of_names Quirks.none inputs temps e irets nq (return_names_repaired e) hlen

/-- the same for every quirk setting `q`, when the Return's names agree with `returns.bitvec` -/
theorem output_qubits_total_partial (q : Quirks) (inputs : List Name) (temps : List (Name × Nat))
    (e : RExp) (irets : List Nat) (nq : Nat) (hagree : retNamesAgree e = true)
    (hlen : irets.length = (returnNames q e).length) :
    (outputQubits (compileMap inputs (temps ++ (returnNames q e).zip irets) nq)
      (retArg e.ty).bitvec).isSome :=
  output_qubits_total_of_names q inputs temps e irets nq (return_names_partial q e hagree) hlen

/-- merging by decoded key preserves the total number of shots -/
theorem decode_counts_total {K V : Type} [BEq V] (dec : K → V) (counts : List (K × Nat)) :
    totalCount (decodeCounts dec counts none) = totalCount counts ∧
    totalCount (decodeCounts dec counts (some 0)) = totalCount counts := by
  simp only [decodeCounts, ne_eq, not_true_eq_false, if_false]
  rw [totalCount_fold]; simp [totalCount]

/-- with `discard_lower = d > 0` every entry kept has at least `d` shots and nothing is added -/
theorem decode_counts_discard {K V : Type} [BEq V] (dec : K → V) (counts : List (K × Nat)) (d : Nat)
    (hd : d ≠ 0) :
    (∀ e ∈ decodeCounts dec counts (some d), d ≤ e.2) ∧
    totalCount (decodeCounts dec counts (some d)) ≤ totalCount counts := by
  simp only [decodeCounts, hd, ne_eq, not_false_eq_true, if_true]
  refine ⟨fun e he => by simpa using (List.mem_filter.mp he).2, ?_⟩
  refine Nat.le_trans (totalCount_filter_le _ _) ?_
  rw [totalCount_fold]; simp [totalCount]

/-- two output bits that share a qubit carry the same value on every input -/
theorem share_only_if_equal (gs : List AGate) (nq n : Nat) (oq : List Nat) (F : List Bool → List Bool)
    (hc : Computes gs nq n oq F) (i j : Nat) (hij : oq[i]? = oq[j]?) (x : List Bool) (hx : x.length = n) :
    (F x)[i]? = (F x)[j]? := by
  rw [← hc x hx]
  simp only [List.getElem?_map, hij]

theorem c05_round_trip : C05_statement := by
  unfold C05_statement
  intro sig ret f F gs m oq hf hwf hoq hc
  obtain ⟨hlen, hrange, _⟩ := output_qubits_in_range m _ oq hwf hoq
  refine ⟨input_qubits_range sig, ⟨by rw [hlen]; exact arg_bitvec_length _ _, hrange⟩, ?_, ?_⟩
  · intro vs hvs
    obtain ⟨hwt, hF⟩ := hf vs hvs
    rw [init_state_layout sig vs _ hvs]
    have := hc (encodeList (sig.map (·.2)) vs) (encodeList_length _ _ hvs)
    unfold readOut
    rw [this, hF]
    exact decode_encode ret (f vs) hwt
  · intro i j hij x hx
    exact share_only_if_equal gs _ _ oq F hc i j hij x hx

/-- a nested signature and value meeting the hypotheses -/
example : WTs [.qint 2, .tuple [.bool, .qint 2]] [.int 1, .tuple [.bool true, .int 2]] := by
  simp [WTs, WT]

/-- `hnd` of `input_bits_on_qubits` is satisfiable -/
example : ([("a", QTy.qint 2), ("b", .tuple [.bool, .qint 2])].map (·.1)).Nodup := by decide

/-- `Computes` is satisfiable: `CX 0 1` computes the identity of one bit on qubit 1 -/
example : Computes [⟨.CX, [0, 1], .none, 0⟩] 2 1 [1] id := by
  intro x hx
  match x, hx with
  | [b], _ => cases b <;> decide

/-- `retNamesAgree` holds for a tuple display of arguments -/
example : retNamesAgree (.tup [.var (.qint 2), .tup [.var .bool, .scalar (.qint 3)]]) = true := by
  decide

/-- defect `retFlatNames`: `return a` with `a : Tuple[Tuple[bool, bool], bool]` defines
`_ret.0, _ret.1, _ret.2`, `returns.bitvec` is `_ret.0.0, _ret.0.1, _ret.1`, and
`output_qubits` raises `KeyError` -/
theorem ret_flat_names_witness :
    outputQubits
      (compileMap (argNames (.tuple [.tuple [.bool, .bool], .bool]) ⟨"a", []⟩)
        ((returnNames { retFlatNames := true } (.var (.tuple [.tuple [.bool, .bool], .bool]))).zip [3, 4, 5]) 6)
      (retArg (.tuple [.tuple [.bool, .bool], .bool])).bitvec = none := by
  decide

/-- defect `formatOutcomeIntPadRight`: `decode_output(1)` of a `Qint4` function is 8 -/
theorem decode_int_pad_right_witness :
    (decodeOutputInt { formatOutcomeIntPadRight := true } (retArg (.qint 4)) 1).beq (.int 8) = true
    ∧ (decodeOutputInt Quirks.none (retArg (.qint 4)) 1).beq (.int 1) = true := by
  have h : binDigits 1 = ['1'] := by
    rw [binDigits]; simp [bitsLE_pos, bitsLE_zero, bitChar]
  simp only [decodeOutputInt, formatOutcomeInt, h, Quirks.none]
  decide

/-- defect `formatOutcomePadsInPlace`: after `format_outcome(l, 4)` with `l = [True]` the caller's
`l` is `[True, False, False, False]`; with the flag off it is `[True]` -/
theorem pad_in_place_witness :
    formatOutcomeArgAfter { formatOutcomePadsInPlace := true } [true] (some 4) = [true, false, false, false]
    ∧ formatOutcomeArgAfter Quirks.none [true] (some 4) = [true] := by
  decide

end QV.C05

/-! ## End to end through the compiler model

For the circuits the *compiler model* produces, `Computes` is a theorem on the decidable class `inGeneralClass`
(`C02.C02_general_partial`: definition lists with sharing, cache hits, re-binding, several return bits).
`QV/Proofs/EndToEnd05.lean` converts between the two models (string names / `Name`s, `qubit_map` as
`List (String × Nat)` / `QMap`, `Compiler.initState` / `Codec.initState`).  `compiledMap` (a view of the compiler
model's final `qubit_map`) is not `Codec.compileMap` (the codec model's own replay of `add_qubit` / `map_qubit`,
behind `output_qubits_total*`, `compile_map_keys`, `input_bits_on_qubits`); no theorem relates the two. -/
namespace QV.C05
open QV QV.Types QV.Codec QV.C09 QV.EndToEnd05

/-- the bridge in the vocabulary of this file: the compiled gate list `Computes` the function the definition
list denotes, on the output qubits read from the view of the final `qubit_map` -/
theorem compile_general_computes (sig : List (String × QTy)) (ret : QTy) (defs : List (String × BExp))
    (unc : Bool) (choices : List Nat) (s : Compiler.CState)
    (hcls : Compiler.inGeneralClass (inputBitNames sig) defs (retBitNames ret) = true)
    (h : (Compiler.compile (inputBitNames sig) defs (some (retBitNames ret)) unc).run
        { choices := choices } = .ok ((), s)) :
    ∃ oq, outputQubits (compiledMap sig ret s) (retArg ret).bitvec = some oq ∧
      (compiledMap sig ret s).WF ∧
      oq.map some = (retBitNames ret).map (Compiler.dictGet? s.qc.qmap) ∧
      Computes s.qc.gates.toList (compiledMap sig ret s).numQubits (sizeList (sig.map (·.2))) oq
        (bitFun (inputBitNames sig) defs (retBitNames ret)) :=
  compile_computes sig ret defs unc choices s hcls h

/-- For every signature `sig`, return type `ret`, value-level function `f` and definition list `defs` (over the
printed argument bit names, defining the printed return bit names) that

* lies in the decidable class `inGeneralClass` of `C02_general_partial`, and
* means `f` through the codecs: `bitFun … (encode vs) = encode (f vs)` for every well-typed `vs` (C01),

and for every successful run of the compiler model on it – final uncomputation on or off, every sequence of
ancilla choices – with final state `s`:

1. `output_qubits` is defined on the final `qubit_map` (seen as a `QMap`, `compiledMap`): `oq`, and it is the
   reading `[qubit_map[r] for r in returns.bitvec]` of the compiler's own string-keyed map;
2. `input_qubits = [0, …, n)`;
3. `oq` has one qubit per return bit, each a qubit of the compiled circuit;
4. round trip: preparing the basis state from `encode_input(vs)`, running the COMPILED gate list, reading the
   qubits `oq` and decoding the reading yields `f vs`;
5. two return bits that share an output qubit carry the same value on every input.

These are the conclusions of `C05_statement` with its hypotheses about the circuit (`m.WF`, `outputQubits`,
`Computes`) proved from the compiler model instead of assumed. -/
theorem C05_end_to_end_general (sig : List (String × QTy)) (ret : QTy) (f : List QVal → QVal)
    (defs : List (String × BExp)) (unc : Bool) (choices : List Nat) (s : Compiler.CState)
    (hcls : Compiler.inGeneralClass (inputBitNames sig) defs (retBitNames ret) = true)
    (hf : ∀ vs, WTs (sig.map (·.2)) vs →
      WT ret (f vs) ∧
      bitFun (inputBitNames sig) defs (retBitNames ret) (encodeList (sig.map (·.2)) vs) = encode ret (f vs))
    (h : (Compiler.compile (inputBitNames sig) defs (some (retBitNames ret)) unc).run
        { choices := choices } = .ok ((), s)) :
    ∃ oq : List Nat,
      (outputQubits (compiledMap sig ret s) (retArg ret).bitvec = some oq ∧
        oq.map some = (retBitNames ret).map (Compiler.dictGet? s.qc.qmap)) ∧
      inputQubits (translateArguments sig) = List.range (sizeList (sig.map (·.2))) ∧
      (oq.length = ret.size ∧ ∀ q ∈ oq, q < s.qc.numQubits) ∧
      (∀ vs, WTs (sig.map (·.2)) vs →
        decodeOutput (retArg ret)
          (readOut (runClassical s.qc.gates.toList (initState s.qc.numQubits
            (encodeInput (translateArguments sig) vs))) oq) = f vs) ∧
      (∀ i j : Nat, oq[i]? = oq[j]? → ∀ x, x.length = sizeList (sig.map (·.2)) →
        (bitFun (inputBitNames sig) defs (retBitNames ret) x)[i]?
          = (bitFun (inputBitNames sig) defs (retBitNames ret) x)[j]?) := by
  obtain ⟨oq, hoq, hwf, hmap, hcomp⟩ := compile_general_computes sig ret defs unc choices s hcls h
  obtain ⟨hin, hrange, hrt, hshare⟩ :=
    c05_round_trip sig ret f (bitFun (inputBitNames sig) defs (retBitNames ret)) s.qc.gates.toList
      (compiledMap sig ret s) oq hf hwf hoq hcomp
  exact ⟨oq, ⟨hoq, hmap⟩, hin, hrange, hrt, hshare⟩

/-- when no definition re-binds an argument bit (decidable `C02.inputsFresh`; the general class itself allows
re-binding, and then the name moves), the `j`-th argument bit – arguments in order, tuples depth-first – is mapped
to qubit `j = input_qubits[j]` in the final `qubit_map` of every successful run, and there are at least `n` qubits -/
theorem C05_end_to_end_inputs (sig : List (String × QTy)) (ret : QTy) (defs : List (String × BExp))
    (rets : Option (List String)) (unc : Bool) (choices : List Nat) (s : Compiler.CState)
    (hfresh : C02.inputsFresh (inputBitNames sig) defs = true)
    (h : (Compiler.compile (inputBitNames sig) defs rets unc).run { choices := choices } = .ok ((), s)) :
    sizeList (sig.map (·.2)) ≤ s.qc.numQubits ∧
    ∀ (j : Nat) (hj : j < (inputSymbols (translateArguments sig)).length),
      (compiledMap sig ret s).get (inputSymbols (translateArguments sig))[j]
        = (inputQubits (translateArguments sig))[j]? := by
  obtain ⟨hle, hpos⟩ := compile_inputs_on_qubits sig ret defs rets unc choices s hfresh h
  refine ⟨hle, fun j hj => ?_⟩
  rw [hpos j hj, input_qubits_range, List.getElem?_range (by rw [← inputSymbols_length]; exact hj)]

/-! ### a concrete compiled function

`def g(a: Qint[2], c: bool) -> Tuple[bool, bool]: return (a == 3, (a == 3) ^ c)` as the front end hands it to
the compiler: `_ret.0 = a.0 & a.1; _ret.1 = (a.0 & a.1) ^ c` (the sub-expression `a.0 & a.1` is shared). -/

def exSig : List (String × QTy) := [("a", .qint 2), ("c", .bool)]
def exRet : QTy := .tuple [.bool, .bool]
def exDefs : List (String × BExp) :=
  [("_ret.0", .and [.sym "a.0", .sym "a.1"]),
   ("_ret.1", .xor [.and [.sym "a.0", .sym "a.1"], .sym "c"])]
def exFun : List QVal → QVal
  | [.int v, .bool c] => .tuple [.bool (v == 3), .bool ((v == 3) != c)]
  | _ => .error

/-- the names the compiler is called with -/
example : inputBitNames exSig = ["a.0", "a.1", "c"] ∧ retBitNames exRet = ["_ret.0", "_ret.1"] := by
  decide +kernel

theorem exDefs_in_class :
    Compiler.inGeneralClass (inputBitNames exSig) exDefs (retBitNames exRet) = true := by decide +kernel

/-- the model compiles it, final uncomputation on and off (ancilla choices 3, 4: three gates `CCX 0,1→3`, `CCX 0,1→4`,
`CX 2→4` on five qubits, `_ret.0` on qubit 3, `_ret.1` on qubit 4).  Kernel evaluation of `compile`, `sortNat`
(a `List.mergeSort`) rewritten to insertion sort first (`EndToEnd.sortNat_eq`, in `Proofs/SortNat.lean`). -/
theorem exDefs_compiles (unc : Bool) :
    ∃ s, (Compiler.compile (inputBitNames exSig) exDefs (some (retBitNames exRet)) unc).run
      { choices := [3, 4] } = .ok ((), s) := by
  apply Compiler.run_ok_of_toBool
  simp only [Compiler.compile, exDefs, Compiler.compileDefs, Compiler.compileExpr, Compiler.compileArgs,
    Compiler.compileXorArgs, EndToEnd.sortNat_eq]
  cases unc <;> decide +kernel

/-- the definition list means `exFun` through the codecs (all 8 well-typed argument values) -/
theorem exDefs_means_exFun : ∀ vs, WTs (exSig.map (·.2)) vs →
    WT exRet (exFun vs) ∧
    bitFun (inputBitNames exSig) exDefs (retBitNames exRet) (encodeList (exSig.map (·.2)) vs)
      = encode exRet (exFun vs) := by
  have hbits : ∀ v, v < 2 ^ 2 → ∀ c : Bool,
      bitFun (inputBitNames exSig) exDefs (retBitNames exRet)
          (encodeList (exSig.map (·.2)) [.int v, .bool c])
        = encode exRet (exFun [.int v, .bool c]) := by
    decide +kernel
  intro vs hvs
  match vs, hvs with
  | [.int v, .bool c], hvs =>
    simp only [exSig, List.map_cons, List.map_nil, WTs, WT, and_true] at hvs
    exact ⟨by simp [exRet, exFun, WT, WTs], hbits v hvs.2 c⟩

/-- non-vacuity of `C05_end_to_end_general`: every hypothesis holds for `exDefs`, uncomputation on and off, so the
COMPILED circuit round-trips: `g(3, True)` – `encode_input` gives `"111"`, the reading of `output_qubits` decodes
to `(True, False)` -/
example (unc : Bool) : ∃ s oq,
    (Compiler.compile (inputBitNames exSig) exDefs (some (retBitNames exRet)) unc).run
      { choices := [3, 4] } = .ok ((), s) ∧
    outputQubits (compiledMap exSig exRet s) (retArg exRet).bitvec = some oq ∧
    oq.length = 2 ∧
    decodeOutput (retArg exRet)
      (readOut (runClassical s.qc.gates.toList (initState s.qc.numQubits
        (encodeInput (translateArguments exSig) [.int 3, .bool true]))) oq)
      = .tuple [.bool true, .bool false] := by
  obtain ⟨s, hs⟩ := exDefs_compiles unc
  obtain ⟨oq, ⟨hoq, _⟩, _, ⟨hlen, _⟩, hrt, _⟩ :=
    C05_end_to_end_general exSig exRet exFun exDefs unc [3, 4] s exDefs_in_class exDefs_means_exFun hs
  exact ⟨s, oq, hs, hoq, hlen, hrt [.int 3, .bool true] (by simp [exSig, WTs, WT])⟩

/-- the arguments of `exDefs` are never re-bound: `C05_end_to_end_inputs` applies -/
example : C02.inputsFresh (inputBitNames exSig) exDefs = true := by decide +kernel

end QV.C05
