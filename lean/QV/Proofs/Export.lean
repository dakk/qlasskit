import QV.Model.Export
import QV.Proofs.ListAux
/-!
The qiskit / cirq / sympy exporters share one scheme: if every iteration of the loop `runSteps` `meets`
its specification, the output reads as the circuit and the loop returns inside the domain
(`runSteps_correct`); each exporter's iteration meets it by the well-formedness of the gate.
-/
namespace QV.Export

def Step.toOption {β : Type} : Step β → Option β
  | .emit b => some b
  | _ => none

theorem runSteps_ok_eq {α β : Type} (f : α → Step β) :
    ∀ (gs : List α) (out : List β), runSteps f gs = .ok out →
      out = gs.filterMap (fun g => (f g).toOption) ∧ ∀ g ∈ gs, ∀ m, f g ≠ .fail m
  | [], out, h => by cases h; exact ⟨rfl, nofun⟩
  | a :: as, out, h => by
    rw [List.filterMap_cons, List.forall_mem_cons]
    unfold runSteps at h
    split at h
    · cases h
    · next hs =>
      obtain ⟨h1, h2⟩ := runSteps_ok_eq f as out h
      rw [hs]
      exact ⟨h1, nofun, h2⟩
    · next b hs =>
      split at h <;> cases h
      next bs hr =>
      obtain ⟨h1, h2⟩ := runSteps_ok_eq f as bs hr
      rw [hs]
      exact ⟨h1 ▸ rfl, nofun, h2⟩

theorem runSteps_of_no_fail {α β : Type} (f : α → Step β) :
    ∀ (gs : List α), (∀ g ∈ gs, ∀ m, f g ≠ .fail m) →
      runSteps f gs = .ok (gs.filterMap (fun g => (f g).toOption))
  | [], _ => rfl
  | a :: as, h => by
    have ih := runSteps_of_no_fail f as (fun g hg => h g (List.mem_cons_of_mem _ hg))
    unfold runSteps
    rw [List.filterMap_cons]
    cases hs : f a with
    | fail m => exact absurd hs (h a List.mem_cons_self m)
    | skip => exact ih
    | emit b => rw [ih]; rfl

/-- what one loop iteration must satisfy on a gate whose operation is `tgt`: an emitted call reads as
`tgt`, only gates without an operation are skipped, and the iteration fails only outside `dom` -/
def Step.meets {β γ : Type} (ob : β → Option γ) (tgt : Option γ) (dom : Prop) : Step β → Prop
  | .emit b => ob b = tgt
  | .skip => tgt = none
  | .fail _ => ¬ dom

theorem Step.meets.mono {β γ : Type} {ob : β → Option γ} {tgt : Option γ} {dom dom' : Prop} :
    ∀ {s : Step β}, s.meets ob tgt dom → (dom' → dom) → s.meets ob tgt dom'
  | .emit _, h, _ => h
  | .skip, h, _ => h
  | .fail _, h, hd => fun h' => h (hd h')

theorem runSteps_translate {α β γ : Type} {f : α → Step β} {oa : α → Option γ} {ob : β → Option γ}
    {dom : α → Prop} {gs : List α} {out : List β}
    (hstep : ∀ g ∈ gs, (f g).meets ob (oa g) (dom g))
    (h : runSteps f gs = .ok out) : out.filterMap ob = gs.filterMap oa := by
  obtain ⟨rfl, hnf⟩ := runSteps_ok_eq f gs out h
  rw [List.filterMap_filterMap]
  refine List.filterMap_congr_mem gs (fun g hg => ?_)
  have := hstep g hg
  cases hs : f g with
  | fail m => exact absurd hs (hnf g hg m)
  | skip => rw [hs] at this; exact this.symm
  | emit b => rw [hs] at this; exact this

theorem runSteps_correct {α β γ : Type} {f : α → Step β} {oa : α → Option γ} {ob : β → Option γ}
    {dom : α → Prop} {gs : List α} (hstep : ∀ g ∈ gs, (f g).meets ob (oa g) (dom g)) :
    (∀ g ∈ gs, dom g) → ∃ out, runSteps f gs = .ok out ∧ out.filterMap ob = gs.filterMap oa := by
  intro hd
  -- a failing iteration would be outside its domain
  have h := runSteps_of_no_fail f gs fun g hg m hs => by
    have := hstep g hg; rw [hs] at this; exact this (hd g hg)
  exact ⟨_, h, runSteps_translate hstep h⟩

theorem last_of_length {α : Type} {l : List α} {k : Nat} (h : l.length = k + 1) :
    ∃ t, l.getLast? = some t ∧ l.dropLast ++ [t] = l ∧ l.dropLast.length = k :=
  have hne : l ≠ [] := by rintro rfl; cases h
  ⟨l.getLast hne, List.getLast?_eq_some_getLast hne, List.dropLast_concat_getLast hne,
    by rw [List.length_dropLast, h]; rfl⟩

theorem gateWF_len {fv : FloatOf} {n : Nat} {g : AGate} (h : gateWF fv n g = true) :
    g.wires.length = g.cls.nQubits := by
  simp only [gateWF, Bool.and_eq_true, beq_iff_eq] at h
  exact h.1.1

theorem gateWF_lt {fv : FloatOf} {n : Nat} {g : AGate} (h : gateWF fv n g = true) :
    ∀ w ∈ g.wires, w < n := by
  simp only [gateWF, Bool.and_eq_true, List.all_eq_true, decide_eq_true_eq] at h
  exact h.1.2

theorem gateWF_param {fv : FloatOf} {n : Nat} {g : AGate} (h : gateWF fv n g = true)
    {b : Base} {k : Nat} (hk : kind g.cls = some (b, k)) :
    (takesParam b = false → g.param = .none) ∧
    (takesParam b = true → ∃ s, g.param = .lit s ∧ (fv s).isSome = true) := by
  simp only [gateWF, hk, Bool.and_eq_true] at h
  replace h := h.2
  cases hb : takesParam b <;> simp only [hb, Bool.false_eq_true, ↓reduceIte, beq_iff_eq] at h
  · exact ⟨fun _ => h, nofun⟩
  · refine ⟨nofun, fun _ => ?_⟩
    cases hp : g.param <;> rw [hp] at h <;> first | cases h | exact ⟨_, rfl, h⟩

theorem isMCXg_kind {cls : GClass} (h : isMCXg cls = true) :
    ∃ k, kind cls = some (.X, k) ∧ cls.nQubits = k + 1 := by
  cases cls <;> try cases h
  case MCX n => exact ⟨n, rfl, rfl⟩
  case MCtrl inner n => cases beq_iff_eq.mp h; exact ⟨n, rfl, rfl⟩

theorem isMCZg_kind {cls : GClass} (h : isMCZg cls = true) :
    ∃ k, kind cls = some (.Z, k) ∧ cls.nQubits = k + 1 := by
  cases cls <;> try cases h
  case MCtrl inner n => cases beq_iff_eq.mp h; exact ⟨n, rfl, rfl⟩

theorem isNop_kind {cls : GClass} (h : cls.isNop = true) : kind cls = none := by
  cases cls <;> first | rfl | cases h

theorem hasParam_of_not_truthy {q : Quirks} (hq : q.exportParamTruthy = false) (fv : FloatOf) (p : Param) :
    hasParam q fv p = (p != .none) := by
  simp only [hasParam, hq, Bool.false_eq_true, ↓reduceIte]

theorem hasParam_none (q : Quirks) (fv : FloatOf) : hasParam q fv .none = false := by
  unfold hasParam; split <;> rfl

/-- the `QuantumCircuit` methods reached through the lower-cased class name are the plain library
gates, under their own reading -/
theorem qiskitMethod_kind {cls : GClass} {b : Base} {k : Nat}
    (h : qiskitMethod (pyClassLower cls) = some (b, k)) :
    kind cls = some (b, k) ∧ cls.nQubits = k + b.arity := by
  cases cls <;> cases h <;> exact ⟨rfl, rfl⟩

theorem qiskitMethod_of_exportable {cls : GClass} (he : qiskitExportable cls = true)
    (hx : ¬ isMCXg cls = true) (hz : ¬ isMCZg cls = true) (hn : ¬ cls.isNop = true) :
    (qiskitMethod (pyClassLower cls)).isSome = true := by
  cases cls
  case I => cases he
  case MCX => exact absurd rfl hx
  case MCtrl g n => exact ((Bool.or_eq_true _ _).mp he).elim (absurd · hx) (absurd · hz)
  case Barrier | Nop => exact absurd rfl hn
  all_goals rfl

theorem qiskitStep_spec (q : Quirks) (fv : FloatOf) (gm : Bool) {n : Nat} {g : AGate}
    (hwf : gateWF fv n g = true) :
    (qiskitStep q fv gm g).meets QkCall.op (gateOp g)
      (qiskitExportable g.cls = true ∧ q.exportParamTruthy = false) := by
  have hlen := gateWF_len hwf
  unfold qiskitStep
  by_cases hx : isMCXg g.cls = true
  · obtain ⟨k, hk, hq⟩ := isMCXg_kind hx
    obtain ⟨t, ht, hw, hd⟩ := last_of_length (hlen.trans hq)
    simp only [hx, ↓reduceIte, ht, Step.meets, QkCall.op, hd, hw, gateOp, hk, Option.map_some,
      (gateWF_param hwf hk).1 rfl]
  rw [if_neg hx]
  by_cases hz : isMCZg g.cls = true
  · obtain ⟨k, hk, hq⟩ := isMCZg_kind hz
    simp only [hz, ↓reduceIte, Step.meets, QkCall.op, hlen, hq, Nat.add_sub_cancel, gateOp, hk,
      Option.map_some, (gateWF_param hwf hk).1 rfl]
  rw [if_neg hz]
  by_cases hb : g.cls = GClass.Barrier ∧ (!gm) = true
  · simp only [hb, and_self, ↓reduceIte, Step.meets, QkCall.op, gateOp, kind, Option.map_none]
  rw [if_neg hb]
  by_cases hn : g.cls.isNop = true
  · simp only [hn, ↓reduceIte, Step.meets, gateOp, isNop_kind hn, Option.map_none]
  rw [if_neg hn]
  cases hm : qiskitMethod (pyClassLower g.cls) with
  | none => exact fun hd => by simpa [hm] using qiskitMethod_of_exportable hd.1 hx hz hn
  | some bk =>
    obtain ⟨b, k⟩ := bk
    obtain ⟨hk, hq⟩ := qiskitMethod_kind hm
    have hp := gateWF_param hwf hk
    have hop : ∀ p, QkCall.op (.meth (pyClassLower g.cls) p g.wires) =
        if takesParam b = p.isSome then some ⟨b, k, g.wires, p.getD .none⟩ else none := fun p => by
      simp only [QkCall.op, hm, hlen, hq, true_and]
    simp only [Option.isSome_some, ↓reduceIte, QkCall.raises, hop, gateOp, hk, Option.map_some]
    cases hb : takesParam b
    · simp only [hp.1 hb, hasParam_none, Bool.false_eq_true, ↓reduceIte, Option.isSome_none,
        Option.isNone_some, Step.meets, hop, hb, Option.getD_none]
    · obtain ⟨s, hs, _⟩ := hp.2 hb
      cases hh : hasParam q fv g.param
      · simp only [Bool.false_eq_true, ↓reduceIte, Option.isSome_none, Step.meets]
        exact fun hd => by simp [hasParam_of_not_truthy hd.2, hs] at hh
      · simp only [↓reduceIte, Option.isSome_some, Option.isNone_some, Bool.false_eq_true, Step.meets,
          hop, hb, Option.getD_some]

/-- the `cirq` attributes reached through the class name are plain library gates without a
parameter, under their own reading -/
theorem cirqAttr_kind {cls : GClass} {b : Base} {k : Nat}
    (h : cirqAttr (cirqName cls) = some (b, k)) :
    kind cls = some (b, k) ∧ cls.nQubits = k + b.arity ∧ takesParam b = false := by
  cases cls <;> cases h <;> exact ⟨rfl, rfl, rfl⟩

theorem cirqAttr_of_exportable {cls : GClass} (he : cirqExportable cls = true)
    (hx : ¬ isMCXg cls = true) (hz : ¬ isMCZg cls = true) (hs : cls ≠ .Swap) (hc : cls ≠ .CP)
    (hn : ¬ cls.isNop = true) : (cirqAttr (cirqName cls)).isSome = true := by
  cases cls
  case P => cases he
  case Swap => exact absurd rfl hs
  case CP => exact absurd rfl hc
  case MCX => exact absurd rfl hx
  case MCtrl g n => exact ((Bool.or_eq_true _ _).mp he).elim (absurd · hx) (absurd · hz)
  case Barrier | Nop => exact absurd rfl hn
  all_goals rfl

theorem cirqStep_spec (q : Quirks) (fv : FloatOf) {n : Nat} {g : AGate} (hwf : gateWF fv n g = true) :
    (cirqStep q g).meets CqOp.op (gateOp g) (cirqExportable g.cls = true ∧ q.cirqNopRaises = false) := by
  have hlen := gateWF_len hwf
  unfold cirqStep
  by_cases hx : isMCXg g.cls = true
  · obtain ⟨k, hk, hq⟩ := isMCXg_kind hx
    simp only [hx, ↓reduceIte, Step.meets, CqOp.op, hlen, hq, Nat.add_sub_cancel, gateOp, hk,
      Option.map_some, (gateWF_param hwf hk).1 rfl]
  rw [if_neg hx]
  by_cases hz : isMCZg g.cls = true
  · obtain ⟨k, hk, hq⟩ := isMCZg_kind hz
    simp only [hz, ↓reduceIte, Step.meets, CqOp.op, hlen, hq, Nat.add_sub_cancel, gateOp, hk,
      Option.map_some, (gateWF_param hwf hk).1 rfl]
  rw [if_neg hz]
  by_cases hs : g.cls = GClass.Swap
  · have hk : kind g.cls = some (.Swap, 0) := by rw [hs]; rfl
    rw [hs] at hlen
    match hw : g.wires, hlen with
    | [a, b], _ =>
      simp only [hs, ↓reduceIte, Step.meets, CqOp.op, gateOp, kind, Option.map_some, hw,
        (gateWF_param hwf hk).1 rfl]
  rw [if_neg hs]
  by_cases hc : g.cls = GClass.CP
  · have hk : kind g.cls = some (.P, 1) := by rw [hc]; rfl
    obtain ⟨s, hp, _⟩ := (gateWF_param hwf hk).2 rfl
    rw [hc] at hlen
    match hw : g.wires, hlen with
    | [a, b], _ =>
      simp only [hc, ↓reduceIte, hp, reduceCtorEq, Step.meets, CqOp.op, gateOp, kind, Option.map_some, hw]
  rw [if_neg hc]
  by_cases hn : g.cls.isNop = true ∧ (!q.cirqNopRaises) = true
  · simp only [hn, and_self, ↓reduceIte, Step.meets, gateOp, isNop_kind hn.1, Option.map_none]
  rw [if_neg hn]
  cases hm : cirqAttr (cirqName g.cls) with
  | none =>
    intro hd
    have hn' : ¬ g.cls.isNop = true := fun h => hn ⟨h, by rw [hd.2]; rfl⟩
    simpa [hm] using cirqAttr_of_exportable hd.1 hx hz hs hc hn'
  | some bk =>
    obtain ⟨b, k⟩ := bk
    obtain ⟨hk, hq, hb⟩ := cirqAttr_kind hm
    simp only [Option.isSome_some, ↓reduceIte, CqOp.op, hm, hlen, hq, Option.isNone_some,
      Bool.false_eq_true, Step.meets, gateOp, hk, Option.map_some, (gateWF_param hwf hk).1 hb]

theorem sympyMcx_spec {fv : FloatOf} {n : Nat} {g : AGate} (hwf : gateWF fv n g = true) {k : Nat}
    (hk : kind g.cls = some (.X, k)) (hq : g.cls.nQubits = k + 1) :
    (sympyMcx g.wires).meets SyGate.op (gateOp g) (k ≠ 0) := by
  obtain ⟨t, ht, hw, hd⟩ := last_of_length ((gateWF_len hwf).trans hq)
  unfold sympyMcx
  by_cases he : g.wires.dropLast = []
  · simp only [ht, he, ↓reduceIte, Step.meets, ← hd, List.length_nil, ne_eq, not_true_eq_false,
      not_false_eq_true]
  · simp only [ht, he, ↓reduceIte, Step.meets, SyGate.op, hd, hw, gateOp, hk, Option.map_some,
      (gateWF_param hwf hk).1 rfl]

theorem sympyStep_spec (fv : FloatOf) {n : Nat} {g : AGate} (hwf : gateWF fv n g = true) :
    (sympyStep g).meets SyGate.op (gateOp g) (sympyExportable g.cls = true) := by
  have hlen := gateWF_len hwf
  have hp := fun b k (hk : kind g.cls = some (b, k)) => (gateWF_param hwf hk).1
  obtain ⟨cls, wires, param, gid⟩ := g
  cases cls
  case CCX => exact (sympyMcx_spec hwf (k := 2) rfl rfl).mono (fun _ => by decide)
  case MCX k => exact (sympyMcx_spec hwf rfl rfl).mono (by simp [sympyExportable])
  case X => cases hp .X 0 rfl rfl; match wires, hlen with | [w], _ => exact rfl
  case H => cases hp .H 0 rfl rfl; match wires, hlen with | [w], _ => exact rfl
  case CX => cases hp .X 1 rfl rfl; match wires, hlen with | [a, b], _ => exact rfl
  case Swap => cases hp .Swap 0 rfl rfl; match wires, hlen with | [a, b], _ => exact rfl
  case Barrier | Nop => exact rfl
  all_goals exact Bool.false_ne_true

end QV.Export
