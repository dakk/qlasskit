import QV.Proofs.A2ASimRel
/-! The argument as a whole is told at `C01.ast2ast_preserved_eq` (`QV/Props/C01.lean`). -/
namespace QV.A2A
open QV.Front QV.Sem

/-- what `sim_stmt` says of one rewriting step under the replacements `θ`, from state `st` to `st'` with result `L`: wrapped
in the guards `Γ` of the enclosing `if`s and run from an environment that agrees with the source environment on the user
variables, `L` is defined exactly when `run` (the source statement under the guard values `gs`) is, and then ends in such an
environment again.  `noIf` / `noFor`: the statement has no `if` / no loop; with an `if`, `Γ` must be `elseOnly` (only `fElse`
copies the emitted `_iftargN = c` unchanged: `wrapF_guard_assign`), with a loop `Γ = []`.  `GammaFresh` in, `Frame` out: the
guards of `Γ` keep their values over the step (`stepOK_seq`). -/
def StepOK (θ : Subst) (st st' : RSt) (L : List SStmt) (noIf noFor : Bool)
    (run : List (SVal × Bool) → SEnv → Option SEnv) : Prop :=
  Ext st st' ∧ (∀ x ∈ L, IsAssign x) ∧
  ∀ (Γ : List (String × Bool)) (gs : List (SVal × Bool)) (σs σr : SEnv), Rel σs σr → ThetaOK θ σs →
    guardVals σr Γ = some gs → GammaFresh st.uniq st'.uniq Γ → (noIf = false → elseOnly Γ = true) →
    (noFor = false → Γ = []) →
    Both (fun σs' σr' => Rel σs' σr' ∧ ThetaOK θ σs' ∧ Frame st.uniq st'.uniq σr σr')
      (run gs σs) (runA σr (wrapF Γ (L.map toStmt)))

/-- the direction from the source to the rewritten list, on its own; kept with `StepOK.stepC` and `mlc_list` (`sim_list` read
in this direction), not used elsewhere -/
def StepC (θ : Subst) (st st' : RSt) (L : List SStmt) (noIf noFor : Bool)
    (run : List (SVal × Bool) → SEnv → Option SEnv) : Prop :=
  ∀ (Γ : List (String × Bool)) (gs : List (SVal × Bool)) (σs σr σs' : SEnv), Rel σs σr → ThetaOK θ σs →
    guardVals σr Γ = some gs → GammaFresh st.uniq st'.uniq Γ → (noIf = false → elseOnly Γ = true) →
    (noFor = false → Γ = []) → run gs σs = some σs' →
    ∃ σr', runA σr (wrapF Γ (L.map toStmt)) = some σr' ∧ Rel σs' σr' ∧ ThetaOK θ σs' ∧ Frame st.uniq st'.uniq σr σr'

theorem StepOK.stepC {θ : Subst} {st st' : RSt} {L : List SStmt} {a c : Bool}
    {run : List (SVal × Bool) → SEnv → Option SEnv} (h : StepOK θ st st' L a c run) : StepC θ st st' L a c run := by
  intro Γ gs σs σr σs' hrel hθ hgs hΓ helse hfor hrun
  have := h.2.2 Γ gs σs σr hrel hθ hgs hΓ helse hfor
  rw [hrun] at this
  exact this.of_some

theorem elseOnly_snoc (Γ : List (String × Bool)) (g : String) (h : elseOnly Γ = true) :
    elseOnly (Γ ++ [(g, false)]) = true := by
  simp only [elseOnly, List.all_append, Bool.and_eq_true] at h ⊢
  exact ⟨h, by simp⟩

theorem gammaFresh_snoc {lo hi : Nat} {Γ : List (String × Bool)} (h : GammaFresh lo hi Γ) (k : Nat) (w : Bool)
    (hk : hi < k) : GammaFresh lo hi (Γ ++ [(iftargName k, w)]) := by
  intro p hp
  simp only [List.mem_append, List.mem_singleton] at hp
  rcases hp with hp | rfl
  · exact h p hp
  · exact ⟨isIfTarg_iftarg k, fun k' _ hk2 heq => by have := iftargName_inj heq; omega⟩

theorem guardVals_frame {lo hi : Nat} {σ σ' : SEnv} {Γ : List (String × Bool)} (hf : Frame lo hi σ σ')
    (hΓ : GammaFresh lo hi Γ) : guardVals σ' Γ = guardVals σ Γ :=
  guardVals_congr _ _ _ (fun p hp => hf p.1 (hΓ p hp).1 (hΓ p hp).2)

theorem Frame.trans {lo mid hi : Nat} {a b c : SEnv} (h1 : Frame lo mid a b) (h2 : Frame mid hi b c)
    (hlo : lo ≤ mid) (hhi : mid ≤ hi) : Frame lo hi a c := by
  intro n hn hfresh
  rw [h2 n hn (fun k hk1 hk2 => hfresh k (by omega) hk2), h1 n hn (fun k hk1 hk2 => hfresh k hk1 (by omega))]

theorem Frame.refl (lo hi : Nat) (σ : SEnv) : Frame lo hi σ σ := fun _ _ _ => rfl

theorem stepOK_skip {θ : Subst} {st st' : RSt} {a c : Bool} (he : Ext st st') :
    StepOK θ st st' [] a c (fun _ σ => some σ) :=
  ⟨he, fun x hx => by simp at hx, fun Γ gs σs σr hrel hθ _ _ _ _ => by
    rw [List.map_nil, wrapF_nil]
    exact both_some ⟨hrel, hθ, Frame.refl _ _ _⟩⟩

theorem stepOK_seq {θ : Subst} {st s1 st' : RSt} {L1 L2 : List SStmt} {a1 c1 a2 c2 : Bool}
    {run1 run2 : List (SVal × Bool) → SEnv → Option SEnv}
    (h1 : StepOK θ st s1 L1 a1 c1 run1) (h2 : StepOK θ s1 st' L2 a2 c2 run2) :
    StepOK θ st st' (L1 ++ L2) (a1 && a2) (c1 && c2) (fun gs σ => (run1 gs σ).bind (run2 gs)) := by
  obtain ⟨he1, hg1, hs1⟩ := h1
  obtain ⟨he2, hg2, hs2⟩ := h2
  have hu1 := he1.le
  have hu2 := he2.le
  refine ⟨he1.trans he2, fun x hx => (List.mem_append.mp hx).elim (hg1 x) (hg2 x), ?_⟩
  intro Γ gs σs σr hrel hθ hgs hΓ helse hfor
  rw [List.map_append, wrapF_append, runA_append]
  have hΓ1 : GammaFresh st.uniq s1.uniq Γ := hΓ.mono (Nat.le_refl _) hu2
  refine (hs1 Γ gs σs σr hrel hθ hgs hΓ1 (fun hh => helse (by simp [hh])) (fun hh => hfor (by simp [hh]))).bind ?_
  intro σs1 σ1 ⟨hrel1, hθ1, hfr1⟩
  -- the first step wrote only `_iftarg` numbers in `(st.uniq, s1.uniq]` (`Frame`), of which `Γ` has none (`GammaFresh`)
  have hgs1 : guardVals σ1 Γ = some gs := by rw [guardVals_frame hfr1 hΓ1]; exact hgs
  refine (hs2 Γ gs σs1 σ1 hrel1 hθ1 hgs1 (hΓ.mono hu1 (Nat.le_refl _)) (fun hh => helse (by simp [hh]))
    (fun hh => hfor (by simp [hh]))).mono ?_
  exact fun σs2 σr' ⟨hrel2, hθ2, hfr2⟩ => ⟨hrel2, hθ2, hfr1.trans hfr2 hu1 hu2⟩

theorem stepOK_congr {θ : Subst} {st st' : RSt} {L : List SStmt} {a c a' c' : Bool}
    {run run' : List (SVal × Bool) → SEnv → Option SEnv} (h : StepOK θ st st' L a c run)
    (ha : a' = a) (hc : c' = c) (hr : ∀ gs σ, run' gs σ = run gs σ) : StepOK θ st st' L a' c' run' := by
  subst ha hc
  have : run' = run := by funext gs σ; exact hr gs σ
  rw [this]; exact h

theorem StepOK.of_ext {θ : Subst} {st s1 st' : RSt} {L : List SStmt} {a c : Bool}
    {run : List (SVal × Bool) → SEnv → Option SEnv} (he : Ext st s1) (h : StepOK θ s1 st' L a c run) :
    StepOK θ st st' L a c run := stepOK_seq (stepOK_skip (a := true) (c := true) he) h

theorem stepOK_assign {θ : Subst} {st st' : RSt} {L : List SStmt} {t : String} {e' : SExp} (e0 : PExp)
    (ht : userName t = true) (htθ : ∀ p ∈ θ, p.1 ≠ t) (hpl : plainE e' = true) (he : Ext st st')
    (hL : AssignForms t e' L) (hsem : ∀ σs, ThetaOK θ σs → semW σs (toP e') = semW σs e0) :
    StepOK θ st st' L true true (fun gs σs => (semW σs e0).bind (assignG gs σs t)) := by
  refine ⟨he, hL.isAssign, ?_⟩
  intro Γ gs σs σr hrel hθ hgs hΓ _ _
  show Both _ ((semW σs e0).bind (assignG gs σs t)) _
  rw [← hsem σs hθ]
  refine (assign_sim t e' ht (fun n hn => mentions_plain n _ hpl hn) L hL Γ gs σs σr hrel hgs
    (fun p hp => (hΓ p hp).1)).mono ?_
  rintro σs' σr' ⟨⟨w, rfl⟩, hrel', hfr⟩
  exact ⟨hrel', hθ.set t w htθ, fun n hn _ => hfr n hn⟩

/-- the step of an `if`: the body (no `if` inside, no loop) rewritten into `b'`, then the else branch into `e'`, the test
`c'` stored in the fresh name `g = _iftarg<st'.uniq>` in front of the two guarded lists.  `c'` means, where the
replaced loop variables hold their constants, what the source test `c0` means. -/
theorem stepOK_if {θ : Subst} {st s1 s2 st' : RSt} {b' e' : List SStmt} {c' : SExp} (c0 : PExp) {a2 : Bool}
    {runb rune : List (SVal × Bool) → SEnv → Option SEnv}
    (h1 : StepOK θ st s1 b' true true runb) (h2 : StepOK θ s1 s2 e' a2 true rune)
    (hpl : plainE c' = true) (hsem : ∀ σs, ThetaOK θ σs → semW σs (toP c') = semW σs c0)
    (he : Ext s2 st') (hu' : s2.uniq < st'.uniq) :
    StepOK θ st st' (.assign [.name (iftargName st'.uniq)] c'
        :: (b'.map (sBody (iftargName st'.uniq)) ++ e'.map (sElse (iftargName st'.uniq)))) false true
      (fun gs σs => (semW σs c0).bind fun g => (runb (gs ++ [(g, true)]) σs).bind (rune (gs ++ [(g, false)]))) := by
  obtain ⟨he1, hab, hs1⟩ := h1
  obtain ⟨he2, hae, hs2⟩ := h2
  have hu1 := he1.le
  have hu2 := he2.le
  obtain ⟨g, hg⟩ : ∃ g, g = iftargName st'.uniq := ⟨_, rfl⟩
  rw [← hg]
  refine ⟨he1.trans (he2.trans he), ?_, ?_⟩
  · intro x hx
    simp only [List.mem_cons, List.mem_append, List.mem_map] at hx
    rcases hx with rfl | ⟨y, hy, rfl⟩ | ⟨y, hy, rfl⟩
    · exact ⟨_, _, rfl⟩
    · exact (hab y hy).sBody _
    · exact (hae y hy).sElse _
  · intro Γ gs σs σr hrel hθ hgs hΓ helse _
    have helse' : elseOnly Γ = true := helse rfl
    have hshape : wrapF Γ ((SStmt.assign [.name g] c' :: (b'.map (sBody g) ++ e'.map (sElse g))).map toStmt)
        = Front.Stmt.assign g (toP c')
          :: (wrapF (Γ ++ [(g, true)]) (b'.map toStmt) ++ wrapF (Γ ++ [(g, false)]) (e'.map toStmt)) := by
      simp only [List.map_cons, List.map_append, toStmt, map_toStmt_sBody _ b' hab, map_toStmt_sElse _ e' hae]
      rw [← List.singleton_append, wrapF_append, wrapF_append,
        wrapF_guard_assign Γ _ _ (hg ▸ isIfTarg_iftarg _) (hg ▸ isDunder_iftarg _) helse', wrapF_snoc, wrapF_snoc]
      rfl
    -- the test has the same value on both sides; it is stored in the new name `g`, which no guard of `Γ` is
    have hgv : semW σr (toP c') = semW σs c0 := by
      rw [semW_congr' σr σs _ (fun n hn => hrel n (mentions_plain n _ hpl hn)), hsem σs hθ]
    show Both _ ((semW σs c0).bind _) _
    rw [hshape, runA_cons, hgv]
    refine Both.bind_val fun gv => ?_
    have hgs1 : guardVals (σr.set g gv) Γ = some gs := by
      rw [guardVals_congr σr _ Γ (fun p hp => set_ne _ _ _ _
        (hg ▸ (hΓ p hp).2 st'.uniq (by omega) (by omega)))]
      exact hgs
    have hrel1 : Rel σs (σr.set g gv) := hrel.set_temp _ gv (hg ▸ userName_iftarg _)
    have hΓ' : ∀ w, GammaFresh st.uniq s2.uniq (Γ ++ [(g, w)]) := fun w =>
      hg ▸ gammaFresh_snoc (hΓ.mono (Nat.le_refl _) (by omega)) _ w hu'
    show Both _ ((runb (gs ++ [(gv, true)]) σs).bind _) (runA (σr.set g gv) (_ ++ _))
    rw [runA_append]
    refine (hs1 (Γ ++ [(g, true)]) (gs ++ [(gv, true)]) σs _ hrel1 hθ
      (guardVals_snoc _ Γ gs _ true gv hgs1 (set_eq _ _ _)) ((hΓ' true).mono (Nat.le_refl _) hu2)
      (fun hh => Bool.noConfusion hh) (fun hh => Bool.noConfusion hh)).bind ?_
    intro σsb σ2 ⟨hrelb, hθb, hfrb⟩
    have hgse : guardVals σ2 (Γ ++ [(g, false)]) = some (gs ++ [(gv, false)]) := by
      rw [guardVals_frame hfrb ((hΓ' false).mono (Nat.le_refl _) hu2)]
      exact guardVals_snoc _ Γ gs _ false gv hgs1 (set_eq _ _ _)
    refine (hs2 (Γ ++ [(g, false)]) (gs ++ [(gv, false)]) σsb σ2 hrelb hθb hgse
      ((hΓ' false).mono hu1 (Nat.le_refl _)) (fun _ => elseOnly_snoc Γ _ helse')
      (fun hh => Bool.noConfusion hh)).mono ?_
    intro σse σr' ⟨hrele, hθe, hfre⟩
    refine ⟨hrele, hθe, fun n hn hfresh => ?_⟩
    rw [hfre n hn (fun k hk1 hk2 => hfresh k (by omega) (by omega)),
      hfrb n hn (fun k hk1 hk2 => hfresh k hk1 (by omega)),
      set_ne _ _ _ _ (hg ▸ hfresh st'.uniq (by omega) (by omega))]

theorem thetaOK_snoc {θ : Subst} {σ : SEnv} {v : String} {val : SExp} (h : ThetaOK θ σ) (hv : userName v = true)
    (hval : isIB val = true) (hσ : σ v = semW σ (toP val)) : ThetaOK (θ ++ [(v, val)]) σ := by
  intro p hp
  simp only [List.mem_append, List.mem_singleton] at hp
  rcases hp with hp | rfl
  · exact h p hp
  · exact ⟨hv, hval, hσ⟩

theorem thetaOK_of_snoc {θ : Subst} {σ : SEnv} {q : String × SExp} (h : ThetaOK (θ ++ [q]) σ) : ThetaOK θ σ :=
  fun p hp => h p (List.mem_append_left _ hp)

/-- the unrolled loop: induction over the values.  The body is rewritten under `θ` extended by the loop variable, which
holds the value because the assignment in front of the body has just stored it -/
theorem forLoop_sim (θ : Subst) (v : String) (b : List SStmt) (hv : userName v = true) (hvθ : ∀ p ∈ θ, p.1 ≠ v)
    (IH : ∀ val, isIB val = true → ∀ (st st' : RSt) (L : List SStmt),
      (rwSs (θ ++ [(v, val)]) b).run st = .ok (L, st') → KnownOK st →
      StepOK (θ ++ [(v, val)]) st st' L (!hasIfs b) (!hasFors b) (fun gs σs => execList gs σs b)) :
    ∀ (vals : List SExp), (∀ val ∈ vals, isIB val = true) → ∀ (st st' : RSt) (L : List SStmt),
      (forLoop (.name v) (fun v val => rwSs (θ ++ [(v, val)]) b) vals).run st = .ok (L, st') → KnownOK st →
      StepOK θ st st' L (!hasIfs b) false (fun gs σs => vals.foldlM (forStep gs v b) σs)
  | [], _, st, st', L, h, hk => by
    simp only [forLoop, SE.run_pure_ok] at h
    obtain ⟨rfl, rfl⟩ := h
    exact stepOK_skip (Ext.refl _)
  | val :: vals, hvals, st, st', L, h, hk => by
    have hval : isIB val = true := hvals val (List.mem_cons_self)
    simp only [forLoop, SE.run_bind_ok, SE.run_pure_ok] at h
    obtain ⟨v0, s0, ⟨hv0, hs0⟩, _, s1, hsc, tar, s2, hta, Lb, s3, hb, rest, s4, hrest, hL, hst⟩ := h
    subst v0 s0 L st'
    obtain ⟨he2, htar⟩ := visitAssign_inv v val hv (isIB_plain hval) s1 s2 tar hta
    have he2 : Ext st s2 := (setConstantNode_ext (userName_not_dunder hv) hsc).trans he2
    obtain ⟨he3, hg3, hs3⟩ := IH val hval s2 s3 Lb hb (he2.known hk)
    obtain ⟨he4, hg4, hs4⟩ := forLoop_sim θ v b hv hvθ IH vals
      (fun x hx => hvals x (List.mem_cons_of_mem _ hx)) s3 _ rest hrest (he3.known (he2.known hk))
    have hu2 := he2.le
    have hu3 := he3.le
    have hu4 := he4.le
    refine ⟨he2.trans (he3.trans he4), ?_, ?_⟩
    · intro x hx
      simp only [List.mem_append] at hx
      rcases hx with (hx | hx) | hx
      · exact htar.isAssign x hx
      · exact hg3 x hx
      · exact hg4 x hx
    · intro Γ gs σs σr hrel hθ hgs hΓ _ hnf
      obtain rfl : Γ = [] := hnf rfl
      cases hgs
      have hA := assign_sim v val hv (fun n hn => mentions_plain n _ (isIB_plain hval) hn) tar htar
        [] [] σs σr hrel rfl (fun p hp => by simp at hp)
      simp only [wrapF, List.map_append, runA_append] at hA ⊢
      rw [List.foldlM_cons, Option.bind_eq_bind, forStep_eq]
      cases hx : semW σs (toP val) with
      | none => rw [hx] at hA; rw [hA.of_none]; exact both_none
      | some x =>
        rw [hx] at hA
        obtain ⟨σ1, hr1, _, hrel1, hfr1⟩ := hA.of_some
        rw [hr1]
        have hθ1 : ThetaOK (θ ++ [(v, val)]) (σs.set v x) :=
          thetaOK_snoc (hθ.set v x hvθ) hv hval (by rw [set_eq, ← semW_toP_IB σs _ hval, hx])
        refine (hs3 [] [] (σs.set v x) σ1 hrel1 hθ1 rfl (fun p hp => by simp at hp) (fun _ => rfl)
          (fun _ => rfl)).bind ?_
        intro σs2 σ2 ⟨hrel2, hθ2, hfr2⟩
        refine (hs4 [] [] σs2 σ2 hrel2 (thetaOK_of_snoc hθ2) rfl (fun p hp => by simp at hp) (fun _ => rfl)
          (fun _ => rfl)).mono ?_
        intro σs' σr' ⟨hrel', hθ', hfr'⟩
        refine ⟨hrel', hθ', fun n hn hfresh => ?_⟩
        rw [hfr' n hn (fun k hk1 hk2 => hfresh k (by omega) hk2),
          hfr2 n hn (fun k hk1 hk2 => hfresh k (by omega) (by omega)), hfr1 n hn]

theorem forLoop_const (k : Const) (f : String → SExp → RM (List SStmt)) (vals : List SExp) (st st' : RSt)
    (L : List SStmt) (h : (forLoop (.const k) f vals).run st = .ok (L, st')) : vals = [] ∧ L = [] ∧ st' = st := by
  cases vals with
  | nil =>
    simp only [forLoop, SE.run_pure_ok] at h
    exact ⟨rfl, h.1, h.2⟩
  | cons val vals =>
    simp only [forLoop, SE.run_bind_ok, SE.run_throw_ok, false_and, exists_false] at h

mutual
theorem sim_stmt : ∀ (s : SStmt), okS s = true → ∀ (θ : Subst) (st st' : RSt) (L : List SStmt),
    (rwS θ s).run st = .ok (L, st') → KnownOK st → (∀ p ∈ θ, isIB p.2 = true) →
    StepOK θ st st' L (!hasIf s) (!hasFor s) (fun gs σs => exec gs σs s)
  | .assign ts e', hok, θ, st, st', L, h, hk, hib => by
    obtain ⟨t, rfl, ht, he⟩ := okS_assign_inv ts e' hok
    simp only [rwS, List.map_cons, List.map_nil] at h
    rcases substE_name θ hib t with ⟨hname, htθ⟩ | ⟨k, hconst⟩
    · rw [hname] at h
      have hpl : plainE (substE θ e') = true := substE_plain' θ hib e' he
      obtain ⟨hext, hL⟩ := visitAssign_inv t (substE θ e') ht hpl st st' L h
      exact stepOK_congr (stepOK_assign (toP e') ht htθ hpl hext hL (fun σs hθ => substE_sem θ σs hθ e' he))
        rfl rfl (fun gs σ => exec_assign gs σ t e')
    · -- a loop variable as target has become a constant: the real pass raises
      rw [hconst] at h
      simp only [visitAssign, SE.run_bind_ok, SE.run_throw_ok, false_and, exists_false] at h
  | .aug tg op' e', hok, θ, st, st', L, h, hk, hib => by
    obtain ⟨t, rfl, ht, hp⟩ := okS_aug_inv tg op' e' hok
    simp only [rwS] at h
    rcases substE_name θ hib t with ⟨hname, htθ⟩ | ⟨k, hconst⟩
    · rw [hname] at h
      have hbin : substE θ (.bin op' (.name t) e') = .bin op' (.name t) (substE θ e') := by
        rw [substE_bin, hname]
      have hpl : plainE (.bin op' (.name t) (substE θ e')) = true := by
        rw [← hbin]; exact substE_plain' θ hib _ hp
      obtain ⟨hc, hL⟩ := visitAug_inv t op' (substE θ e') hpl st st' L h
      exact stepOK_congr (stepOK_assign (toP (.bin op' (.name t) e')) ht htθ hpl hc hL
          (fun σs hθ => by rw [← hbin]; exact substE_sem θ σs hθ _ hp))
        rfl rfl (fun gs σ => exec_aug gs σ t op' e')
    · rw [hconst] at h
      simp only [visitAug, SE.run_bind_ok, SE.run_throw_ok, false_and, exists_false] at h
  | .ifs c b e, hok, θ, st, st', L, h, hk, hib => by
    simp only [okS, Bool.and_eq_true, Bool.not_eq_true'] at hok
    obtain ⟨⟨⟨⟨⟨hc, hb⟩, hnb⟩, he⟩, hfb⟩, hfe⟩ := hok
    have hpl : plainE (substE θ c) = true := substE_plain' θ hib c hc
    simp only [rwS, SE.run_bind_ok, rm_liftX_ok, rm_visitM_ok, SE.run_get_ok, SE.run_pure_ok, visitE_plain _ _ hpl,
      Except.ok.injEq] at h
    obtain ⟨b', s1, hrb, e', s2, hre, _, s3, hnote, hx, s4, hnu, _, _, ⟨rfl, rfl⟩, _, _, ⟨rfl, rfl⟩,
      gb, _, ⟨hgb, rfl⟩, ge, _, ⟨hge, rfl⟩, rfl, rfl⟩ := h
    have H1 := sim_list b hb θ st s1 b' hrb hk hib
    have H2 := sim_list e he θ s1 s2 e' hre (H1.1.known hk) hib
    rw [hnb, hfb] at H1
    rw [hfe] at H2
    have he3 := (notes_core _ _ _ _ hnote).ext
    obtain ⟨rfl, hlt, he4⟩ := nextUniq_inv _ _ _ hnu
    have hk4 : KnownOK st' := (he3.trans he4).known (H2.1.known (H1.1.known hk))
    rw [show "_iftarg" ++ hexDigits st'.uniq = iftargName st'.uniq from rfl] at hgb hge ⊢
    rw [guardBody_ok _ hk4 _ b' H1.2.1] at hgb
    rw [guardElse_ok _ hk4 _ e' H2.2.1] at hge
    cases hgb; cases hge
    exact stepOK_congr (stepOK_if (toP c) H1 H2 hpl (fun σs hθ => substE_sem θ σs hθ c hc) (he3.trans he4)
        (Nat.lt_of_le_of_lt he3.le hlt))
      rfl (by simp [hasFor, hfb, hfe]) (fun gs σ => exec_ifs gs σ c b e)
  | .for_ tg it b e, hok, θ, st, st', L, h, hk, hib => by
    obtain ⟨v, rfl, hv, hit, hb, he⟩ := okS_for_inv tg it b e hok
    simp only [rwS, SE.run_bind_ok, SE.run_pure_ok, substE_closedIter it hit θ] at h
    obtain ⟨_, s0, hnote, vals, s1, hiter, Lr, s2, hloop, Le, s3, htail, rfl, rfl⟩ := h
    obtain ⟨hstatic, he1, hvals⟩ := forIter_static it hit s0 s1 vals hiter
    have he1 : Ext st s1 := (notes_core _ _ _ _ hnote).ext.trans he1
    have hk1 : KnownOK s1 := he1.known hk
    have hloopOK : StepOK θ s1 s2 Lr (!hasIfs b) false (fun gs σs => vals.foldlM (forStep gs v b) σs) := by
      rcases substE_name θ hib v with ⟨hname, hvθ⟩ | ⟨k, hconst⟩
      · rw [hname] at hloop
        exact forLoop_sim θ v b hv hvθ
          (fun val hval s s' L' hr hks => sim_list b hb (θ ++ [(v, val)]) s s' L' hr hks (by
            intro p hp
            simp only [List.mem_append, List.mem_singleton] at hp
            rcases hp with hp | rfl
            · exact hib p hp
            · exact hval))
          vals hvals s1 s2 Lr hloop hk1
      · rw [hconst] at hloop
        obtain ⟨rfl, rfl, rfl⟩ := forLoop_const k _ vals s1 s2 Lr hloop
        exact stepOK_skip (Ext.refl _)
    have htailOK := sim_list e he θ s2 _ Le htail (hloopOK.1.known hk1) hib
    refine stepOK_congr ((stepOK_seq hloopOK htailOK).of_ext he1) ?_ ?_ ?_
    · simp [hasIf, Bool.not_or]
    · simp [hasFor]
    · intro gs σ
      rw [exec_for, hstatic]
      rfl
  | .ann _ _ _, hok, _, _, _, _, _, _, _ => by simp [okS] at hok
  | .ret _, hok, _, _, _, _, _, _, _ => by simp [okS] at hok
  | .expr _, hok, _, _, _, _, _, _, _ => by simp [okS] at hok
  | .other _, hok, _, _, _, _, _, _, _ => by simp [okS] at hok
theorem sim_list : ∀ (ss : List SStmt), okSs ss = true → ∀ (θ : Subst) (st st' : RSt) (L : List SStmt),
    (rwSs θ ss).run st = .ok (L, st') → KnownOK st → (∀ p ∈ θ, isIB p.2 = true) →
    StepOK θ st st' L (!hasIfs ss) (!hasFors ss) (fun gs σs => execList gs σs ss)
  | [], _, θ, st, st', L, h, hk, _ => by
    simp only [rwSs, SE.run_pure_ok] at h
    obtain ⟨rfl, rfl⟩ := h
    exact stepOK_skip (Ext.refl _)
  | s :: ss, hok, θ, st, st', L, h, hk, hib => by
    simp only [okSs, Bool.and_eq_true] at hok
    simp only [rwSs, SE.run_bind_ok, SE.run_pure_ok] at h
    obtain ⟨L1, s1, h1, L2, s2, h2, rfl, rfl⟩ := h
    have hs := sim_stmt s hok.1 θ st s1 L1 h1 hk hib
    exact stepOK_congr (stepOK_seq hs (sim_list ss hok.2 θ s1 _ L2 h2 (hs.1.known hk) hib))
      (by simp [hasIfs, Bool.not_or]) (by simp [hasFors, Bool.not_or]) (fun gs σ => execList_cons gs σ s ss)
end

theorem mlc_list : ∀ (ss : List SStmt), okSs ss = true → ∀ (θ : Subst) (st st' : RSt) (L : List SStmt),
    (rwSs θ ss).run st = .ok (L, st') → KnownOK st → (∀ p ∈ θ, isIB p.2 = true) →
    StepC θ st st' L (!hasIfs ss) (!hasFors ss) (fun gs σs => execList gs σs ss) :=
  fun ss hok θ st st' L h hk hib => (sim_list ss hok θ st st' L h hk hib).stepC

end QV.A2A
