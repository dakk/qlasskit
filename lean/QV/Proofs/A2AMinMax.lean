import QV.Proofs.A2ASumAllAny
/-! `max(a0, …, an)` becomes `a0 if (a0 > a1 and … and a0 > an) else max(a1, …, an)`; `min` the same with `<=`.  The chain
over expressions whose values are `Qint[w]` numbers evaluates to python's `max` / `min` of the numbers - also with ties
(`a0 > a1` is false when the two are equal, the rest is taken, and the rest then holds the maximum). -/
namespace QV.A2A
open QV.Front QV.Sem

/-- python's `max(v0, …, vn)` on naturals: the fold of the binary maximum from the first element (`0` for no element,
where python raises) -/
def pyMax : List Nat → Nat
  | [] => 0
  | v :: vs => vs.foldl max v

def pyMin : List Nat → Nat
  | [] => 0
  | v :: vs => vs.foldl min v

/-- `x0 if (x0 op x1 and … and x0 op xn) else (… xn)`: what `minmaxChain` returns on a non-empty list -/
def minmaxE (op : String) : SExp → List SExp → SExp
  | x, [] => x
  | x, y :: ys => .ite (.boolop true (cmpAll op x (y :: ys))) x (minmaxE op y ys)

theorem minmaxChain_cons (op : String) : ∀ (x : SExp) (xs : List SExp), minmaxChain op (x :: xs) = .ok (minmaxE op x xs)
  | x, [] => by simp [minmaxChain, minmaxE, pure, Except.pure]
  | x, y :: ys => by
    simp [minmaxChain, minmaxE, minmaxChain_cons op y ys, bind, Except.bind, pure, Except.pure]

def minmaxP (op : String) : PExp → List PExp → PExp
  | x, [] => x
  | x, y :: ys => .ite (.boolop true ((y :: ys).map fun z => .cmp op x z)) x (minmaxP op y ys)

theorem toPs_cmpAll (op : String) (x : SExp) : ∀ ys : List SExp,
    toPs (cmpAll op x ys) = (toPs ys).map fun z => .cmp op (toP x) z
  | [] => by simp [cmpAll, toPs]
  | y :: ys => by simp [cmpAll, toPs, toP, toPs_cmpAll op x ys]

theorem toP_minmaxE (op : String) : ∀ (x : SExp) (xs : List SExp),
    toP (minmaxE op x xs) = minmaxP op (toP x) (toPs xs)
  | x, [] => by simp [minmaxE, minmaxP, toPs]
  | x, y :: ys => by
    have h := toPs_cmpAll op x (y :: ys)
    simp only [toPs] at h
    simp only [minmaxE, minmaxP, toP, toPs, h, toP_minmaxE op y ys]

theorem visitCall_max1 (st : RSt) (a : SExp) (xs : List SExp) (h : unrollArg st true a = .ok xs) :
    visitCall st "max" [a] = minmaxChain "Gt" xs := by
  simp [visitCall, h, bind, Except.bind]

theorem visitCall_min1 (st : RSt) (a : SExp) (xs : List SExp) (h : unrollArg st true a = .ok xs) :
    visitCall st "min" [a] = minmaxChain "LtE" xs := by
  simp [visitCall, h, bind, Except.bind]

theorem visitE_builtins (st : RSt) (a a' : SExp) (xs : List SExp) (hv : visitE st a = .ok a')
    (hun : unrollArg st true a' = .ok xs) :
    visitE st (.call "len" [a]) = .ok (.const (.int xs.length)) ∧
    visitE st (.call "sum" [a]) = sumChain xs ∧
    visitE st (.call "all" [a]) = .ok (.boolop true xs) ∧
    visitE st (.call "any" [a]) = .ok (.boolop false xs) ∧
    visitE st (.call "max" [a]) = minmaxChain "Gt" xs ∧
    visitE st (.call "min" [a]) = minmaxChain "LtE" xs := by
  simp only [visitE_call1 st _ a a' hv, visitCall_len st _ _ hun, visitCall_sum st _ _ hun, visitCall_all st _ _ hun,
    visitCall_any st _ _ hun, visitCall_max1 st _ _ hun, visitCall_min1 st _ _ hun, and_self]

theorem visitCall_maxk (st : RSt) (x y : SExp) (zs : List SExp) :
    visitCall st "max" (x :: y :: zs) = minmaxChain "Gt" (x :: y :: zs) := by
  simp [visitCall, bind, Except.bind, pure, Except.pure]

theorem visitCall_mink (st : RSt) (x y : SExp) (zs : List SExp) :
    visitCall st "min" (x :: y :: zs) = minmaxChain "LtE" (x :: y :: zs) := by
  simp [visitCall, bind, Except.bind, pure, Except.pure]

theorem visitE_callk (st : RSt) (fn : String) (args args' : List SExp) (h : visitEs st args = .ok args') :
    visitE st (.call fn args) = visitCall st fn args' := by
  simp [visitE, h, bind, Except.bind]

theorem visitEs_two (st : RSt) (a b a' b' : SExp) (ha : visitE st a = .ok a') (hb : visitE st b = .ok b') :
    visitEs st [a, b] = .ok [a', b'] := by
  simp [visitEs, ha, hb, bind, Except.bind, pure, Except.pure]

theorem all_rel_foldl (R : Nat → Nat → Bool) (f : Nat → Nat → Nat)
    (h1 : ∀ v a b, R v (f a b) = (R v a && R v b)) (v : Nat) :
    ∀ (ys : List Nat) (y : Nat), (y :: ys).all (R v) = R v (ys.foldl f y)
  | [], y => by simp
  | z :: zs, y => by
    have ih := all_rel_foldl R f h1 v zs (f y z)
    simp only [List.all_cons, List.foldl_cons] at ih ⊢
    rw [← ih, h1, Bool.and_assoc]

theorem foldl_assoc_head (f : Nat → Nat → Nat) (ha : ∀ a b c, f (f a b) c = f a (f b c)) (v : Nat) :
    ∀ (ys : List Nat) (y : Nat), ys.foldl f (f v y) = f v (ys.foldl f y)
  | [], y => rfl
  | z :: zs, y => by
    simp only [List.foldl_cons]
    rw [ha, foldl_assoc_head f ha v zs (f y z)]

theorem cmp_bools (σ : SEnv) (w : Nat) (op : String) (R : Nat → Nat → Bool)
    (hop : ∀ a b, cmpNat op a b = some (R a b)) (e : PExp) (v : Nat) (he : semW σ e = some (.int w v)) :
    ∀ (es : List PExp) (vs : List Nat), List.Forall₂ (fun e v => semW σ e = some (.int w v)) es vs →
      List.Forall₂ (fun e b => semW σ e = some (.bool b)) (es.map fun z => .cmp op e z) (vs.map (R v))
  | [], vs, h => by cases h; exact .nil
  | y :: ys, vs, h => by
    cases h with
    | cons hy hys =>
      simp only [List.map_cons]
      exact .cons (by simp [semW, he, hy, hop]) (cmp_bools σ w op R hop e v he ys _ hys)

theorem minmaxP_fold (σ : SEnv) (w : Nat) (op : String) (R : Nat → Nat → Bool) (f : Nat → Nat → Nat)
    (hop : ∀ a b, cmpNat op a b = some (R a b)) (h1 : ∀ v a b, R v (f a b) = (R v a && R v b))
    (h2 : ∀ v m, (if R v m = true then v else m) = f v m) (ha : ∀ a b c, f (f a b) c = f a (f b c)) :
    ∀ (es : List PExp) (vs : List Nat) (e : PExp) (v : Nat), semW σ e = some (.int w v) →
      List.Forall₂ (fun e v => semW σ e = some (.int w v)) es vs →
      semW σ (minmaxP op e es) = some (.int w (vs.foldl f v))
  | [], vs, e, v, he, h => by
    cases h
    simpa [minmaxP] using he
  | y :: ys, vs, e, v, he, h => by
    cases h with
    | cons hy hys =>
      rename_i vy vys
      have ih := minmaxP_fold σ w op R f hop h1 h2 ha ys vys y vy hy hys
      have hb := cmp_bools σ w op R hop e v he (y :: ys) (vy :: vys) (.cons hy hys)
      simp only [List.map_cons] at hb
      have htest := boolop_value σ true _ _ _ _ hb
      simp only [if_true, ← List.map_cons, List.all_map] at htest
      have hall : ((vy :: vys).all (id ∘ R v)) = R v (vys.foldl f vy) := all_rel_foldl R f h1 v vys vy
      rw [hall] at htest
      simp only [List.map_cons] at htest
      simp only [minmaxP, List.map_cons, semW_ite, htest, he, ih, selW, Nat.max_self, List.foldl_cons]
      rw [h2, foldl_assoc_head f ha]

theorem maxP_value (σ : SEnv) (w : Nat) (e : PExp) (es : List PExp) (v : Nat) (vs : List Nat)
    (h : List.Forall₂ (fun e v => semW σ e = some (.int w v)) (e :: es) (v :: vs)) :
    semW σ (minmaxP "Gt" e es) = some (.int w (pyMax (v :: vs))) := by
  cases h with
  | cons he hes =>
    exact minmaxP_fold σ w "Gt" (fun a b => decide (a > b)) max (fun a b => rfl)
      (fun v a b => by
        rw [Bool.eq_iff_iff]; simp only [Bool.and_eq_true, decide_eq_true_eq]; omega)
      (fun v m => by
        simp only [decide_eq_true_eq]; split <;> omega)
      (fun a b c => Nat.max_assoc a b c) es vs e v he hes

theorem minP_value (σ : SEnv) (w : Nat) (e : PExp) (es : List PExp) (v : Nat) (vs : List Nat)
    (h : List.Forall₂ (fun e v => semW σ e = some (.int w v)) (e :: es) (v :: vs)) :
    semW σ (minmaxP "LtE" e es) = some (.int w (pyMin (v :: vs))) := by
  cases h with
  | cons he hes =>
    exact minmaxP_fold σ w "LtE" (fun a b => decide (a ≤ b)) min (fun a b => rfl)
      (fun v a b => by
        rw [Bool.eq_iff_iff]; simp only [Bool.and_eq_true, decide_eq_true_eq]; omega)
      (fun v m => by
        simp only [decide_eq_true_eq]; split <;> omega)
      (fun a b c => Nat.min_assoc a b c) es vs e v he hes

/-- `ord(a)` / `chr(a)` are their (visited) argument: a `Qchar` is its code point -/
theorem visitCall_ord (st : RSt) (a : SExp) : visitCall st "ord" [a] = .ok a := by
  simp [visitCall, pure, Except.pure]

theorem visitCall_chr (st : RSt) (a : SExp) : visitCall st "chr" [a] = .ok a := by
  simp [visitCall, pure, Except.pure]

end QV.A2A
