import QV.Proofs.FrontStmtBodyT
/-! A program of the guarded bool / Qint fragment is one of the widened fragment with the same meaning; no excluded
site is reached and no assigned `Qint` has the width 1 (`semW_width`), which is `nameOKBody` there (`semBodyT_toT`). -/
namespace QV.Sem
open QV.Front

mutual
theorem inFragT_of_inFrag : ∀ e : PExp, inFrag e = true → inFragT e = true
  | .name _, _ => rfl
  | .cbool _, _ => rfl
  | .cint _, _ => rfl
  | .not e, h => by simpa only [inFragT] using inFragT_of_inFrag e (by simpa only [inFrag] using h)
  | .inv e, h => by simpa only [inFragT] using inFragT_of_inFrag e (by simpa only [inFrag] using h)
  | .boolop _ vs, h => by simpa only [inFragT] using inFragTList_of_inFragList vs (by simpa only [inFrag] using h)
  | .ite c a b, h => by
    simp only [inFrag, Bool.and_eq_true] at h
    simp only [inFragT, inFragT_of_inFrag c h.1.1, inFragT_of_inFrag a h.1.2, inFragT_of_inFrag b h.2, Bool.and_self]
  | .cmp op l r, h => by
    simp only [inFrag, Bool.and_eq_true] at h
    simp only [inFragT, h.1.1, inFragT_of_inFrag l h.1.2, inFragT_of_inFrag r h.2, Bool.and_self]
  | .bin op l r, h => by
    simp only [inFrag, Bool.and_eq_true] at h
    simp only [inFragT, h.1.1, inFragT_of_inFrag l h.1.2, inFragT_of_inFrag r h.2, Bool.and_self]
  | .cchar _, h => by simp [inFrag] at h
  | .subs _ _, h => by simp [inFrag] at h
  | .tuple _, h => by simp [inFrag] at h
  | .unsupported _, h => by simp [inFrag] at h
theorem inFragTList_of_inFragList : ∀ es : List PExp, inFragList es = true → inFragTList es = true
  | [], _ => rfl
  | e :: es, h => by
    simp only [inFragList, Bool.and_eq_true] at h
    simp only [inFragTList, inFragT_of_inFrag e h.1, inFragTList_of_inFragList es h.2, Bool.and_self]
end

theorem stmtOKTg_of_stmtOKg (st : Stmt) (h : stmtOKg st = true) : stmtOKTg st = true := by
  cases st with
  | assign t e =>
    simp only [stmtOKg, Bool.and_eq_true] at h
    simp only [stmtOKTg, h.1.1, inFragT_of_inFrag e h.1.2, h.2, Bool.and_self]
  | ret e =>
    simp only [stmtOKg, Bool.and_eq_true] at h
    simp only [stmtOKTg, inFragT_of_inFrag e h.1, h.2, Bool.and_self]
  | expr _ => rfl
  | unsupported _ => exact h

theorem nameOK_of_argTyOK {ty : Ty} (h : argTyOK ty = true) : NameOK ty := by
  cases ty with
  | bool => exact .inl rfl
  | qint w => exact .inr (by simpa [argTyOK, Ty.bits] using h)
  | qchar => cases h
  | tuple _ => cases h

theorem toT_set (σ : SEnv) (t : String) (sv : SVal) : (σ.set t sv).toT = σ.toT.set t sv.toT := by
  funext n
  simp only [SEnv.toT, SEnv.set, TEnv.set]
  split <;> rfl

theorem argsEnvT_toT (args : List (String × Ty)) (ρ : QV.Env) (hargs : ∀ p ∈ args, argTyOK p.2 = true) :
    argsEnvT args ρ = (argsEnv args ρ).toT := by
  funext n
  simp only [argsEnvT, argsEnv, SEnv.toT]
  cases hf : args.find? (·.1 == n) with
  | none => rfl
  | some p =>
    obtain ⟨m, ty⟩ := p
    have := hargs _ (List.mem_of_find?_eq_some hf)
    cases ty with
    | bool => rfl
    | qint w => rfl
    | qchar => cases this
    | tuple _ => cases this

theorem widthOK_set {σ : SEnv} (h : WidthOK σ) (t : String) {sv : SVal} (hv : ∀ w x, sv = .int w x → w ≠ 1) :
    WidthOK (σ.set t sv) := by
  intro n w x hσ
  by_cases hn : n = t
  · simp only [SEnv.set, hn, beq_self_eq_true, if_true, Option.some.injEq] at hσ
    exact hv w x hσ
  · simp only [SEnv.set, beq_iff_eq, hn, if_false] at hσ
    exact h n w x hσ

theorem widthOK_args (ρ : QV.Env) (args : List (String × Ty)) (hargs : ∀ p ∈ args, argTyOK p.2 = true) :
    WidthOK (argsEnv args ρ) := by
  intro n w x h
  simp only [argsEnv] at h
  cases hf : args.find? (·.1 == n) with
  | none => simp [hf] at h
  | some p =>
    obtain ⟨m, ty⟩ := p
    have hty := hargs _ (List.mem_of_find?_eq_some hf)
    simp only [hf] at h
    cases ty with
    | bool => simp [decodeArg] at h
    | qint w' =>
      simp only [decodeArg, Option.some.injEq, SVal.int.injEq] at h
      simp only [argTyOK, bne_iff_ne, ne_eq] at hty
      omega
    | qchar => simp [argTyOK] at hty
    | tuple _ => simp [argTyOK] at hty

theorem semBodyT_toT (ret : Ty) (hret : argTyOK ret = true) : ∀ (ss : List Stmt) (σ : SEnv), WidthOK σ →
    ss.all stmtOKg = true →
    semBodyT ret σ.toT ss = (semBody ret σ ss).map SVal.toT ∧ wellBody ret σ.toT ss = true ∧ nameOKBody σ.toT ss
  | [], _, _, _ => ⟨rfl, rfl, trivial⟩
  | .assign t e :: ss, σ, hσ, hok => by
    simp only [List.all_cons, stmtOKg, Bool.and_eq_true] at hok
    obtain ⟨h1, h2⟩ := semT_toT σ e hok.1.1.2
    simp only [semBodyT, semBody, wellBody, nameOKBody, h1, h2, Bool.true_and]
    cases hv : semW σ e with
    | none => exact ⟨rfl, rfl, fun v hv' => by cases hv'⟩
    | some sv =>
      have hw : ∀ w x, sv = .int w x → w ≠ 1 := fun w x hsv => semW_width σ hσ e w x (hsv ▸ hv)
      obtain ⟨i1, i2, i3⟩ := semBodyT_toT ret hret ss (σ.set t sv) (widthOK_set hσ t hw) hok.2
      rw [toT_set] at i1 i2 i3
      refine ⟨i1, i2, fun v hv' => ?_⟩
      cases hv'
      refine ⟨?_, i3⟩
      cases sv with
      | bool _ => exact .inl rfl
      | int w x => exact .inr (by simpa [SVal.toT, TVal.ty, Ty.bits] using hw w x rfl)
  | .ret e :: ss, σ, _, hok => by
    simp only [List.all_cons, stmtOKg, Bool.and_eq_true] at hok
    obtain ⟨h1, h2⟩ := semT_toT σ e hok.1.1
    simp only [semBodyT, semBody, wellBody, nameOKBody, h1, h2, Bool.true_and, and_true]
    cases semW σ e with
    | none => exact ⟨rfl, rfl⟩
    | some sv =>
      refine ⟨coerceRetT_of_toT ret sv, ?_⟩
      cases sv <;> cases ret <;> first | rfl | cases hret
  | .expr _ :: ss, σ, hσ, hok => by
    simp only [List.all_cons, Bool.and_eq_true] at hok
    simpa only [semBodyT, semBody, wellBody, nameOKBody] using semBodyT_toT ret hret ss σ hσ hok.2
  | .unsupported _ :: _, _, _, hok => by simp [stmtOKg] at hok

/-- the statement of `C01.C01_body_guarded`, from the widened one -/
theorem translate_sound_g (p : Prog) (consts : List (Bool × Bool)) (hp : guardedLine p = true)
    (defs : List (String × BExp)) (events : List String)
    (h : translate Quirks.none consts p = .ok (defs, events)) (ρ : QV.Env) :
    ∃ sv, semProg p ρ = some sv ∧ (p.ret.names "_ret").map (runDefs defs ρ) = sv.bits := by
  simp only [guardedLine, Bool.and_eq_true, List.all_eq_true, bne_iff_ne, ne_eq] at hp
  obtain ⟨⟨hargs, hret⟩, hbody⟩ := hp
  unfold translate at h
  simp only at h
  split at h
  · rename_i defs' st hrun
    simp only [Except.ok.injEq, Prod.mk.injEq] at h
    obtain ⟨rfl, _⟩ := h
    obtain ⟨hsem, hwell, hnok⟩ := semBodyT_toT p.ret hret p.body (argsEnv p.args ρ)
      (widthOK_args ρ p.args fun a ha => (hargs a ha).1.1) (List.all_eq_true.mpr hbody)
    rw [← argsEnvT_toT p.args ρ fun a ha => (hargs a ha).1.1] at hsem hwell hnok
    obtain ⟨tv, htv, hbits⟩ := body_mainT p.ret p.body ρ _ _
      (envInvT_args ρ p.args fun a ha => ⟨nameOK_of_argTyOK (hargs a ha).1.1, (hargs a ha).1.2⟩)
      (List.all_eq_true.mpr fun st hst => stmtOKTg_of_stmtOKg st (hbody st hst)) hwell hnok
      (initEnv_no_ret p.args fun a ha => (hargs a ha).2) _ _ _ hrun
    rw [hsem] at htv
    obtain ⟨sv, hsv, rfl⟩ := Option.map_eq_some_iff.mp htv
    exact ⟨sv, hsv, by rw [hbits, toT_bits]⟩
  · cases h

theorem stmtOKg_of_stmtOK (st : Stmt) (h : stmtOK st = true) : stmtOKg st = true := by
  cases st with
  | assign t e =>
    simp only [stmtOK, Bool.and_eq_true, Bool.not_eq_true'] at h
    simp only [stmtOKg, Bool.and_eq_true]
    exact ⟨h.1, guardedRhs_of_not_mentions t e h.2⟩
  | ret e => exact h
  | expr e => rfl
  | unsupported w => exact h

theorem guardedLine_of_straightLine (p : Prog) (h : straightLine p = true) : guardedLine p = true := by
  simp only [straightLine, guardedLine, Bool.and_eq_true, List.all_eq_true] at h ⊢
  exact ⟨h.1, fun st hst => stmtOKg_of_stmtOK st (h.2 st hst)⟩

/-- a straight-line program is a guarded one without self-reads -/
theorem translate_sound (p : Prog) (consts : List (Bool × Bool)) (hp : straightLine p = true)
    (defs : List (String × BExp)) (events : List String)
    (h : translate Quirks.none consts p = .ok (defs, events)) (ρ : QV.Env) :
    ∃ sv, semProg p ρ = some sv ∧ (p.ret.names "_ret").map (runDefs defs ρ) = sv.bits :=
  translate_sound_g p consts (guardedLine_of_straightLine p hp) defs events h ρ

/-- the environment `translate` starts from, for `C01_expr`: a name is read soundly because it is in the widened
semantics, where its value is the same -/
theorem envOK_args (ρ : QV.Env) (args : List (String × Ty)) (hargs : ∀ p ∈ args, argTyOK p.2 = true) :
    EnvOK ρ (initEnv args) (argsEnv args ρ) := by
  intro n s t v s' h
  have henv : EnvOKN ρ (initEnv args) (argsEnv args ρ).toT := by
    rw [← argsEnvT_toT args ρ hargs]
    intro m b hf
    obtain ⟨ty, hfa, hmem, rfl⟩ := initEnv_find hf
    exact ⟨rfl, nameOK_of_argTyOK (hargs _ hmem), by simp [argsEnvT, hfa]⟩
  obtain ⟨tv, hs, hd⟩ := soundT_name ρ _ _ henv n s t v s' rfl h
  obtain ⟨sv, hw, rfl⟩ := Option.map_eq_some_iff.mp
    (show (semW (argsEnv args ρ) (.name n)).map SVal.toT = some tv from hs)
  exact ⟨sv, hw, den_of_denT hd⟩

end QV.Sem
