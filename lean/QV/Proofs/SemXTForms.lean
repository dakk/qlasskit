import QV.Model.SemXT
namespace QV.Sem
open QV.Front

def shiftXT (op : String) (r : PExp) : XT → Option XT
  | .leaf ⟨.int wl x, kx⟩ =>
    match r with
    | .cint k =>
      if k < 0 then none
      else if op == "lshift" then some (.leaf (mkInt wl (x * (2 : Int) ^ k.toNat) kx))
      else some (.leaf (mkOpen wl (x.fdiv ((2 : Int) ^ k.toNat)) kx))
    | _ => none
  | _ => none

def arithXT (op : String) : XT → XT → Option XT
  | .leaf ⟨.bool x, kx⟩, .leaf ⟨.bool y, ky⟩ => (boolBinX op x y (kmin kx ky)).map .leaf
  | .leaf ⟨.int wl x, kx⟩, .leaf ⟨.int wr y, ky⟩ => (intBinX op wl wr x y (kmin kx ky)).map .leaf
  | _, _ => none

def boolopXT (isAnd : Bool) (xs : List XT) : Option XT :=
  (leavesOf xs).bind fun ls => (boolFoldX isAnd ls).map fun (r, kk) => .leaf (mkBool r kk)

theorem boolBinX_shift {op : String} (h : (op == "lshift" || op == "rshift") = true) (x y : Bool) (k : Option Nat) :
    boolBinX op x y k = none := by
  simp only [Bool.or_eq_true, beq_iff_eq] at h
  rcases h with rfl | rfl <;> rfl

theorem semXT_subs (σ : XTEnv) (n : String) (p : List Int) : semXT σ (.subs n p) = (σ n).bind (·.index p) := by
  simp only [semXT]; cases σ n <;> rfl

theorem semXT_not (σ : XTEnv) (e : PExp) : semXT σ (.not e) = (semXT σ e).bind notXT := by
  simp only [semXT]; cases semXT σ e <;> rfl

theorem semXT_inv (σ : XTEnv) (e : PExp) : semXT σ (.inv e) = (semXT σ e).bind invXT := by
  simp only [semXT]; cases semXT σ e <;> rfl

theorem semXT_boolop (σ : XTEnv) (isAnd : Bool) (vs : List PExp) :
    semXT σ (.boolop isAnd vs) = (semXTList σ vs).bind (boolopXT isAnd) := by
  simp only [semXT]
  cases semXTList σ vs with
  | none => rfl
  | some xs => simp only [Option.bind_some, boolopXT]; cases leavesOf xs <;> rfl

theorem semXT_ite (σ : XTEnv) (c a b : PExp) :
    semXT σ (.ite c a b)
      = (semXT σ c).bind fun cv => (semXT σ a).bind fun x => (semXT σ b).bind fun y => iteXT cv x y := by
  simp only [semXT]; cases semXT σ c <;> cases semXT σ a <;> cases semXT σ b <;> rfl

theorem semXT_cmp (σ : XTEnv) (op : String) (l r : PExp) :
    semXT σ (.cmp op l r) = (semXT σ l).bind fun x => (semXT σ r).bind fun y => cmpXT op x y := by
  simp only [semXT]; cases semXT σ l <;> cases semXT σ r <;> rfl

theorem semXT_bin (σ : XTEnv) (op : String) (l r : PExp) :
    semXT σ (.bin op l r) = (semXT σ l).bind fun x =>
      if op == "lshift" || op == "rshift" then shiftXT op r x else (semXT σ r).bind fun y => arithXT op x y := by
  simp only [semXT]
  cases semXT σ l with
  | none => rfl
  | some x =>
    by_cases h : (op == "lshift" || op == "rshift") = true
    · rcases x with ⟨⟨_ | _, _⟩⟩ | _ | _ <;> simp only [Option.bind_some, if_pos h]
      · rcases semXT σ r with _ | ⟨⟨_ | _, _⟩⟩ | _ | _ <;>
          first | rfl | exact congrArg (Option.map XT.leaf) (boolBinX_shift h _ _ _)
      · cases r <;> rfl
      · rfl
      · rfl
    · rcases x with ⟨⟨_ | _, _⟩⟩ | _ | _ <;> simp only [Option.bind_some, if_neg h] <;>
        rcases semXT σ r with _ | ⟨⟨_ | _, _⟩⟩ | _ | _ <;> rfl

theorem semXT_tuple (σ : XTEnv) (es : List PExp) : semXT σ (.tuple es) = (semXTList σ es).map .tuple := by
  simp only [semXT]; cases semXTList σ es <;> rfl

theorem semXTList_cons (σ : XTEnv) (e : PExp) (es : List PExp) :
    semXTList σ (e :: es) = (semXT σ e).bind fun x => (semXTList σ es).map (x :: ·) := by
  simp only [semXTList]; cases semXT σ e <;> cases semXTList σ es <;> rfl

def semXL (σ : XEnv) (e : PExp) : Option XT := (sem σ e).map .leaf
def semXLList (σ : XEnv) (es : List PExp) : Option (List XT) := (semList σ es).map (List.map .leaf)

theorem semXL_not (σ : XEnv) (e : PExp) : semXL σ (.not e) = (semXL σ e).bind notXT := by
  simp only [semXL, sem]; rcases sem σ e with _ | ⟨⟨_ | _, _⟩⟩ <;> rfl

theorem semXL_inv (σ : XEnv) (e : PExp) : semXL σ (.inv e) = (semXL σ e).bind invXT := by
  simp only [semXL, sem]; rcases sem σ e with _ | ⟨⟨_ | _, _⟩⟩ <;> rfl

theorem semXL_ite (σ : XEnv) (c a b : PExp) :
    semXL σ (.ite c a b) = (semXL σ c).bind fun cv => (semXL σ a).bind fun x => (semXL σ b).bind fun y => iteXT cv x y := by
  simp only [semXL, sem]
  rcases sem σ c with _ | ⟨⟨_ | _, _⟩⟩ <;> rcases sem σ a with _ | ⟨⟨_ | _, _⟩⟩ <;>
    rcases sem σ b with _ | ⟨⟨_ | _, _⟩⟩ <;> rfl

theorem semXL_cmp (σ : XEnv) (op : String) (l r : PExp) :
    semXL σ (.cmp op l r) = (semXL σ l).bind fun x => (semXL σ r).bind fun y => cmpXT op x y := by
  simp only [semXL, sem]
  rcases sem σ l with _ | ⟨⟨_ | _, _⟩⟩ <;> rcases sem σ r with _ | ⟨⟨_ | _, _⟩⟩ <;>
    first | rfl | exact Option.map_map _ _ _

theorem leavesOf_leaf : ∀ xs : List XVal, leavesOf (xs.map .leaf) = some xs
  | [] => rfl
  | x :: xs => by simp only [List.map_cons, leavesOf, leavesOf_leaf xs, Option.map_some]

theorem semXL_boolop (σ : XEnv) (isAnd : Bool) (vs : List PExp) :
    semXL σ (.boolop isAnd vs) = (semXLList σ vs).bind (boolopXT isAnd) := by
  simp only [semXL, semXLList, sem]
  cases semList σ vs with
  | none => rfl
  | some xs =>
    simp only [Option.map_some, Option.bind_some, boolopXT, leavesOf_leaf, Option.map_map]
    rfl

theorem semXL_bin (σ : XEnv) (op : String) (l r : PExp) :
    semXL σ (.bin op l r) = (semXL σ l).bind fun x =>
      if op == "lshift" || op == "rshift" then shiftXT op r x else (semXL σ r).bind fun y => arithXT op x y := by
  simp only [semXL, sem]
  rcases sem σ l with _ | ⟨⟨_ | _, _⟩⟩
  · rfl
  · by_cases h : (op == "lshift" || op == "rshift") = true
    · simp only [Option.map_some, Option.bind_some, if_pos h]
      rcases sem σ r with _ | ⟨⟨_ | _, _⟩⟩ <;>
        first | rfl | exact congrArg (Option.map XT.leaf) (boolBinX_shift h _ _ _)
    · simp only [Option.map_some, Option.bind_some, if_neg h]
      rcases sem σ r with _ | ⟨⟨_ | _, _⟩⟩ <;> rfl
  · by_cases h : (op == "lshift" || op == "rshift") = true
    · simp only [Option.map_some, Option.bind_some, if_pos h]
      cases r <;> try rfl
      simp only [shiftXT]
      split
      · rfl
      · split <;> rfl
    · simp only [Option.map_some, Option.bind_some, if_neg h]
      rcases sem σ r with _ | ⟨⟨_ | _, _⟩⟩ <;> rfl

theorem semXLList_cons (σ : XEnv) (e : PExp) (es : List PExp) :
    semXLList σ (e :: es) = (semXL σ e).bind fun x => (semXLList σ es).map (x :: ·) := by
  simp only [semXLList, semXL, semList]; cases sem σ e <;> cases semList σ es <;> rfl

theorem semBodyXT_assign (ret : Ty) (σ : XTEnv) (t : String) (e : PExp) (ss : List Stmt) :
    semBodyXT ret σ (.assign t e :: ss) = (semXT σ e).bind fun v => semBodyXT ret (σ.set t v) ss := by
  simp only [semBodyXT]; cases semXT σ e <;> rfl

theorem semBodyXT_ret (ret : Ty) (σ : XTEnv) (e : PExp) (ss : List Stmt) :
    semBodyXT ret σ (.ret e :: ss) = (semXT σ e).bind (coerceRetXT ret) := by
  simp only [semBodyXT]; cases semXT σ e <;> rfl

end QV.Sem
