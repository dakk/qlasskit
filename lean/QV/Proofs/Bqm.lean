import QV.Model.Bqm
import QV.Proofs.BExp
namespace QV.Bqm

/-! ### 0/1 arithmetic of the documented polynomials -/

theorem b2i_not (a : Bool) : 1 - b2i a = b2i (!a) := by cases a <;> rfl
theorem b2i_and (a b : Bool) : b2i a * b2i b = b2i (a && b) := by cases a <;> cases b <;> rfl
theorem b2i_or (a b : Bool) : b2i a + b2i b - b2i a * b2i b = b2i (a || b) := by
  cases a <;> cases b <;> rfl
theorem b2i_xor (a b : Bool) : b2i a + b2i b - 2 * (b2i a * b2i b) = b2i (Bool.xor a b) := by
  cases a <;> cases b <;> rfl
theorem b2i_nonneg (a : Bool) : 0 ≤ b2i a := by cases a <;> decide
theorem b2i_eq_zero (a : Bool) : b2i a = 0 ↔ a = false := by cases a <;> decide

theorem visitList_cons_ok {vars : List String} {e : BExp} {es : List BExp} {ps : List PExp} :
    visitList vars (e :: es) = .ok ps ↔
      ∃ a as, visit vars e = .ok a ∧ visitList vars es = .ok as ∧ ps = a :: as := by
  simp only [visitList]
  cases visit vars e <;> cases visitList vars es <;> simp [eq_comm]

theorem visitAnd_two_ok {vars : List String} {e e' : BExp} {p : PExp} :
    visitAnd vars [e, e'] = .ok p ↔ ∃ a b, visit vars e = .ok a ∧ visit vars e' = .ok b ∧ p = .and a b := by
  simp only [visitAnd]
  cases visit vars e <;> cases visit vars e' <;> simp [eq_comm]

theorem visitAnd_more_ok {vars : List String} {e e' e'' : BExp} {es : List BExp} {p : PExp} :
    visitAnd vars (e :: e' :: e'' :: es) = .ok p ↔
      ∃ a b, visit vars e = .ok a ∧ visitAnd vars (e' :: e'' :: es) = .ok b ∧ p = .and a b := by
  rw [visitAnd]
  cases visit vars e <;> cases visitAnd vars (e' :: e'' :: es) <;> simp [eq_comm]

theorem visitXor_two_ok {vars : List String} {e e' : BExp} {p : PExp} :
    visitXor vars [e, e'] = .ok p ↔ ∃ a b, visit vars e = .ok a ∧ visit vars e' = .ok b ∧ p = .xor a b := by
  simp only [visitXor]
  cases visit vars e <;> cases visit vars e' <;> simp [eq_comm]

theorem visitXor_more_ok {vars : List String} {e e' e'' : BExp} {es : List BExp} {p : PExp} :
    visitXor vars (e :: e' :: e'' :: es) = .ok p ↔
      ∃ a b, visit vars e = .ok a ∧ visitXor vars (e' :: e'' :: es) = .ok b ∧ p = .xor a b := by
  rw [visitXor]
  cases visit vars e <;> cases visitXor vars (e' :: e'' :: es) <;> simp [eq_comm]

/-! ### `visit` computes the indicator polynomial, over the symbols of the expression -/

mutual
theorem visit_spec (vars : List String) : ∀ (e : BExp) (p : PExp), visit vars e = .ok p →
    (∀ σ, p.eval σ = b2i (e.eval σ)) ∧ p.vars = e.syms ∧ ∀ v ∈ p.vars, v ∈ vars
  | .sym n, p, h => by
      simp only [visit] at h
      split at h
      · next hc =>
        cases h
        exact ⟨fun _ => rfl, rfl, fun v hv => List.mem_singleton.mp hv ▸ List.contains_iff_mem.mp hc⟩
      · cases h
  | .tt, p, h => by cases h; exact ⟨fun _ => rfl, rfl, nofun⟩
  | .ff, p, h => by cases h; exact ⟨fun _ => rfl, rfl, nofun⟩
  | .not e, p, h => by
      simp only [visit] at h
      split at h
      · next a ha =>
        cases h
        obtain ⟨h1, h2, h3⟩ := visit_spec vars e a ha
        exact ⟨fun σ => by simp only [PExp.eval, BExp.eval, h1, b2i_not], h2, h3⟩
      · cases h
  | .and l, p, h => visitAnd_spec vars l p h
  | .xor l, p, h => visitXor_spec vars l p h
  | .or l, p, h => by
      simp only [visit] at h
      split at h
      · next a b hl =>
        cases h
        obtain ⟨h1, h2, h3⟩ := visitList_spec vars l [a, b] hl
        -- `h1` equates a two-element list with `l.map …`: `l` has exactly two members, other shapes fail on length
        match l, h1 (fun _ => false) with
        | [e1, e2], _ =>
          refine ⟨fun σ => ?_, by simpa [PExp.vars, BExp.syms] using h2,
            by simpa [PExp.vars] using h3⟩
          have := h1 σ
          simp only [List.map, List.cons.injEq, and_true] at this
          simp only [PExp.eval, BExp.eval, evalOr, this.1, this.2, Bool.or_false, b2i_or]
        | [], hm => simp at hm
        | [_], hm => simp at hm
        | _ :: _ :: _ :: _, hm => simp at hm
      · cases h
      · cases h
  | .ite _ _ _, p, h => by cases h
  | .imp _ _, p, h => by cases h
theorem visitList_spec (vars : List String) : ∀ (l : List BExp) (ps : List PExp), visitList vars l = .ok ps →
    (∀ σ, ps.map (fun p => p.eval σ) = l.map (fun e => b2i (e.eval σ))) ∧
      ps.flatMap PExp.vars = symsList l ∧ ∀ v ∈ ps.flatMap PExp.vars, v ∈ vars
  | [], ps, h => by cases h; exact ⟨fun _ => rfl, rfl, nofun⟩
  | e :: es, ps, h => by
      obtain ⟨a, as, ha, has, rfl⟩ := visitList_cons_ok.mp h
      obtain ⟨h1, h2, h3⟩ := visit_spec vars e a ha
      obtain ⟨i1, i2, i3⟩ := visitList_spec vars es as has
      exact ⟨fun σ => by simp only [List.map, h1, i1], by simp only [List.flatMap_cons, symsList, h2, i2],
        fun v hv => (List.mem_append.mp hv).elim (h3 v) (i3 v)⟩
theorem visitAnd_spec (vars : List String) : ∀ (l : List BExp) (p : PExp), visitAnd vars l = .ok p →
    (∀ σ, p.eval σ = b2i (evalAnd σ l)) ∧ p.vars = symsList l ∧ ∀ v ∈ p.vars, v ∈ vars
  | [], p, h => by cases h
  | [e], p, h => by simp only [visitAnd] at h; split at h <;> cases h
  | [e, e'], p, h => by
      obtain ⟨a, b, ha, hb, rfl⟩ := visitAnd_two_ok.mp h
      obtain ⟨h1, h2, h3⟩ := visit_spec vars e a ha
      obtain ⟨i1, i2, i3⟩ := visit_spec vars e' b hb
      exact ⟨fun σ => by simp only [PExp.eval, evalAnd, h1, i1, Bool.and_true, b2i_and],
        by simp only [PExp.vars, symsList, h2, i2, List.append_nil],
        fun v hv => (List.mem_append.mp hv).elim (h3 v) (i3 v)⟩
  | e :: e' :: e'' :: es, p, h => by
      obtain ⟨a, b, ha, hb, rfl⟩ := visitAnd_more_ok.mp h
      obtain ⟨h1, h2, h3⟩ := visit_spec vars e a ha
      obtain ⟨i1, i2, i3⟩ := visitAnd_spec vars (e' :: e'' :: es) b hb
      exact ⟨fun σ => by rw [evalAnd, ← b2i_and, ← h1, ← i1]; rfl, by rw [symsList, ← h2, ← i2]; rfl,
        fun v hv => (List.mem_append.mp hv).elim (h3 v) (i3 v)⟩
theorem visitXor_spec (vars : List String) : ∀ (l : List BExp) (p : PExp), visitXor vars l = .ok p →
    (∀ σ, p.eval σ = b2i (evalXor σ l)) ∧ p.vars = symsList l ∧ ∀ v ∈ p.vars, v ∈ vars
  | [], p, h => by cases h
  | [e], p, h => by simp only [visitXor] at h; split at h <;> cases h
  | [e, e'], p, h => by
      obtain ⟨a, b, ha, hb, rfl⟩ := visitXor_two_ok.mp h
      obtain ⟨h1, h2, h3⟩ := visit_spec vars e a ha
      obtain ⟨i1, i2, i3⟩ := visit_spec vars e' b hb
      exact ⟨fun σ => by simp only [PExp.eval, evalXor, h1, i1, Bool.xor_false, b2i_xor],
        by simp only [PExp.vars, symsList, h2, i2, List.append_nil],
        fun v hv => (List.mem_append.mp hv).elim (h3 v) (i3 v)⟩
  | e :: e' :: e'' :: es, p, h => by
      obtain ⟨a, b, ha, hb, rfl⟩ := visitXor_more_ok.mp h
      obtain ⟨h1, h2, h3⟩ := visit_spec vars e a ha
      obtain ⟨i1, i2, i3⟩ := visitXor_spec vars (e' :: e'' :: es) b hb
      exact ⟨fun σ => by rw [evalXor, ← b2i_xor, ← h1, ← i1]; rfl, by rw [symsList, ← h2, ← i2]; rfl,
        fun v hv => (List.mem_append.mp hv).elim (h3 v) (i3 v)⟩
end

-- the components of `visit_spec` / `visitAnd_spec` / `visitXor_spec` under their own names
theorem visit_eval (vars : List String) (σ : Env) (e : BExp) (p : PExp) (h : visit vars e = .ok p) :
    p.eval σ = b2i (e.eval σ) := (visit_spec vars e p h).1 σ
theorem visitList_eval (vars : List String) (σ : Env) :
    ∀ (l : List BExp) (ps : List PExp), visitList vars l = .ok ps →
      ps.map (fun p => p.eval σ) = l.map (fun e => b2i (e.eval σ)) :=
  fun l ps h => (visitList_spec vars l ps h).1 σ
theorem visitAnd_eval (vars : List String) (σ : Env) :
    ∀ (l : List BExp) (p : PExp), visitAnd vars l = .ok p → p.eval σ = b2i (evalAnd σ l) :=
  fun l p h => (visitAnd_spec vars l p h).1 σ
theorem visitXor_eval (vars : List String) (σ : Env) :
    ∀ (l : List BExp) (p : PExp), visitXor vars l = .ok p → p.eval σ = b2i (evalXor σ l) :=
  fun l p h => (visitXor_spec vars l p h).1 σ

theorem visit_vars (vars : List String) (e : BExp) (p : PExp) (h : visit vars e = .ok p) :
    p.vars = e.syms ∧ ∀ v ∈ p.vars, v ∈ vars := (visit_spec vars e p h).2
theorem visitList_vars (vars : List String) :
    ∀ (l : List BExp) (ps : List PExp), visitList vars l = .ok ps →
      ps.flatMap PExp.vars = symsList l ∧ ∀ v ∈ ps.flatMap PExp.vars, v ∈ vars :=
  fun l ps h => (visitList_spec vars l ps h).2
theorem visitAnd_vars (vars : List String) :
    ∀ (l : List BExp) (p : PExp), visitAnd vars l = .ok p →
      p.vars = symsList l ∧ ∀ v ∈ p.vars, v ∈ vars :=
  fun l p h => (visitAnd_spec vars l p h).2
theorem visitXor_vars (vars : List String) :
    ∀ (l : List BExp) (p : PExp), visitXor vars l = .ok p →
      p.vars = symsList l ∧ ∀ v ∈ p.vars, v ∈ vars :=
  fun l p h => (visitXor_spec vars l p h).2

/-! ### `merge_expressions`; first `QV.Proofs.BExp` restated for `substEnv` -/

/-- definitionally `BExp.substEnv` -/
def substEnv (m : String → Option BExp) (ρ : Env) : Env := fun n =>
  match m n with
  | some e => e.eval ρ
  | none => ρ n

theorem evalAnd_subst (m : String → Option BExp) (ρ : Env) :
    ∀ l : List BExp, evalAnd ρ (substList m l) = evalAnd (substEnv m ρ) l := BExp.evalAnd_subst m ρ
theorem evalOr_subst (m : String → Option BExp) (ρ : Env) :
    ∀ l : List BExp, evalOr ρ (substList m l) = evalOr (substEnv m ρ) l := BExp.evalOr_subst m ρ
theorem evalXor_subst (m : String → Option BExp) (ρ : Env) :
    ∀ l : List BExp, evalXor ρ (substList m l) = evalXor (substEnv m ρ) l := BExp.evalXor_subst m ρ

theorem substEnv_nil (ρ : Env) : substEnv (lookup []) ρ = ρ := rfl

theorem substEnv_cons (emap : List (String × BExp)) (s : String) (e' : BExp)
    (ρ : Env) :
    substEnv (lookup ((s, e') :: emap)) ρ = update (substEnv (lookup emap) ρ) s (e'.eval ρ) := by
  funext n
  simp only [substEnv, lookup, update]
  cases s == n <;> simp

/-- invariant of `merge_expressions` (`simp` any truth-table preserving simplifier): the expressions it keeps, evaluated
at `ρ`, are the return values of the remaining definitions run from `ρ` read through `emap` -/
theorem mergeGo_sound (simp : BExp → BExp) (hs : ∀ e ρ, (simp e).eval ρ = e.eval ρ) (ρ : Env) :
    ∀ (exprs emap : List (String × BExp)),
      (mergeGo simp emap exprs).map (fun se => se.2.eval ρ)
        = retVals (substEnv (lookup emap) ρ) exprs
  | [], emap => rfl
  | (s, e) :: rest, emap => by
      simp only [mergeGo, retVals]
      have he : (simp (e.subst (lookup emap))).eval ρ = e.eval (substEnv (lookup emap) ρ) :=
        (hs _ ρ).trans (BExp.eval_subst _ ρ e)
      split
      · simp only [List.map, he, mergeGo_sound simp hs ρ rest emap]
      · rw [mergeGo_sound simp hs ρ rest ((s, simp (e.subst (lookup emap))) :: emap),
          substEnv_cons, he]

theorem mergeGo_keys (simp : BExp → BExp) :
    ∀ (exprs emap : List (String × BExp)),
      (mergeGo simp emap exprs).map (·.1) = (exprs.filter fun se => isRet se.1).map (·.1)
  | [], _ => rfl
  | (s, e) :: rest, emap => by
      simp only [mergeGo, List.filter]
      cases isRet s <;> simp [mergeGo_keys simp rest]

theorem mergeGo_names (simp : BExp → BExp) (exprs emap : List (String × BExp)) :
    ∀ se ∈ mergeGo simp emap exprs, isRet se.1 = true := fun se h => by
  have hm : se.1 ∈ (mergeGo simp emap exprs).map (·.1) := List.mem_map_of_mem h
  rw [mergeGo_keys] at hm
  obtain ⟨se', h', e⟩ := List.mem_map.mp hm
  exact e ▸ (List.mem_filter.mp h').2

theorem pyAdd_eval (σ : Env) (a b : PExp) : (pyAdd a b).eval σ = a.eval σ + b.eval σ := by
  unfold pyAdd
  split <;> rfl

theorem pyAdd_vars (a b : PExp) : (pyAdd a b).vars = a.vars ++ b.vars := by
  unfold pyAdd
  split <;> rfl

theorem termOf_ret (q : Quirks) (vars : List String) (s : String) (e : BExp) (hr : isRet s = true)
    (hq : q.retSymbolAndConst = false ∨ isSym e = false) : termOf q vars s e = visit vars e := by
  have : (q.retSymbolAndConst && isSym e) = false := by rcases hq with h | h <;> simp [h]
  simp only [termOf, this, hr, Bool.false_eq_true, if_false, if_true]

/-- value of the running sum of `to_bqm` (`none`: nothing added yet, i.e. 0); `accVars`: its variables -/
def accEval (σ : Env) : Option PExp → Int
  | none => 0
  | some p => p.eval σ

def defsSyms : List (String × BExp) → List String
  | [] => []
  | (_, e) :: rest => e.syms ++ defsSyms rest

def accVars : Option PExp → List String
  | none => []
  | some p => p.vars

theorem sumTerms_spec (q : Quirks) :
    ∀ (l : List (String × BExp)) (vars : List String) (acc r : Option PExp),
      (∀ se ∈ l, isRet se.1 = true) →
      (q.retSymbolAndConst = false ∨ ∀ se ∈ l, isSym se.2 = false) →
      sumTerms q vars acc l = .ok r →
      (∀ σ, accEval σ r = accEval σ acc + (countTrue (l.map fun se => se.2.eval σ) : Nat)) ∧
        accVars r = accVars acc ++ defsSyms l ∧ ∀ v ∈ defsSyms l, v ∈ vars ∨ v ∈ l.map (·.1)
  | [], vars, acc, r, _, _, h => by
      cases h; simp [countTrue, defsSyms]
  | (s, e) :: rest, vars, acc, r, hr, hq, h => by
      simp only [sumTerms] at h
      split at h
      · cases h
      · next t ht =>
        rw [termOf_ret q _ s e (hr (s, e) List.mem_cons_self)
          (hq.imp id fun hh => hh (s, e) List.mem_cons_self)] at ht
        obtain ⟨h1, h2, h3⟩ := visit_spec _ e t ht
        obtain ⟨i1, i2, i3⟩ := sumTerms_spec q rest _ _ r (fun se hse => hr se (List.mem_cons_of_mem _ hse))
          (hq.imp id fun hh se hse => hh se (List.mem_cons_of_mem _ hse)) h
        -- the declared variables grow by `s`, which is the name of this definition
        have hin : ∀ v, v ∈ vars ++ [s] → v ∈ vars ∨ v ∈ ((s, e) :: rest).map (·.1) := fun v hv =>
          (List.mem_append.mp hv).imp_right fun hs => by rw [List.mem_singleton.mp hs]; exact List.mem_cons_self
        refine ⟨fun σ => ?_, ?_, fun v hv' => ?_⟩
        · have hb : b2i (e.eval σ) = ((if e.eval σ then 1 else 0 : Nat) : Int) := by cases e.eval σ <;> rfl
          rw [i1]
          cases acc <;> simp only [accEval, pyAdd_eval, h1, hb, List.map_cons, countTrue] <;> omega
        · rw [i2]
          cases acc <;> simp only [accVars, defsSyms, pyAdd_vars, h2, List.nil_append, List.append_assoc]
        · rcases List.mem_append.mp hv' with h' | h'
          · exact hin v (h3 v (h2 ▸ h'))
          · exact (i3 v h').elim (hin v) fun hm => .inr (List.mem_cons_of_mem _ hm)

theorem toBqmMerged_ok (q : Quirks) (argBits : List String) (merged : List (String × BExp))
    (fmt : String) (p : PExp) :
    toBqmMerged q argBits merged fmt = .ok p ↔
      (sumTerms q argBits none merged = .ok (some p) ∧ (∀ n, p ≠ .num n) ∧
        formats.contains fmt = true) := by
  unfold toBqmMerged
  split
  · next h => simp [h]
  · next h => simp [h]
  · next n h =>
    simp only [h, reduceCtorEq, Except.ok.injEq, Option.some.injEq, false_iff, not_and]
    rintro rfl hn
    exact absurd rfl (hn n)
  · next p' hnum h =>
    simp only [h, Except.ok.injEq, Option.some.injEq]
    split
    · next hf =>
      simp only [Except.ok.injEq, hf, and_true]
      exact ⟨fun hp => ⟨hp, fun n hn => hnum n (hp ▸ hn)⟩, And.left⟩
    · next hf => simp only [reduceCtorEq, hf, and_false]

/-! ### a definition list depends only on the symbols it mentions (`defs_congr`; first `BExp.eval*_congr` restated) -/

theorem evalAnd_congr (ρ ρ' : Env) :
    ∀ l : List BExp, (∀ n ∈ symsList l, ρ n = ρ' n) → evalAnd ρ l = evalAnd ρ' l := BExp.evalAnd_congr ρ ρ'
theorem evalOr_congr (ρ ρ' : Env) :
    ∀ l : List BExp, (∀ n ∈ symsList l, ρ n = ρ' n) → evalOr ρ l = evalOr ρ' l := BExp.evalOr_congr ρ ρ'
theorem evalXor_congr (ρ ρ' : Env) :
    ∀ l : List BExp, (∀ n ∈ symsList l, ρ n = ρ' n) → evalXor ρ l = evalXor ρ' l := BExp.evalXor_congr ρ ρ'

theorem defs_congr (ρ ρ' : Env) : ∀ l : List (String × BExp),
    (∀ n ∈ defsSyms l, ρ n = ρ' n) → l.map (fun se => se.2.eval ρ) = l.map (fun se => se.2.eval ρ')
  | [], _ => rfl
  | (s, e) :: rest, h => by
      simp only [defsSyms, List.mem_append] at h
      simp only [List.map, BExp.eval_congr ρ ρ' e (fun n hn => h n (Or.inl hn)),
        defs_congr ρ ρ' rest (fun n hn => h n (Or.inr hn))]

end QV.Bqm
