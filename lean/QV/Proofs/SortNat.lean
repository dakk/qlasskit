import QV.Model.Compiler
/-! `Compiler.sortNat` (a `List.mergeSort`, on which kernel evaluation is stuck) is insertion sort, which evaluates:
the examples that run the compiler model in the kernel rewrite with `sortNat_eq` first. -/
namespace QV.EndToEnd
open QV.Compiler

def ins (a : Nat) : List Nat → List Nat
  | [] => [a]
  | b :: l => if a ≤ b then a :: b :: l else b :: ins a l

def isort : List Nat → List Nat
  | [] => []
  | a :: l => ins a (isort l)

theorem ins_perm (a : Nat) (l : List Nat) : (ins a l).Perm (a :: l) := by
  induction l with
  | nil => exact List.Perm.refl _
  | cons b l ih =>
    unfold ins; split
    · exact List.Perm.refl _
    · exact (List.Perm.cons b ih).trans (List.Perm.swap a b l)

theorem isort_perm (l : List Nat) : (isort l).Perm l := by
  induction l with
  | nil => exact List.Perm.refl _
  | cons a l ih => exact (ins_perm a _).trans (List.Perm.cons a ih)

theorem ins_sorted (a : Nat) (l : List Nat) (h : l.Pairwise (· ≤ ·)) : (ins a l).Pairwise (· ≤ ·) := by
  induction l with
  | nil => simp [ins]
  | cons b l ih =>
    rw [List.pairwise_cons] at h
    unfold ins; split
    · rename_i hab
      refine List.pairwise_cons.mpr ⟨?_, List.pairwise_cons.mpr h⟩
      intro c hc
      rcases List.mem_cons.mp hc with rfl | hc
      · exact hab
      · exact Nat.le_trans hab (h.1 c hc)
    · rename_i hab
      refine List.pairwise_cons.mpr ⟨?_, ih h.2⟩
      intro c hc
      rcases List.mem_cons.mp ((ins_perm a l).subset hc) with rfl | hc
      · omega
      · exact h.1 c hc

theorem isort_sorted (l : List Nat) : (isort l).Pairwise (· ≤ ·) := by
  induction l with
  | nil => simp [isort]
  | cons a l ih => exact ins_sorted a _ ih

/-- the sorted permutation is unique -/
theorem sortNat_eq (l : List Nat) : sortNat l = isort l := by
  apply List.Perm.eq_of_pairwise (le := (· ≤ ·))
  · intro a b _ _ h1 h2; omega
  · have := List.pairwise_mergeSort (le := fun a b : Nat => decide (a ≤ b))
      (by intro a b c; simp; omega) (by intro a b; simp; omega) l
    simpa [sortNat] using this
  · exact isort_sorted l
  · exact (List.mergeSort_perm _ _).trans (isort_perm l).symm

end QV.EndToEnd
