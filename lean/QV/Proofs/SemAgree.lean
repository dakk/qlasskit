import QV.Model.SemX
import QV.Proofs.Arith
/-! C01, the property's first sentence: the fixed-width semantics `SemW` against the exact python
semantics `Sem` (`QV/Model/SemX.lean`).  `Agree xv sv`: the `SemW` value `sv` is the exact value where
`xv` is in range (`k = none`), and is congruent to it modulo `2^k` on the low `k` bits otherwise. -/
namespace QV.Sem
open QV.Front

theorem emod_emod_pow (a : Int) {j w : Nat} (h : j ≤ w) : (a % 2 ^ w) % 2 ^ j = a % (2 : Int) ^ j :=
  Int.emod_emod_of_dvd a (pow_dvd_pow 2 h)

theorem cong_add {m a a' b b' : Int} (h1 : a % m = a' % m) (h2 : b % m = b' % m) :
    (a + b) % m = (a' + b') % m := by
  rw [Int.add_emod, h1, h2, ← Int.add_emod]

theorem cong_sub {m a a' b b' : Int} (h1 : a % m = a' % m) (h2 : b % m = b' % m) :
    (a - b) % m = (a' - b') % m := by
  rw [Int.sub_emod, h1, h2, ← Int.sub_emod]

theorem cong_mul {m a a' b b' : Int} (h1 : a % m = a' % m) (h2 : b % m = b' % m) :
    (a * b) % m = (a' * b') % m := by
  rw [Int.mul_emod, h1, h2, ← Int.mul_emod]

theorem cast_pow2 (w : Nat) : ((2 ^ w : Nat) : Int) = (2 : Int) ^ w := by
  simp

theorem pow2_pos_int (w : Nat) : (0 : Int) < 2 ^ w := Int.pow_pos (by decide)

theorem natmod_cong (a : Nat) {j w : Nat} (h : j ≤ w) :
    (((a % 2 ^ w : Nat) : Int)) % 2 ^ j = (a : Int) % 2 ^ j := by
  rw [Int.natCast_mod, cast_pow2, emod_emod_pow _ h]

theorem natBitwise_low (f : Bool → Bool → Bool) {j w : Nat} (h : j ≤ w) (a b : Nat) :
    natBitwise f w a b % 2 ^ j = natBitwise f j a b := by
  unfold natBitwise
  rw [← valLE_take, List.take_zipWith, take_toBitsLE h, take_toBitsLE h]

theorem natBitwise_modarg (f : Bool → Bool → Bool) (j : Nat) (a b : Nat) :
    natBitwise f j (a % 2 ^ j) (b % 2 ^ j) = natBitwise f j a b := by
  unfold natBitwise
  rw [toBitsLE_mod, toBitsLE_mod]

theorem natBitwise_lt (f : Bool → Bool → Bool) (w a b : Nat) : natBitwise f w a b < 2 ^ w := by
  unfold natBitwise
  have := valLE_lt (List.zipWith f (toBitsLE w a) (toBitsLE w b))
  simpa using this

theorem toNat_emod_cast (x : Int) (j : Nat) : (((x % (2 : Int) ^ j).toNat : Nat) : Int) = x % (2 : Int) ^ j :=
  Int.toNat_of_nonneg (Int.emod_nonneg _ (by have := pow2_pos_int j; omega))

theorem cast_mod_pow2 (a j : Nat) : (((a % 2 ^ j : Nat)) : Int) = (a : Int) % (2 : Int) ^ j := by
  rw [Int.natCast_mod, cast_pow2]

/-- the low `j` bits of python's `x op y` (`op` one of `& | ^`, computed by `intBitwise` at any result
width `w ≥ j`) are `op` on the low `j` bits of the operands -/
theorem intBitwise_low (f : Bool → Bool → Bool) {j w : Nat} (h : j ≤ w) (x y : Int) :
    intBitwise f w x y % (2 : Int) ^ j
      = (natBitwise f j (x % (2 : Int) ^ j).toNat (y % (2 : Int) ^ j).toNat : Nat) := by
  have hN : j ≤ bitwiseWidth w x y := by unfold bitwiseWidth; omega
  generalize hNe : bitwiseWidth w x y = N at hN
  have key : ((natBitwise f N (x % (2 : Int) ^ N).toNat (y % (2 : Int) ^ N).toNat : Nat) : Int) % (2 : Int) ^ j
      = (natBitwise f j (x % (2 : Int) ^ j).toNat (y % (2 : Int) ^ j).toNat : Nat) := by
    rw [← cast_mod_pow2, natBitwise_low f hN]
    congr 1
    rw [← natBitwise_modarg f j (x % (2 : Int) ^ N).toNat, ← natBitwise_modarg f j (x % (2 : Int) ^ j).toNat]
    have e : ∀ z : Int, (z % (2 : Int) ^ N).toNat % 2 ^ j = (z % (2 : Int) ^ j).toNat % 2 ^ j := by
      intro z
      apply Int.ofNat_inj.mp
      rw [cast_mod_pow2, cast_mod_pow2, toNat_emod_cast, toNat_emod_cast,
        emod_emod_pow _ hN, Int.emod_emod_of_dvd _ (Int.dvd_refl _)]
    rw [e x, e y]
  unfold intBitwise
  simp only [hNe]
  split
  · exact key
  · rw [Int.sub_emod, Int.emod_eq_zero_of_dvd (pow_dvd_pow 2 hN), Int.sub_zero, Int.emod_emod_of_dvd _ (Int.dvd_refl _)]
    exact key

def Within (j : Nat) (kk : Option Nat) : Prop := ∀ k, kk = some k → j ≤ k

theorem within_none (j : Nat) : Within j none := fun _ h => by cases h

theorem within_kmin {j : Nat} {a b : Option Nat} (h : Within j (kmin a b)) : Within j a ∧ Within j b := by
  cases a <;> cases b <;> simp only [kmin, Within] at * <;> constructor <;> intro k hk <;>
    simp only [Option.some.injEq, reduceCtorEq] at hk
  all_goals (try subst hk)
  · exact h _ rfl
  · exact h _ rfl
  · have := h _ rfl; omega
  · have := h _ rfl; omega

theorem kmin_none {a b : Option Nat} (h : kmin a b = none) : a = none ∧ b = none := by
  cases a <;> cases b <;> simp [kmin] at h ⊢

def Agree : XVal → SVal → Prop
  | ⟨.bool b, k⟩, .bool b' => k = none → b' = b
  | ⟨.int w x, k⟩, .int w' y =>
    w' = w ∧ y < 2 ^ w ∧
      (k = none → (y : Int) = x) ∧ (∀ j, k = some j → j ≤ w ∧ (y : Int) % 2 ^ j = x % 2 ^ j)
  | _, _ => False

theorem agree_cong {w : Nat} {x : Int} {k : Option Nat} {y : Nat} (h : Agree ⟨.int w x, k⟩ (.int w y))
    {j : Nat} (hj : Within j k) : (y : Int) % 2 ^ j = x % 2 ^ j := by
  obtain ⟨_, _, h1, h2⟩ := h
  cases k with
  | none => rw [h1 rfl]
  | some k' =>
    obtain ⟨_, h3⟩ := h2 k' rfl
    have := hj k' rfl
    rw [← emod_emod_pow _ this, h3, emod_emod_pow _ this]

/-- result of a low-bits-closed operation -/
theorem mkInt_agree (w : Nat) (X : Int) (kk : Option Nat) (Y : Nat) (hY : Y < 2 ^ w)
    (hc : ∀ j, j ≤ w → Within j kk → (Y : Int) % 2 ^ j = X % 2 ^ j) :
    Agree (mkInt w X kk) (.int w Y) := by
  have hYi : (Y : Int) < 2 ^ w := by rw [← cast_pow2]; exact Int.ofNat_lt.mpr hY
  unfold mkInt
  cases kk with
  | none =>
    simp only
    split
    · rename_i hf
      simp only [fits, Bool.and_eq_true, decide_eq_true_eq] at hf
      refine ⟨rfl, hY, fun _ => ?_, fun j hj => (by cases hj)⟩
      have := hc w (Nat.le_refl _) (within_none _)
      rw [Int.emod_eq_of_lt (by omega) hYi, Int.emod_eq_of_lt hf.1 hf.2] at this
      exact this
    · refine ⟨rfl, hY, fun h => (by cases h), fun j hj => ?_⟩
      cases hj
      exact ⟨Nat.le_refl _, hc w (Nat.le_refl _) (within_none _)⟩
  | some k =>
    simp only
    refine ⟨rfl, hY, fun h => (by cases h), fun j hj => ?_⟩
    cases hj
    exact ⟨Nat.min_le_right _ _, hc _ (Nat.min_le_right _ _) (fun k' hk' => by cases hk'; exact Nat.min_le_left _ _)⟩

theorem two_pow_le {a b : Nat} (h : a ≤ b) : 2 ^ a ≤ 2 ^ b := Nat.pow_le_pow_right (by decide) h

/-- nothing is claimed of an integer: any value of the type in range agrees -/
theorem agree_undet {w y : Nat} (x : Int) (hy : y < 2 ^ w) : Agree ⟨.int w x, some 0⟩ (.int w y) :=
  ⟨rfl, hy, fun h => (by cases h), fun j hj => by cases hj; exact ⟨Nat.zero_le _, by simp [Int.emod_one]⟩⟩

theorem Agree.widen {a b y : Nat} {x : Int} {k : Option Nat} (h : Agree ⟨.int a x, k⟩ (.int a y)) (hab : a ≤ b) :
    Agree ⟨.int b x, k⟩ (.int b y) :=
  ⟨rfl, Nat.lt_of_lt_of_le h.2.1 (two_pow_le hab), h.2.2.1, fun j hj => ⟨Nat.le_trans (h.2.2.2 j hj).1 hab, (h.2.2.2 j hj).2⟩⟩

/-- result of an operation that reads whole values -/
theorem mkOpen_agree (w : Nat) (X : Int) (kk : Option Nat) (Y : Nat) (hY : Y < 2 ^ w)
    (hc : kk = none → (Y : Int) = X) : Agree (mkOpen w X kk) (.int w Y) := by
  unfold mkOpen
  cases kk with
  | none =>
    simp only
    split
    · exact ⟨rfl, hY, fun _ => hc rfl, fun j hj => by cases hj⟩
    · exact agree_undet X hY
  | some k => exact agree_undet X hY

theorem mkBool_agree (b b' : Bool) (kk : Option Nat) (h : kk = none → b' = b) :
    Agree (mkBool b kk) (.bool b') := by
  unfold mkBool
  cases kk with
  | none => exact fun _ => h rfl
  | some k => exact fun h' => by cases h'

def EnvAgree (σX : XEnv) (σW : SEnv) : Prop :=
  ∀ n xv sv, σX n = some xv → σW n = some sv → Agree xv sv

theorem cmp_cast (op : String) (a b : Nat) : cmpInt op (a : Int) (b : Int) = cmpNat op a b := by
  unfold cmpInt cmpNat
  split <;> simp_all

theorem boolFold_agree (isAnd : Bool) :
    ∀ (xs : List XVal) (ss : List SVal), List.Forall₂ Agree xs ss →
      ∀ r kk b', boolFoldX isAnd xs = some (r, kk) → boolFold isAnd ss = some b' → kk = none → b' = r
  | [], _, _, r, kk, b', hx, _, _ => by simp [boolFoldX] at hx
  | x :: xs, [], h, _, _, _, _, _, _ => by cases h
  | x :: xs, s :: ss, h, r, kk, b', hx, hs, hk => by
    cases h with
    | cons h1 h2 =>
    obtain ⟨v, k⟩ := x
    cases v with
    | int w z => cases s <;> first | exact h1.elim | (simp [boolFoldX] at hx)
    | bool b =>
      cases s with
      | int _ _ => exact h1.elim
      | bool sb =>
        cases xs with
        | nil =>
          cases h2
          simp only [boolFoldX, Option.some.injEq, Prod.mk.injEq] at hx
          simp only [boolFold, Option.some.injEq] at hs
          obtain ⟨rfl, rfl⟩ := hx
          subst hs
          exact h1 hk
        | cons x2 xs2 =>
          cases h2 with
          | cons h3 h4 =>
          rename_i s2 ss2
          simp only [boolFoldX] at hx
          simp only [boolFold] at hs
          cases hrx : boolFoldX isAnd (x2 :: xs2) with
          | none => simp [hrx] at hx
          | some p =>
            obtain ⟨r2, k2⟩ := p
            simp only [hrx] at hx
            cases hrs : boolFold isAnd (s2 :: ss2) with
            | none => simp [hrs] at hs
            | some b2 =>
              simp only [hrs, Option.map_some, Option.some.injEq] at hs
              split at hx
              · rename_i hne
                simp only [Option.some.injEq, Prod.mk.injEq] at hx
                obtain ⟨rfl, rfl⟩ := hx
                have e := h1 hk
                subst e
                subst hs
                cases isAnd <;> cases sb <;> simp_all
              · rename_i hne
                simp only [Option.some.injEq, Prod.mk.injEq] at hx
                obtain ⟨rfl, rfl⟩ := hx
                obtain ⟨hk1, hk2⟩ := kmin_none hk
                have e := h1 hk1
                subst e
                have ih := boolFold_agree isAnd (x2 :: xs2) (s2 :: ss2) (List.Forall₂.cons h3 h4) _ _ _ hrx hrs hk2
                subst ih
                subst hs
                cases isAnd <;> cases sb <;> simp_all



theorem intBin_agree (op : String) (wl wr : Nat) (xl xr : Int) (kl kr : Option Nat) (yl yr : Nat)
    (hl : Agree ⟨.int wl xl, kl⟩ (.int wl yl)) (hr : Agree ⟨.int wr xr, kr⟩ (.int wr yr))
    (sv : SVal) (xv : XVal) (hw : intBin op wl wr yl yr = some sv)
    (hx : intBinX op wl wr xl xr (kmin kl kr) = some xv) : Agree xv sv := by
  have hyl := hl.2.1
  have hyr := hr.2.1
  unfold intBin at hw
  unfold intBinX at hx
  split at hw
  · simp only [Option.some.injEq] at hw hx
    subst hw; subst hx
    apply mkInt_agree _ _ _ _ (Nat.mod_lt _ (Nat.pow_pos (by decide)))
    intro j hj hwi
    obtain ⟨h1, h2⟩ := within_kmin hwi
    rw [natmod_cong _ hj, Int.natCast_add]
    exact cong_add (agree_cong hl h1) (agree_cong hr h2)
  · simp only [Option.some.injEq] at hw hx
    subst hw; subst hx
    apply mkInt_agree _ _ _ _ (Nat.mod_lt _ (Nat.pow_pos (by decide)))
    intro j hj hwi
    obtain ⟨h1, h2⟩ := within_kmin hwi
    have hle : yr ≤ yl + 2 ^ max wl wr := by have := two_pow_le (Nat.le_max_right wl wr); omega
    rw [natmod_cong _ hj, Int.natCast_sub hle, Int.natCast_add, cast_pow2]
    have e : ((yl : Int) + 2 ^ max wl wr - yr) % 2 ^ j = ((yl : Int) - yr) % 2 ^ j := by
      have : (yl : Int) + 2 ^ max wl wr - yr = (yl - yr) + 2 ^ max wl wr := by omega
      rw [this, Int.add_emod, Int.emod_eq_zero_of_dvd (pow_dvd_pow 2 hj), Int.add_zero,
        Int.emod_emod_of_dvd _ (Int.dvd_refl _)]
    rw [e]
    exact cong_sub (agree_cong hl h1) (agree_cong hr h2)
  · simp only [Option.some.injEq] at hw hx
    subst hw; subst hx
    apply mkInt_agree _ _ _ _ (Nat.mod_lt _ (Nat.pow_pos (by decide)))
    intro j hj hwi
    obtain ⟨h1, h2⟩ := within_kmin hwi
    rw [natmod_cong _ hj, Int.natCast_mul]
    exact cong_mul (agree_cong hl h1) (agree_cong hr h2)
  · simp only [] at hx
    split at hw
    · cases hw
    · rename_i hy0
      simp only [Option.some.injEq] at hw
      subst hw
      split at hx
      · cases hx
      · simp only [Option.some.injEq] at hx
        subst hx
        apply mkOpen_agree
        · exact Nat.lt_of_le_of_lt (Nat.mod_le _ _) (Nat.lt_of_lt_of_le hyl (two_pow_le (Nat.le_max_left _ _)))
        · intro hk
          obtain ⟨rfl, rfl⟩ := kmin_none hk
          have e1 := hl.2.2.1 rfl
          have e2 := hr.2.2.1 rfl
          rw [← e1, ← e2, Int.fmod_eq_emod_of_nonneg _ (Int.natCast_nonneg _), Int.natCast_mod]
  all_goals
    first
    | (simp only [Option.some.injEq] at hw hx
       subst hw; subst hx
       apply mkInt_agree _ _ _ _ (natBitwise_lt _ _ _ _)
       intro j hj hwi
       obtain ⟨h1, h2⟩ := within_kmin hwi
       rw [intBitwise_low _ hj, ← cast_mod_pow2, natBitwise_low _ hj]
       congr 1
       rw [← natBitwise_modarg _ j yl, ← natBitwise_modarg _ j (xl % (2 : Int) ^ j).toNat]
       have e : ∀ (y : Nat) (x : Int), (y : Int) % 2 ^ j = x % 2 ^ j →
           y % 2 ^ j = (x % (2 : Int) ^ j).toNat % 2 ^ j := by
         intro y x hxy
         apply Int.ofNat_inj.mp
         rw [cast_mod_pow2, cast_mod_pow2, toNat_emod_cast, hxy, Int.emod_emod_of_dvd _ (Int.dvd_refl _)]
       rw [e yl xl (agree_cong hl h1), e yr xr (agree_cong hr h2)])
    | cases hw


theorem boolBin_agree (op : String) (a b a' b' : Bool) (kl kr : Option Nat)
    (hl : Agree ⟨.bool a, kl⟩ (.bool a')) (hr : Agree ⟨.bool b, kr⟩ (.bool b'))
    (sv : SVal) (xv : XVal) (hw : boolBin op a' b' = some sv)
    (hx : boolBinX op a b (kmin kl kr) = some xv) : Agree xv sv := by
  unfold boolBin at hw
  unfold boolBinX at hx
  split at hw
  all_goals
    first
    | (simp only [Option.some.injEq] at hw hx
       subst hw; subst hx
       apply mkBool_agree
       intro hk
       obtain ⟨rfl, rfl⟩ := kmin_none hk
       rw [hl rfl, hr rfl])
    | cases hw

theorem coerceRet_agree (ret : Ty) (xv : XVal) (sv : SVal) (h : Agree xv sv) (sv' : SVal) (xv' : XVal)
    (hw : coerceRet ret sv = some sv') (hx : coerceRetX ret xv = some xv') : Agree xv' sv' := by
  obtain ⟨v, k⟩ := xv
  cases sv with
  | bool b' =>
    cases v with
    | int _ _ => exact h.elim
    | bool b =>
      cases ret <;> simp only [coerceRet, coerceRetX, Option.some.injEq, reduceCtorEq] at hw hx
      subst hw; subst hx; exact h
  | int a' y =>
    cases v with
    | bool _ => exact h.elim
    | int a x =>
      obtain rfl : a' = a := h.1
      cases ret with
      | qint b =>
        simp only [coerceRet, coerceRetX] at hw hx
        by_cases hab : a' ≤ b
        · simp only [hab, if_true, Option.some.injEq] at hw hx
          subst hw; subst hx
          exact h.widen hab
        · simp only [hab, if_false, Option.some.injEq] at hw hx
          subst hw; subst hx
          apply mkInt_agree _ _ _ _ (Nat.mod_lt _ (Nat.pow_pos (by decide)))
          intro j hj hwi
          rw [natmod_cong _ hj]
          exact agree_cong h hwi
      | bool => simp [coerceRet] at hw
      | qchar => simp [coerceRet] at hw
      | tuple _ => simp [coerceRet] at hw

theorem agree_claim {xv : XVal} {sv : SVal} (h : Agree xv sv) (i : Nat) (b : Bool)
    (hc : xv.claim[i]? = some (some b)) : sv.bits[i]? = some b := by
  obtain ⟨v, k⟩ := xv
  cases sv with
  | bool b' =>
    cases v with
    | int _ _ => exact h.elim
    | bool b0 =>
      cases k with
      | some _ =>
        simp only [XVal.claim] at hc
        cases i <;> simp at hc
      | none =>
        simp only [XVal.claim] at hc
        cases i with
        | zero =>
          simp only [List.getElem?_cons_zero, Option.some.injEq] at hc
          subst hc
          simp [SVal.bits, h rfl]
        | succ _ => simp at hc
  | int w' y =>
    cases v with
    | bool _ => exact h.elim
    | int w x =>
      obtain rfl : w' = w := h.1
      simp only [XVal.claim] at hc
      generalize hn : claimWidth w' k = n at hc
      have hnw : n ≤ w' := by
        cases k <;> simp only [claimWidth] at hn <;> omega
      have hwi : Within n k := by
        intro k' hk'
        subst hk'
        simp only [claimWidth] at hn
        omega
      have hcong := agree_cong h hwi
      have hlen : (toBitsLE n (x % (2 : Int) ^ n).toNat).length = n := by simp
      by_cases hi : i < n
      · rw [List.getElem?_append_left (by simpa using hi)] at hc
        simp only [List.getElem?_map, Option.map_eq_some_iff, Option.some.injEq] at hc
        obtain ⟨b1, hb1, rfl⟩ := hc
        have e1 : toBitsLE n (x % (2 : Int) ^ n).toNat = (toBitsLE w' y).take n := by
          rw [take_toBitsLE hnw, ← toBitsLE_mod n y]
          congr 1
          apply Int.ofNat_inj.mp
          rw [cast_mod_pow2, toNat_emod_cast, hcong]
        rw [e1, List.getElem?_take_of_lt hi] at hb1
        simpa [SVal.bits] using hb1
      · rw [List.getElem?_append_right (by simpa using Nat.le_of_not_lt hi)] at hc
        simp only [List.getElem?_replicate] at hc
        split at hc <;> simp at hc

end QV.Sem
