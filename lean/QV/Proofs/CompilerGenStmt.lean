import QV.Proofs.CompilerGenExpr
/-!
# Semantic correctness of the compiler model on the general class: the statement loop, `compile`

`BI` is the invariant between two statements: `Pre2` (the scratch space is zero; the qubit of every name in scope
holds the name's value under the current environment) and: every cache entry holds the value of its key; no mark
is left; every gate of `gates_computed` targets a qubit in use; every ancilla is free or kept – a statement
whose ancillas were released leaves no ancilla in use behind.  A statement `r = e` starts `GI` afresh (`BI.start`),
ends in one of two ways (`stmt_unc`, `stmt_keep`: the statement end of `CompilerSem2.lean`, which `TopG.rhs` makes
applicable) and re-establishes `BI` with the environment updated at `r`, which may have been bound before (`BI.step`).
-/
namespace QV.Compiler
open QV

variable {ρ : Env} {σ0 : FState}

structure BI (scope : List String) (ρ : Env) (σ0 : FState) (s : CState) : Prop extends Pre2 scope ρ σ0 s where
  cache : ∀ p ∈ s.expq, ¬ Avail s p.2 ∧ cur σ0 s p.2 = p.1.eval ρ
  nomark : s.qc.marked = []
  comp : ∀ g ∈ s.qc.gatesComputed.toList, ¬ Avail s g.target
  nl : ∀ a ∈ s.qc.anc, a ∈ s.qc.free ∨ a ∈ s.qc.kept

theorem BI.start {scope : List String} {s : CState} (bi : BI scope ρ σ0 s) : GI (Known scope) ρ σ0 s s := by
  refine ⟨bi.good, by rw [Lof_self]; simp, by rw [Lof_self]; simp, ?_, ?_, ?_, Nat.le_refl _, fun _ h => h, rfl,
    bi.zero, bi.tbl, fun n hk => known_notAnc bi.scopeOK hk, ?_, bi.freeNd, bi.freeAnc, bi.keptNF, ?_, ?_⟩
  · intro g hg; rw [Lof_self] at hg; cases hg
  · intro g hg; rw [Lof_self] at hg; cases hg
  · rw [Lof_self]; trivial
  · intro p hp _
    obtain ⟨c1, c2⟩ := bi.cache p hp
    refine ⟨c1, c2, fun h1 h2 => ?_⟩
    rcases bi.nl _ h1 with h' | h'
    · exact absurd (Or.inl h') c1
    · exact absurd h' h2
  · intro m hm; rw [bi.nomark] at hm; cases hm
  · intro a ha
    rcases bi.nl a ha with h' | h'
    · exact Or.inr (Or.inl h')
    · exact Or.inl h'

theorem BI.knOK {scope : List String} {s : CState} (bi : BI scope ρ σ0 s) : KnOK (Known scope) ρ scope :=
  ⟨fun _ hn => ⟨Or.inl hn, kval_scope bi.scopeOK hn⟩, Or.inr (Or.inl rfl), Or.inr (Or.inr rfl)⟩

/-- the right-hand side of `r = e`: `t1` the state after `compile_expr`, `iret` its result; the known names are
those of the scope other than `r` (a `_ret…` name bound to a copy is re-bound already).
`nc = true` says that `e` has a constant inside a compound expression (`hasConst e && !isLeaf e`, the negation of
`retExprOK`); only then may a qubit that is neither an ancilla nor `iret` be allocated (`alloc`). -/
structure TopG (scope : List String) (ρ : Env) (σ0 : FState) (r : String) (v : Bool) (nc : Bool) (s t1 : CState)
    (iret : Nat) : Prop where
  gi : GI (fun n => Known scope n ∧ n ≠ r) ρ σ0 s t1
  nav : ¬ Avail t1 iret
  val : cur σ0 t1 iret = v
  nm : iret ∉ t1.qc.marked
  pend : ∀ a ∈ t1.qc.anc, a ∉ t1.qc.free → a ∉ t1.qc.kept → a ∉ t1.qc.marked → a = iret
  frame : ∀ q, ¬ Avail s q → cur σ0 t1 q = cur σ0 s q
  akeep : ∀ a ∈ s.qc.anc, a ∈ t1.qc.anc
  fkeep : ∀ q ∈ t1.qc.free, q ∈ s.qc.free
  alloc : nc = false → ∀ q, s.qc.numQubits ≤ q → q < t1.qc.numQubits → q ∈ t1.qc.anc ∨ q = iret

theorem top_frame {Kn : String → Prop} {s t1 : CState} {D R C E : Nat → Prop} {iret : Nat} {nc : Bool}
    (fr : Fr Kn σ0 s s t1 D R C E) (hD : ∀ q, ¬ Avail s q → ¬ D q) (hE : nc = false → ∀ q, E q → q = iret) :
    (∀ q, ¬ Avail s q → cur σ0 t1 q = cur σ0 s q) ∧ (∀ a ∈ s.qc.anc, a ∈ t1.qc.anc) ∧
    (∀ q ∈ t1.qc.free, q ∈ s.qc.free) ∧ (nc = false → ∀ q, s.qc.numQubits ≤ q → q < t1.qc.numQubits → q ∈ t1.qc.anc ∨ q = iret) :=
  ⟨fun q hq => fr.val q hq (hD q hq), fr.akeep, fr.fkeep, fun hn q h1 h2 => (fr.alloc q h1 h2).imp id (hE hn q)⟩

theorem pend_top {Kn : String → Prop} {scope : List String} {s t1 : CState} {D R C E : Nat → Prop} {iret : Nat}
    (bi : BI scope ρ σ0 s) (fr : Fr Kn σ0 s s t1 D R C E) (hR : ∀ q, R q → q = iret) :
    ∀ a ∈ t1.qc.anc, a ∉ t1.qc.free → a ∉ t1.qc.kept → a ∉ t1.qc.marked → a = iret := by
  intro a h1 h2 h3 h4
  rcases fr.pend a h1 h2 h3 h4 with ⟨a1, a2, _⟩ | hh
  · rcases bi.nl a a1 with h' | h'
    · exact absurd h' a2
    · exact absurd (by rw [fr.kkeep]; exact h') h3
  · exact hR a hh

theorem GIh.marked_av0 {Kn : String → Prop} {H : Nat → Prop} {s0 s : CState} (gi : GIh Kn ρ σ0 s0 H s) {m : Nat}
    (hm : m ∈ s.qc.marked) : Avail s0 m := by
  obtain ⟨m1, m2, _, _⟩ := gi.marks m hm
  rcases gi.ancOld m m1 with h' | h'
  · exact absurd h' m2
  · exact h'

/-- `r = n` with a copy: the qubit `q` that `n` names when the statement starts is copied (`CX`) into a new qubit
named `r` (which may be `n` itself: the name is re-bound, the copy reads the old qubit) -/
theorem copyTop_g {scope : List String} {n r : String} {q a : Nat} {u : Unit} {s t0 t : CState}
    (bi : BI scope ρ σ0 s) (hn : n ∈ scope) (hq : dictGet? s.qc.qmap n = some q)
    (hadd : (addQubit r).run s = .ok (a, t0)) (hcx : (cx q a).run t0 = .ok (u, t)) {nc : Bool} :
    TopG scope ρ σ0 r (ρ n) nc s t a := by
  have hk : Known scope n := Or.inl hn
  have gi0 : GI (fun n => Known scope n ∧ n ≠ r) ρ σ0 s s := bi.start.monoKn (fun _ h => h.1)
  obtain ⟨gi1, fr1, hcur, pd, hava, _, _, _⟩ := addQubit_gi hadd gi0 (fun _ h => h.2)
  have hnavq : ¬ Avail t0 q := fun h' => (bi.start.name_nav hk hq) (fr1.avail q h')
  obtain ⟨gi2, fr2, pd2, tg2, ac, _⟩ := gateP (cs := [q]) (t := a) hcx gi1 rfl rfl
    (List.forall_mem_singleton.mpr hnavq) pd
  obtain ⟨f1, f2, f4, f3⟩ := top_frame (nc := nc) (iret := a) (fr1.trans fr2)
    (fun x hx hh => hh.elim (fun h' => h') (fun h' => hx (h' ▸ hava)))
    (fun _ x hh => hh.elim (fun h' => h') (fun h' => h'.elim))
  refine ⟨gi2, pd2.nav, ?_, pd2.nm, pend_top bi (fr1.trans fr2) (fun _ hh => hh.elim (fun h' => h'.elim) (fun h' => h'.elim)),
    f1, f2, f4, f3⟩
  rw [ac.cur_eq rfl σ0, hcur, bi.zero a hava]
  simp only [List.all_cons, List.all_nil, Bool.and_true, Bool.false_bne]
  rw [(bi.tbl n q hk hq).2.2, kval_scope bi.scopeOK hn]

theorem topSym_g {scope : List String} {n r : String} {iret : Nat} {s t : CState}
    (h : (compileSymbol n (some r)).run s = .ok (iret, t)) (bi : BI scope ρ σ0 s) (hn : n ∈ scope) {nc : Bool} :
    TopG scope ρ σ0 r (ρ n) nc s t iret := by
  have hk : Known scope n := Or.inl hn
  -- no copy: `r` becomes another name of the qubit of `n`
  have alias : ∀ {q : Nat}, dictGet? s.qc.qmap n = some q → TopG scope ρ σ0 r (ρ n) nc s s q := by
    intro q hj
    obtain ⟨t1, t2, t3⟩ := bi.tbl n _ hk hj
    exact ⟨bi.start.monoKn (fun _ h => h.1), bi.start.name_nav hk hj, by rw [t3, kval_scope bi.scopeOK hn],
      by rw [bi.nomark]; exact List.not_mem_nil, pend_top (Kn := Known scope) bi (Fr.refl (D := NoN) (R := NoN) (C := NoN) (E := NoN) _)
        (fun _ hh => hh.elim), fun _ _ => rfl, fun _ h => h, fun _ h => h, fun _ q h1 h2 => absurd h2 (by omega)⟩
  rcases compileSymbol_run h with ⟨rfl, hq, _⟩ | ⟨sy, q, s1, hsy, _, hadd, hcx, hq⟩
  · exact alias hq
  · cases hsy
    exact copyTop_g bi hn hq hadd hcx

theorem topExpr_g {scope : List String} {e : BExp} {r : String} {iret : Nat} {s t : CState}
    (h : (compileExpr e none (some r)).run s = .ok (iret, t)) (bi : BI scope ρ σ0 s)
    (hwf : wfExpG scope e = true) (hsn : selfNot r e = false) :
    TopG scope ρ σ0 r (e.eval ρ) (hasConst e && !isLeaf e) s t iret := by
  have core : ∀ {E : Nat → Prop}, GI (Known scope) ρ σ0 s t →
      Fr (Known scope) σ0 s s t (fun q => (none : Option Nat) = some q) (· = iret) NoN E →
      ResG (Known scope) ρ σ0 s s t e iret → ((hasConst e && !isLeaf e) = false → ∀ q, E q → q = iret) →
      TopG scope ρ σ0 r (e.eval ρ) (hasConst e && !isLeaf e) s t iret := by
    intro E gi fr res hE
    obtain ⟨f1, f2, f4, f3⟩ := top_frame (nc := hasConst e && !isLeaf e) (iret := iret) fr
      (fun _ _ hh => by cases hh) hE
    refine ⟨gi.monoKn (fun _ hh => hh.1), res.nav, res.val, ?_, pend_top bi fr (fun _ hh => hh), f1, f2, f4, f3⟩
    intro hm
    have hav := gi.marked_av0 hm
    exact (res.fresh hav).2 hm
  have gen : isLeaf e = false → TopG scope ρ σ0 r (e.eval ρ) (hasConst e && !isLeaf e) s t iret := by
    intro hl
    obtain ⟨gi, fr, hv, _⟩ := exprG (σ0 := σ0) (s0 := s) bi.knOK e hwf none (some r) h bi.start
      (by intro d hd; cases hd) (fun hle => by rw [hl] at hle; cases hle) (by intro x hx; cases hx; exact hsn)
    refine core gi fr (hv rfl) (fun hn _ hh => ?_)
    rw [hl] at hn
    simp only [Bool.not_false, Bool.and_true] at hn
    rw [hn] at hh; cases hh
  cases e with
  | sym n =>
    unfold compileExpr at h
    exact topSym_g h bi (by simpa [wfExpG] using hwf)
  | tt =>
    have h' : (compileExpr .tt none none).run s = .ok (iret, t) := by unfold compileExpr at h ⊢; exact h
    obtain ⟨gi, fr, hv, _⟩ := exprGc_tt (σ0 := σ0) (s0 := s) bi.knOK.tt none none h' bi.start
      (by intro d hd; cases hd) (fun _ => ⟨rfl, rfl⟩) (by intro x hx; cases hx)
    exact core gi fr (hv rfl) (fun _ _ hh => hh)
  | ff =>
    have h' : (compileExpr .ff none none).run s = .ok (iret, t) := by unfold compileExpr at h ⊢; exact h
    obtain ⟨gi, fr, hv, _⟩ := exprGc_ff (σ0 := σ0) (s0 := s) bi.knOK.ff none none h' bi.start
      (by intro d hd; cases hd) (fun _ => ⟨rfl, rfl⟩) (by intro x hx; cases hx)
    exact core gi fr (hv rfl) (fun _ _ hh => hh)
  | not a => exact gen rfl
  | and l => exact gen rfl
  | or l => exact gen rfl
  | xor l => exact gen rfl
  | ite a b c => simp [wfExpG] at hwf
  | imp a b => simp [wfExpG] at hwf

theorem evalAndG_congr (ρ ρ' : Env) : ∀ l : List BExp, (∀ n ∈ symsList l, ρ n = ρ' n) → evalAnd ρ l = evalAnd ρ' l :=
  BExp.evalAnd_congr ρ ρ'

theorem evalOrG_congr (ρ ρ' : Env) : ∀ l : List BExp, (∀ n ∈ symsList l, ρ n = ρ' n) → evalOr ρ l = evalOr ρ' l :=
  BExp.evalOr_congr ρ ρ'

theorem evalXorG_congr (ρ ρ' : Env) : ∀ l : List BExp, (∀ n ∈ symsList l, ρ n = ρ' n) → evalXor ρ l = evalXor ρ' l :=
  BExp.evalXor_congr ρ ρ'

/-- `GIh.ben` gives every control the value it has now, so no control needs to be marked -/
theorem TopG.rhs {scope : List String} {r : String} {v nc : Bool} {iret : Nat} {s t1 : CState}
    (bi : BI scope ρ σ0 s) (tp : TopG scope ρ σ0 r v nc s t1 iret) : Rhs σ0 s t1 (Lof s t1) :=
  have gi := tp.gi
  ⟨gi.good, gi.gates, gi.comp, fun g hg => (gi.tgt g hg).2, CtlOK.mono (fun _ _ hq => Or.inr hq) _ _ gi.ben,
    gi.avail, bi.zero, bi.comp,
    fun m hm => ⟨gi.marked_av0 hm, (gi.marks m hm).2.1,
      let ⟨g, hg, ht⟩ := (gi.marks m hm).2.2.2 id
      ⟨g, by rw [gi.comp]; exact List.mem_append_right _ hg, ht⟩⟩,
    gi.freeNd, gi.keptNF⟩

theorem stmt_unc {scope : List String} {r : String} {v nc : Bool} {iret : Nat} {unc : List Nat} {u : Unit}
    {s t1 t3 t4 t5 : CState} (bi : BI scope ρ σ0 s) (tp : TopG scope ρ σ0 r v nc s t1 iret)
    (hd : HeadG r t1 t3 iret)
    (hunc : uncompute.run t3 = .ok (unc, t4)) (hrm : (expqRemove unc).run t4 = .ok (u, t5)) :
    EndG σ0 t1.qc.marked t1 t3 t5 iret :=
  (tp.rhs bi).unc hd hunc hrm

theorem stmt_keep {scope : List String} {r : String} {v nc : Bool} {iret : Nat} {u : Unit}
    {s t1 t3 t5 : CState} (bi : BI scope ρ σ0 s) (tp : TopG scope ρ σ0 r v nc s t1 iret)
    (hd : HeadG r t1 t3 iret) (hk : keepAncillas.run t3 = .ok (u, t5)) : EndG σ0 [] t1 t3 t5 iret :=
  (tp.rhs bi).keep hd hk

theorem BI.step {scope : List String} {env : List (String × Bool)} {e : BExp} {r : String} {iret : Nat}
    {nc : Bool} {M : List Nat} {s t1 t3 t5 : CState} (bi : BI scope (envOf env) σ0 s)
    (tp : TopG scope (envOf env) σ0 r (e.eval (envOf env)) nc s t1 iret)
    (hd : HeadG r t1 t3 iret) (he : EndG σ0 M t1 t3 t5 iret) (hM : ∀ m ∈ M, m ∈ t1.qc.anc ∧ m ≠ iret)
    (hbind : ∀ n ∈ scope, n ≠ r → ∃ q, dictGet? t1.qc.qmap n = some q)
    (hres : reservedName r = false) :
    BI (scope ++ [r]) (envOf ((r, e.eval (envOf env)) :: env)) σ0 t5 := by
  have gi := tp.gi
  have pre := Pre2.stmt (fun n q hk hn hq => gi.names n q ⟨hk, hn⟩ hq) gi.zero gi.freeAnc bi.scopeOK hbind tp.nav
    tp.val hd he hM hres
  have hiretM : iret ∉ M := fun hm => (hM _ hm).2 rfl
  have hnavM : ∀ q, ¬ Avail t1 q → q ∉ M → ¬ Avail t5 q := fun q h1 h2 h' => ((he.avail q).mp h').elim h1 h2
  refine ⟨pre, ?_, he.nomark, he.comp, he.nl tp.pend⟩
  -- a cache entry that survives does not mention `r`, so its key has the same value under the new environment
  intro p hp
  obtain ⟨h3, hpM⟩ := he.expq p hp
  rcases hd.ex3 p h3 with ⟨h1, hsy, hpi⟩ | rfl
  · obtain ⟨c1, c2, _⟩ := gi.cache p h1 (fun hh => hh)
    refine ⟨hnavM _ c1 hpM, ?_⟩
    rw [he.val _ hpM, c2]
    apply BExp.eval_congr
    intro n hn
    have hnr : n ≠ r := by
      rintro rfl
      have : p.1.syms.contains n = true := by simpa using hn
      rw [this] at hsy; cases hsy
    exact (envOf_cons_ne hnr).symm
  · refine ⟨hnavM _ tp.nav hiretM, ?_⟩
    show cur σ0 t5 iret = envOf ((r, e.eval (envOf env)) :: env) r
    rw [he.val _ hiretM, envOf_cons_self]; exact tp.val

theorem stmt_g {retBits : Option (List String)} {doUnc : Bool} {r : String} {e : BExp}
    {rest : List (String × BExp)} {scope : List String} {env : List (String × Bool)} {u : Unit} {s s' : CState}
    (h : (compileDefs retBits doUnc ((r, e) :: rest)).run s = .ok (u, s')) (bi : BI scope (envOf env) σ0 s)
    (hgen : genDefs scope ((r, e) :: rest) = true) :
    genDefs (scope ++ [r]) rest = true ∧
    ∃ iret t1 t3 t5, TopG scope (envOf env) σ0 r (e.eval (envOf env)) (hasConst e && !isLeaf e) s t1 iret ∧
      HeadG r t1 t3 iret ∧ Step (· = r) s t1 ∧
      BI (scope ++ [r]) (envOf ((r, e.eval (envOf env)) :: env)) σ0 t5 ∧
      (compileDefs retBits doUnc rest).run t5 = .ok (u, s') ∧
      ((inlineUncompute retBits doUnc r = true ∧ ∃ unc t4 u', uncompute.run t3 = .ok (unc, t4) ∧
          (expqRemove unc).run t4 = .ok (u', t5)) ∨
        (¬ inlineUncompute retBits doUnc r = true ∧ ∃ u', keepAncillas.run t3 = .ok (u', t5))) := by
  rw [compileDefs_cons] at h
  obtain ⟨iret, t1, he, k1⟩ := run_bind_ok.mp h
  obtain ⟨u3, t3, hb, k2⟩ := run_bind_ok.mp k1
  obtain ⟨u4, t5, hend, k5⟩ := run_bind_ok.mp k2
  simp only [genDefs, Bool.and_eq_true, Bool.not_eq_true'] at hgen
  obtain ⟨⟨⟨hres, hwf⟩, hsn⟩, hrest⟩ := hgen
  have tp := topExpr_g he bi hwf hsn
  have hd := stmt_headG tp.gi.good (notAvail_lt tp.nav) hb
  have hstep : Step (· = r) s t1 := (exprSpec (B := (· = r)) e none (some r) he bi.good
    (by intro d hd'; cases hd') (by intro x hx; cases hx; rfl)).1
  have hbind : ∀ n ∈ scope, n ≠ r → ∃ q, dictGet? t1.qc.qmap n = some q := by
    intro n hn hnr
    obtain ⟨q, hq⟩ := bi.bound n hn
    exact ⟨q, by rw [hstep.qmap_keep n hnr (bi.scopeOK n hn)]; exact hq⟩
  refine ⟨hrest, iret, t1, t3, t5, tp, hd, hstep, ?_⟩
  unfold stmtEndM at hend
  rcases run_ite_ok.mp hend with ⟨hc, hend⟩ | ⟨hc, hk⟩
  · obtain ⟨unc, t4, hunc, hrm⟩ := run_bind_ok.mp hend
    exact ⟨bi.step tp hd (stmt_unc bi tp hd hunc hrm)
      (fun m hm => ⟨(tp.gi.marks m hm).1, fun e' => tp.nm (e' ▸ hm)⟩) hbind hres, k5,
      Or.inl ⟨hc, unc, t4, u4, hunc, hrm⟩⟩
  · exact ⟨bi.step tp hd (stmt_keep bi tp hd hk) (fun m hm => by cases hm) hbind hres, k5, Or.inr ⟨hc, u4, hk⟩⟩

theorem defsG {retBits : Option (List String)} {doUnc : Bool} :
    ∀ (defs : List (String × BExp)) (scope : List String) (env : List (String × Bool)) {u : Unit} {s s' : CState},
    (compileDefs retBits doUnc defs).run s = .ok (u, s') → BI scope (envOf env) σ0 s →
    genDefs scope defs = true → BI (scope ++ defs.map (·.1)) (envOf (evalDefs defs env)) σ0 s'
  | [], scope, env, u, s, s', h, bi, _ => by
    unfold compileDefs at h
    obtain ⟨_, rfl⟩ := run_pure_ok.mp h
    rw [List.map_nil, List.append_nil]
    exact bi
  | (r, e) :: rest, scope, env, u, s, s', h, bi, hgen => by
    obtain ⟨hrest, _, _, _, t5, _, _, _, bi', k5, _⟩ := stmt_g h bi hgen
    have := defsG rest (scope ++ [r]) ((r, e.eval (envOf env)) :: env) k5 bi' hrest
    rwa [List.append_assoc] at this

theorem init_bi {inputs : List String} {cs : List Nat} {x : List Bool} (N : Nat)
    (hnd : inputs.Nodup) (hfresh : ∀ n ∈ inputs, reservedName n = false) (hx : x.length = inputs.length) :
    BI inputs (envOf (inputs.zip x)) (toF (initState x N)) (entry cs inputs) :=
  ⟨entry_pre2 N hnd hfresh hx, List.forall_mem_nil _, rfl, List.forall_mem_nil _, List.forall_mem_nil _⟩

/-- the general class, final uncomputation on or off: the qubit mapped to a name that is an argument or a left-hand
side – and, with final uncomputation on, a requested return bit – ends with the value the reference semantics
`evalDefs` gives the name, on every input -/
theorem compile_general_sem {inputs : List String} {defs : List (String × BExp)} {rets : List String}
    {unc : Bool} {cs : List Nat} {s : CState}
    (h : (compile inputs defs (some rets) unc).run { choices := cs } = .ok ((), s))
    (hnd : inputs.Nodup) (hfresh : ∀ n ∈ inputs, reservedName n = false)
    (hgen : genDefs inputs defs = true)
    (x : List Bool) (hx : x.length = inputs.length) (r : String) (hr : r ∈ inputs ∨ ∃ p ∈ defs, p.1 = r)
    (hrr : unc = true → r ∈ rets) :
    ∃ q, dictGet? s.qc.qmap r = some q ∧
      (runClassical s.qc.gates.toList (initState x s.qc.numQubits)).getD q false =
        envOf (evalDefs defs (inputs.zip x)) r := by
  obtain ⟨s2, hdefs, hend⟩ := compile_frame h x hx
  have hfin := defsG defs inputs (inputs.zip x) hdefs (init_bi s.qc.numQubits hnd hfresh hx) hgen
  have hrs : r ∈ inputs ++ defs.map (·.1) := by
    rcases hr with hr | ⟨p, hpd, rfl⟩
    · exact List.mem_append_left _ hr
    · exact List.mem_append_right _ (List.mem_map.mpr ⟨p, hpd, rfl⟩)
  obtain ⟨q, hq⟩ := hfin.bound r hrs
  obtain ⟨hq', hv⟩ := hend r q hq hrr
  exact ⟨q, hq', by rw [hv, (hfin.tbl r q (Or.inl hrs) hq).2.2, kval_scope hfin.scopeOK hrs]⟩

mutual
theorem wfExpG_of_wfExpW {scope : List String} : ∀ e : BExp, wfExpW scope false e = true → wfExpG scope e = true
  | .sym _, h => by simpa [wfExpW, wfExpG] using h
  | .tt, _ => rfl
  | .ff, _ => rfl
  | .not a, h => by
    have h' : wfExpW scope false a = true := by simpa [wfExpW] using h
    simpa [wfExpG] using wfExpG_of_wfExpW a h'
  | .and l, h => by
    have h' : wfExpListW scope false l = true := by simpa [wfExpW] using h
    simpa [wfExpG] using wfExpListG_of_wfExpListW l h'
  | .or l, h => by
    simp only [wfExpW, Bool.and_eq_true, Bool.or_eq_true, Bool.false_eq_true, false_or] at h
    simp only [wfExpG, Bool.and_eq_true]
    exact ⟨wfExpListG_of_wfExpListW l h.1, h.2⟩
  | .xor l, h => by
    simp only [wfExpW, Bool.and_eq_true, Bool.or_eq_true, Bool.false_eq_true, false_or] at h
    simp only [wfExpG, Bool.and_eq_true]
    exact ⟨⟨wfExpListG_of_wfExpListW l h.1.1, h.1.2⟩, h.2⟩
  | .ite _ _ _, h => by simp [wfExpW] at h
  | .imp _ _, h => by simp [wfExpW] at h
theorem wfExpListG_of_wfExpListW {scope : List String} : ∀ l : List BExp, wfExpListW scope false l = true →
    wfExpListG scope l = true
  | [], _ => rfl
  | a :: as, h => by
    simp only [wfExpListW, Bool.and_eq_true] at h
    simp only [wfExpListG, Bool.and_eq_true]
    exact ⟨wfExpG_of_wfExpW a h.1, wfExpListG_of_wfExpListW as h.2⟩
end

theorem genDefs_of_slDefsW : ∀ (defs : List (String × BExp)) (scope : List String),
    slDefsW scope defs = true → genDefs scope defs = true
  | [], _, _ => rfl
  | (r, e) :: rest, scope, h => by
    simp only [slDefsW, Bool.and_eq_true, Bool.not_eq_true', List.contains_eq_mem, decide_eq_false_iff_not] at h
    obtain ⟨⟨⟨hres, hnr⟩, hwf⟩, hrest⟩ := h
    simp only [genDefs, Bool.and_eq_true, Bool.not_eq_true']
    refine ⟨⟨⟨hres, wfExpG_of_wfExpW e hwf⟩, ?_⟩, genDefs_of_slDefsW rest _ hrest⟩
    cases e with
    | not a =>
      cases a with
      | sym n =>
        simp only [selfNot, beq_eq_false_iff_ne, ne_eq]
        rintro rfl
        exact hnr (by simpa [wfExpW] using hwf)
      | _ => rfl
    | _ => rfl

/-- the class of `C02_fragment_named_wide` (hence `inFragmentNamed`, `inFragmentMulti`) lies in the general class -/
theorem inGeneral_of_inFragmentNamedW {inputs : List String} {defs : List (String × BExp)} {rets : List String}
    (h : inFragmentNamedW inputs defs rets = true) : inGeneral inputs defs rets = true := by
  simp only [inFragmentNamedW, Bool.and_eq_true] at h
  simp only [inGeneral, Bool.and_eq_true]
  refine ⟨⟨h.1.1.1, genDefs_of_slDefsW _ _ h.1.1.2⟩, ?_⟩
  have := h.2
  simp only [List.all_eq_true] at this ⊢
  intro r hr
  simp only [Bool.or_eq_true]
  exact Or.inr (this r hr)

theorem inGeneral_parts {inputs : List String} {defs : List (String × BExp)} {rets : List String}
    (h : inGeneral inputs defs rets = true) :
    inputs.Nodup ∧ (∀ n ∈ inputs, reservedName n = false) ∧ genDefs inputs defs = true ∧
      ∀ r ∈ rets, r ∈ inputs ∨ ∃ p ∈ defs, p.1 = r := by
  simp only [inGeneral, Bool.and_eq_true, decide_eq_true_eq, List.all_eq_true, Bool.not_eq_true',
    Bool.or_eq_true, List.contains_eq_mem, List.any_eq_true, beq_iff_eq] at h
  exact ⟨h.1.1.1, h.1.1.2, h.1.2, h.2⟩

theorem inGeneralClean_parts {inputs : List String} {defs : List (String × BExp)} {rets : List String}
    (h : inGeneralClean inputs defs rets = true) :
    inGeneral inputs defs rets = true ∧ keptThenRet rets inputs defs = true := by
  simpa only [inGeneralClean, Bool.and_eq_true] using h

theorem inGeneralClass_of_clean {inputs : List String} {defs : List (String × BExp)} {rets : List String}
    (h : inGeneralClean inputs defs rets = true) : inGeneralClass inputs defs rets = true := by
  simp only [inGeneralClass, (inGeneralClean_parts h).1, Bool.true_or]

theorem inGeneralCleanClass_of_clean {inputs : List String} {defs : List (String × BExp)} {rets : List String}
    (h : inGeneralClean inputs defs rets = true) : inGeneralCleanClass inputs defs rets = true := by
  simp only [inGeneralCleanClass, h, Bool.true_or]

end QV.Compiler
