import QV.Proofs.Circuit
/-! `uncompute_all(keep)` appends, in reverse order, the gates whose target is not kept.  That is right if no replayed
gate reads a kept qubit (`ReplaySafe`): the kept qubits are as the body left them, the others as at the start. -/
namespace QV
open QV.Compiler

def AgreeOff (K : Nat → Bool) (s t : BState) : Prop :=
  s.length = t.length ∧ ∀ q, K q = false → s.getD q false = t.getD q false

theorem AgreeOff.refl (K : Nat → Bool) (s : BState) : AgreeOff K s s := ⟨rfl, fun _ _ => rfl⟩

theorem AgreeOff.symm {K : Nat → Bool} {s t : BState} (h : AgreeOff K s t) : AgreeOff K t s :=
  ⟨h.1.symm, fun q hq => (h.2 q hq).symm⟩

theorem AgreeOff.trans {K : Nat → Bool} {s t u : BState} (h1 : AgreeOff K s t) (h2 : AgreeOff K t u) :
    AgreeOff K s u :=
  ⟨h1.1.trans h2.1, fun q hq => (h1.2 q hq).trans (h2.2 q hq)⟩

def targetIn (K : Nat → Bool) (g : AGate) : Bool :=
  match g.wires.getLast? with
  | some t => K t
  | none => false

def controlsOff (K : Nat → Bool) (g : AGate) : Bool := g.wires.dropLast.all (fun c => !K c)

theorem step_target_in (K : Nat → Bool) (g : AGate) (s : BState) (h : targetIn K g = true) :
    AgreeOff K (stepClassical s g) s := by
  refine ⟨stepClassical_length g s, fun q hq => ?_⟩
  unfold stepClassical
  split
  · unfold targetIn at h
    cases ht : g.wires.getLast? with
    | none => simp [AGate.applyClassical, ht]
    | some t =>
      rw [ht] at h
      apply applyClassical_getD_of_ne_target g s q
      rw [ht]; intro e
      have : t = q := by simpa using e
      subst this; simp [hq] at h
  · rfl

theorem controls_agree (K : Nat → Bool) (cs : List Nat) (s t : BState) (h : AgreeOff K s t)
    (hc : cs.all (fun c => !K c) = true) :
    cs.all (fun c => s.getD c false) = cs.all (fun c => t.getD c false) := by
  induction cs with
  | nil => rfl
  | cons c cs ih =>
    simp only [List.all_cons, Bool.and_eq_true] at hc ⊢
    rw [ih hc.2, h.2 c (by simpa using hc.1)]

theorem step_congr (K : Nat → Bool) (g : AGate) (s t : BState) (h : AgreeOff K s t)
    (hc : controlsOff K g = true) : AgreeOff K (stepClassical s g) (stepClassical t g) := by
  unfold stepClassical
  split
  · unfold AGate.applyClassical
    cases g.wires.getLast? with
    | none => exact h
    | some tg =>
      simp only [controls_agree K _ s t h hc]
      split
      · refine ⟨by simp [flip_length, h.1], fun q hq => ?_⟩
        rw [flip_getD, flip_getD, h.2 q hq, h.1]
      · exact h
  · exact h

/-- the gates of `gs` that `uncompute_all(keep)` replays -/
def replayed (K : Nat → Bool) (gs : List AGate) : List AGate := gs.filter (fun g => !targetIn K g)

def ReplaySafe (K : Nat → Bool) (gs : List AGate) : Prop :=
  ∀ g ∈ gs, targetIn K g = false → controlsOff K g = true

theorem run_congr (K : Nat → Bool) (gs : List AGate) (hs : ∀ g ∈ gs, controlsOff K g = true)
    (s t : BState) (h : AgreeOff K s t) : AgreeOff K (runClassical gs s) (runClassical gs t) := by
  induction gs generalizing s t with
  | nil => exact h
  | cons g gs ih =>
    rw [runClassical_cons, runClassical_cons]
    exact ih (fun g' hg' => hs g' (List.mem_cons_of_mem _ hg')) _ _
      (step_congr K g s t h (hs g List.mem_cons_self))

theorem run_agree_replayed (K : Nat → Bool) (gs : List AGate) (hs : ReplaySafe K gs)
    (s t : BState) (h : AgreeOff K s t) :
    AgreeOff K (runClassical gs s) (runClassical (replayed K gs) t) := by
  induction gs generalizing s t with
  | nil => exact h
  | cons g gs ih =>
    have hs' : ReplaySafe K gs := fun g' hg' => hs g' (List.mem_cons_of_mem _ hg')
    rw [runClassical_cons]
    by_cases hk : targetIn K g = true
    · have : replayed K (g :: gs) = replayed K gs := by simp [replayed, hk]
      rw [this]
      exact ih hs' _ _ ((step_target_in K g s hk).trans h)
    · have hk' : targetIn K g = false := by simpa using hk
      have : replayed K (g :: gs) = g :: replayed K gs := by simp [replayed, hk']
      rw [this, runClassical_cons]
      exact ih hs' _ _ (step_congr K g s t h (hs g List.mem_cons_self hk'))

theorem kept_unchanged (K : Nat → Bool) (gs : List AGate) (h : ∀ g ∈ gs, targetIn K g = false)
    (q : Nat) (hq : K q = true) (s : BState) :
    (runClassical gs s).getD q false = s.getD q false := by
  refine runClassical_getD_untargeted gs q (fun g hg e => ?_) s
  have := h g hg
  simp only [targetIn, e, hq] at this
  cases this

theorem bennett_replay (K : Nat → Bool) (gs : List AGate) (hn : ∀ g ∈ gs, g.wires.Nodup)
    (hs : ReplaySafe K gs) (s : BState) :
    let final := runClassical (gs ++ (replayed K gs).reverse) s
    (∀ q, K q = true → final.getD q false = (runClassical gs s).getD q false) ∧
    (∀ q, K q = false → final.getD q false = s.getD q false) := by
  have hmem : ∀ g ∈ replayed K gs, g ∈ gs ∧ targetIn K g = false := by
    intro g hg
    have := List.mem_filter.mp hg
    exact ⟨this.1, by simpa using this.2⟩
  have hrev_t : ∀ g ∈ (replayed K gs).reverse, targetIn K g = false :=
    fun g hg => (hmem g (List.mem_reverse.mp hg)).2
  have hrev_c : ∀ g ∈ (replayed K gs).reverse, controlsOff K g = true := fun g hg =>
    let ⟨h1, h2⟩ := hmem g (List.mem_reverse.mp hg)
    hs g h1 h2
  simp only [runClassical_append]
  refine ⟨fun q hq => kept_unchanged K _ hrev_t q hq _, fun q hq => ?_⟩
  have h1 := run_agree_replayed K gs hs s s (AgreeOff.refl K s)
  have h2 := run_congr K _ hrev_c _ _ h1
  have h3 : runClassical (replayed K gs).reverse (runClassical (replayed K gs) s) = s :=
    runClassical_reverse_left _ (fun g hg _ => hn g (hmem g hg).1) s
  rw [h3] at h2
  exact h2.2 q hq

end QV
