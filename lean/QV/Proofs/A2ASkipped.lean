import QV.Proofs.A2ASrcSem
/-! The guard-stack semantics `QV.A2A.exec` is control flow: a statement that sits under a guard that does not
hold changes no value (it only widens types), and under guards that all hold `wrapW` is the new value (`wrapW_taken`). -/
namespace QV.A2A
open QV.Sem

/-- the same python value (a `Qint` may have been widened) -/
def sameVal : Option SVal → Option SVal → Prop
  | some (.bool a), some (.bool b) => a = b
  | some (.int _ x), some (.int _ y) => x = y
  | none, none => True
  | _, _ => False

theorem sameVal_refl (a : Option SVal) : sameVal a a := by
  cases a with
  | none => trivial
  | some v => cases v <;> simp [sameVal]

theorem sameVal_trans {a b c : Option SVal} (h1 : sameVal a b) (h2 : sameVal b c) : sameVal a c := by
  cases a with
  | none => cases b with
    | none => exact h2
    | some v => cases v <;> simp [sameVal] at h1
  | some u =>
    cases b with
    | none => cases u <;> simp [sameVal] at h1
    | some v =>
      cases c with
      | none => cases v <;> simp [sameVal] at h2
      | some w =>
        cases u <;> cases v <;> cases w <;> simp [sameVal] at h1 h2 ⊢
        all_goals exact h1.trans h2

def SameVals (σ σ' : SEnv) : Prop := ∀ n, sameVal (σ n) (σ' n)

theorem SameVals.refl (σ : SEnv) : SameVals σ σ := fun _ => sameVal_refl _

theorem SameVals.trans {a b c : SEnv} (h1 : SameVals a b) (h2 : SameVals b c) : SameVals a c :=
  fun n => sameVal_trans (h1 n) (h2 n)

theorem allHold_append (gs hs : List (SVal × Bool)) : allHold (gs ++ hs) = (allHold gs && allHold hs) := by
  induction gs with
  | nil => simp [allHold]
  | cons q gs ih => obtain ⟨g, w⟩ := q; cases g <;> simp [allHold, ih, Bool.and_assoc]

theorem allHold_append_false (gs : List (SVal × Bool)) (p : SVal × Bool) (h : allHold gs = false) :
    allHold (gs ++ [p]) = false := by
  rw [allHold_append, h]; rfl

theorem selW_sameVal (h : Bool) (v o w : SVal) (hw : selW (.bool h) v o = some w) :
    sameVal (some (if h then v else o)) (some w) := by
  cases v <;> cases o <;> simp [selW] at hw <;> subst hw <;> cases h <;> simp [sameVal]

theorem wrapW_sameVal (gs : List (SVal × Bool)) (v o w : SVal) (hw : wrapW gs v o = some w) :
    sameVal (some (if allHold gs then v else o)) (some w) := by
  cases gs with
  | nil => cases hw; exact sameVal_refl _
  | cons p gs =>
    rw [wrapW_closed (p :: gs) (by simp)] at hw
    split at hw
    · exact selW_sameVal _ v o w hw
    · cases hw

theorem wrapW_skipped (gs : List (SVal × Bool)) (h : allHold gs = false) (v o w : SVal)
    (hw : wrapW gs v o = some w) : sameVal (some o) (some w) := by
  simpa [h] using wrapW_sameVal gs v o w hw

theorem wrapW_taken (gs : List (SVal × Bool)) (h : allHold gs = true) (v o w : SVal)
    (hw : wrapW gs v o = some w) : sameVal (some v) (some w) := by
  simpa [h] using wrapW_sameVal gs v o w hw

theorem assignG_skipped (gs : List (SVal × Bool)) (h : allHold gs = false) (σ σ' : SEnv) (t : String) (v : SVal)
    (ha : assignG gs σ t v = some σ') : SameVals σ σ' := by
  rw [assignG_eq] at ha
  obtain ⟨w, hw, rfl⟩ := Option.map_eq_some_iff.mp ha
  cases gs with
  | nil => simp [allHold] at h
  | cons p gs =>
    obtain ⟨o, ho, hw'⟩ : ∃ o, σ t = some o ∧ wrapW (p :: gs) v o = some w := Option.bind_eq_some_iff.mp hw
    intro n
    by_cases hn : n = t
    · subst hn
      rw [set_eq, ho]
      exact wrapW_skipped _ h v o w hw'
    · rw [set_ne _ _ _ _ hn]
      exact sameVal_refl _

theorem foldlM_sameVals {α : Type} (f : SEnv → α → Option SEnv)
    (hf : ∀ σ a σ', f σ a = some σ' → SameVals σ σ') :
    ∀ (l : List α) (σ σ' : SEnv), l.foldlM f σ = some σ' → SameVals σ σ'
  | [], σ, σ', h => by
    cases h; exact SameVals.refl _
  | a :: l, σ, σ', h => by
    rw [List.foldlM_cons, Option.bind_eq_bind] at h
    obtain ⟨σ1, h1, h⟩ := Option.bind_eq_some_iff.mp h
    exact (hf σ a σ1 h1).trans (foldlM_sameVals f hf l σ1 σ' h)

theorem exec_assign_some {gs : List (SVal × Bool)} {σ σ' : SEnv} {ts : List SExp} {e : SExp}
    (h : exec gs σ (.assign ts e) = some σ') :
    ∃ t v, ts = [.name t] ∧ semW σ (toP e) = some v ∧ assignG gs σ t v = some σ' := by
  cases ts with
  | nil => simp [exec] at h
  | cons a r =>
    cases r with
    | cons b r' => cases a <;> simp [exec] at h
    | nil =>
      cases a with
      | name t =>
        rw [exec_assign] at h
        obtain ⟨v, hv, h⟩ := Option.bind_eq_some_iff.mp h
        exact ⟨t, v, rfl, hv, h⟩
      | _ => simp [exec] at h

theorem allHold_snoc_wrong (gs : List (SVal × Bool)) (g w : Bool) (h : g ≠ w) :
    allHold (gs ++ [(.bool g, w)]) = false := by
  rw [allHold_append]; cases g <;> cases w <;> simp [allHold] at h ⊢

mutual
/-- under a guard stack one of whose guards does not hold, whatever the statement does (assignments, loops, nested
`if`s) leaves every variable with the python value it had -/
theorem exec_skipped_keeps_values : ∀ (s : SStmt) (gs : List (SVal × Bool)), allHold gs = false →
    ∀ (σ σ' : SEnv), exec gs σ s = some σ' → SameVals σ σ'
  | .assign ts e, gs, hg, σ, σ', h => by
    obtain ⟨t, v, _, _, ha⟩ := exec_assign_some h
    exact assignG_skipped gs hg σ σ' t v ha
  | .aug tg op e, gs, hg, σ, σ', h => by
    cases tg with
    | name t =>
      rw [exec_aug] at h
      obtain ⟨v, _, ha⟩ := Option.bind_eq_some_iff.mp h
      exact assignG_skipped gs hg σ σ' t v ha
    | _ => simp [exec] at h
  | .expr _, gs, hg, σ, σ', h => by
    simp only [exec, Option.some.injEq] at h
    subst h; exact SameVals.refl _
  | .ifs c b e, gs, hg, σ, σ', h => by
    rw [exec_ifs] at h
    obtain ⟨g, _, h⟩ := Option.bind_eq_some_iff.mp h
    obtain ⟨σ1, hb, he⟩ := Option.bind_eq_some_iff.mp h
    exact (execList_skipped_keeps_values b _ (allHold_append_false gs _ hg) σ σ1 hb).trans
      (execList_skipped_keeps_values e _ (allHold_append_false gs _ hg) σ1 σ' he)
  | .for_ tg it b e, gs, hg, σ, σ', h => by
    cases tg with
    | name v =>
      rw [exec_for] at h
      obtain ⟨vals, _, h⟩ := Option.bind_eq_some_iff.mp h
      obtain ⟨σ1, hfold, he⟩ := Option.bind_eq_some_iff.mp h
      refine SameVals.trans (foldlM_sameVals _ ?_ vals σ σ1 hfold) (execList_skipped_keeps_values e gs hg σ1 σ' he)
      intro σa val σb hstep
      rw [forStep_eq] at hstep
      obtain ⟨x, _, hstep⟩ := Option.bind_eq_some_iff.mp hstep
      obtain ⟨σc, ha, hb⟩ := Option.bind_eq_some_iff.mp hstep
      exact (assignG_skipped gs hg σa σc v x ha).trans (execList_skipped_keeps_values b gs hg σc σb hb)
    | _ => simp [exec] at h
  | .ann _ _ _, _, _, _, _, h => by simp [exec] at h
  | .ret _, _, _, _, _, h => by simp [exec] at h
  | .other _, _, _, _, _, h => by simp [exec] at h
theorem execList_skipped_keeps_values : ∀ (ss : List SStmt) (gs : List (SVal × Bool)), allHold gs = false →
    ∀ (σ σ' : SEnv), execList gs σ ss = some σ' → SameVals σ σ'
  | [], gs, hg, σ, σ', h => by
    simp only [execList, Option.some.injEq] at h
    subst h; exact SameVals.refl _
  | s :: ss, gs, hg, σ, σ', h => by
    rw [execList_cons] at h
    obtain ⟨σ1, h1, h⟩ := Option.bind_eq_some_iff.mp h
    exact (exec_skipped_keeps_values s gs hg σ σ1 h1).trans (execList_skipped_keeps_values ss gs hg σ1 σ' h)
end

/-- the test is evaluated once, to `g`; the statements of the branch `g` does not
select change no value -/
theorem if_runs_one_branch (gs : List (SVal × Bool)) (σ σ1 σ' : SEnv) (c : SExp) (b e : List SStmt) (g : Bool)
    (hc : semW σ (toP c) = some (.bool g)) (hb : execList (gs ++ [(.bool g, true)]) σ b = some σ1)
    (he : execList (gs ++ [(.bool g, false)]) σ1 e = some σ') :
    exec gs σ (.ifs c b e) = some σ' ∧ (g = false → SameVals σ σ1) ∧ (g = true → SameVals σ1 σ') := by
  refine ⟨by simp only [exec, hc, hb, he], fun hg => ?_, fun hg => ?_⟩
  · subst hg
    exact execList_skipped_keeps_values b _ (allHold_snoc_wrong gs false true (by decide)) σ σ1 hb
  · subst hg
    exact execList_skipped_keeps_values e _ (allHold_snoc_wrong gs true false (by decide)) σ1 σ' he

end QV.A2A
