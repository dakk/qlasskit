import QV.Proofs.A2ASimStmt
namespace QV.A2A
open QV.Front QV.Sem

theorem semBody_append_assigns (ret : Ty) (σ : SEnv) (A B : List Front.Stmt)
    (hA : ∀ x ∈ A, ∃ t e, x = Front.Stmt.assign t e) :
    semBody ret σ (A ++ B) = (runA σ A).bind (semBody ret · B) := by
  induction A generalizing σ with
  | nil => rfl
  | cons a A ih =>
    obtain ⟨t, e, rfl⟩ := hA a (List.mem_cons_self)
    rw [List.cons_append, runA_cons]
    simp only [semBody]
    cases semW σ e with
    | none => rfl
    | some v => exact ih _ (fun x hx => hA x (List.mem_cons_of_mem _ hx))

theorem execBody_cons (ret : Ty) (σ : SEnv) (s : SStmt) (ss : List SStmt) (h : ∀ e, s ≠ .ret (some e)) :
    execBody ret σ (s :: ss) = (exec [] σ s).bind (execBody ret · ss) := by
  cases s with
  | ret v =>
    cases v with
    | none => rfl
    | some e => exact absurd rfl (h e)
  | _ => simp only [execBody]; cases exec [] σ _ <;> rfl

theorem okS_not_ret (s : SStmt) (h : okS s = true) : ∀ e, s ≠ .ret (some e) := by
  intro e he; subst he; simp [okS] at h

theorem body_preserved (ret : Ty) : ∀ (ss : List SStmt), ss.all okTop = true → ∀ (st st' : RSt) (L : List SStmt),
    (rwSs [] ss).run st = .ok (L, st') → KnownOK st → ∀ (σs σr : SEnv), Rel σs σr →
    semBody ret σr (L.map toStmt) = execBody ret σs ss
  | [], _, st, st', L, h, _, σs, σr, _ => by
    simp only [rwSs, SE.run_pure_ok] at h
    obtain ⟨rfl, rfl⟩ := h
    rfl
  | s :: ss, hok, st, st', L, h, hk, σs, σr, hrel => by
    simp only [List.all_cons, Bool.and_eq_true] at hok
    simp only [rwSs, SE.run_bind_ok, SE.run_pure_ok] at h
    obtain ⟨L1, s1, h1, L2, s2, h2, rfl, rfl⟩ := h
    have hmain : okS s = true → semBody ret σr ((L1 ++ L2).map toStmt) = execBody ret σs (s :: ss) := by
      intro hs
      obtain ⟨he1, hg1, hs1⟩ := sim_stmt s hs [] st s1 L1 h1 hk (fun p hp => by simp at hp)
      rw [List.map_append, semBody_append_assigns ret σr _ _ (fun x hx => by
        simp only [List.mem_map] at hx
        obtain ⟨y, hy, rfl⟩ := hx
        obtain ⟨t, v, rfl⟩ := hg1 y hy
        exact ⟨t, toP v, rfl⟩), execBody_cons ret σs s ss (okS_not_ret s hs)]
      refine ((hs1 [] [] σs σr hrel (fun p hp => by simp at hp) rfl (fun p hp => by simp at hp) (fun _ => rfl)
        (fun _ => rfl)).bind_eq ?_).symm
      exact fun σs1 σ1 ⟨hrel1, _⟩ => (body_preserved ret ss hok.2 s1 _ L2 h2 (he1.known hk) σs1 σ1 hrel1).symm
    cases s with
    | ret v =>
      cases v with
      | none => simp [okTop, okS] at hok
      | some e =>
        have he : plainE e = true := by simpa [okTop] using hok.1
        simp only [rwS, SE.run_bind_ok, rm_visitM_ok, SE.run_pure_ok, substE_nil, visitE_plain _ e he,
          Except.ok.injEq] at h1
        obtain ⟨_, _, ⟨rfl, rfl⟩, rfl, rfl⟩ := h1
        simp only [List.cons_append, List.nil_append, List.map_cons, toStmt, semBody, execBody,
          semW_congr' σr σs (toP e) (fun n hn => hrel n (mentions_plain n e he hn))]
        cases semW σs (toP e) <;> rfl
    | expr e =>
      have he : plainE e = true := by simpa [okTop] using hok.1
      simp only [rwS, SE.run_bind_ok, rm_visitM_ok, SE.run_pure_ok, substE_nil, visitE_plain _ e he,
        Except.ok.injEq] at h1
      obtain ⟨_, _, ⟨rfl, rfl⟩, rfl, rfl⟩ := h1
      simp only [List.cons_append, List.nil_append, List.map_cons, toStmt, semBody]
      rw [execBody_cons ret σs _ ss (fun e' he' => by cases he')]
      exact body_preserved ret ss hok.2 _ _ L2 h2 hk σs σr hrel
    | assign ts e => exact hmain (by simpa [okTop] using hok.1)
    | aug t op e => exact hmain (by simpa [okTop] using hok.1)
    | ifs c b e => exact hmain (by simpa [okTop] using hok.1)
    | ann _ _ _ => simp [okTop, okS] at hok
    | for_ t it b e => exact hmain (by simpa [okTop] using hok.1)
    | other _ => simp [okTop, okS] at hok

theorem known_foldl_insert (args : Args) (acc : List (String × EVal)) (n : String) :
    (lookup (args.foldl (fun l (p : String × SExp) => insert l p.1 (.ann p.2)) acc) n).isSome = true →
      n ∈ args.map (·.1) ∨ (lookup acc n).isSome = true := by
  induction args generalizing acc with
  | nil => intro h; exact Or.inr h
  | cons a args ih =>
    intro h
    simp only [List.foldl_cons] at h
    rcases ih _ h with h1 | h1
    · exact Or.inl (by simp [h1])
    · rcases lookup_insert _ _ _ _ h1 with h2 | h2
      · exact Or.inl (by simp [h2])
      · exact Or.inr h2

theorem knownOK_initSt (args : Args) (h : ∀ a ∈ args, userName a.1 = true) : KnownOK (initSt args) := by
  intro n hn
  simp only [RSt.known, initSt, Bool.or_eq_true] at hn
  rcases hn with hn | hn
  · have : (fun l (x : String × SExp) => insert l x.1 (EVal.ann x.2))
        = (fun (l : List (String × EVal)) (p : String × SExp) => match p with | (n, a) => insert l n (.ann a)) := by
      funext l x; cases x; rfl
    rw [← this] at hn
    rcases known_foldl_insert args [] n hn with h1 | h1
    · simp only [List.mem_map] at h1
      obtain ⟨a, ha, rfl⟩ := h1
      exact userName_not_dunder (h a ha)
    · simp [lookup] at h1
  · simp [lookup] at hn

-- the passes around the statement rewriter are the identity on the annotations `tyAnn` / `aargsOf` build (for `C01.ast2ast_of_rw`)
mutual
theorem replaceAnn_tyAnn : ∀ t : Ty, replaceAnn (tyAnn t) = .ok (tyAnn t)
  | .bool => rfl
  | .qint w => rfl
  | .qchar => rfl
  | .tuple ts => by
    simp [tyAnn, replaceAnn, replaceAnns_tyAnns ts, bind, Except.bind, pure, Except.pure]
theorem replaceAnns_tyAnns : ∀ ts : List Ty, replaceAnns (tyAnns ts) = .ok (tyAnns ts)
  | [] => by simp [tyAnns, replaceAnns, pure, Except.pure]
  | t :: ts => by
    simp [tyAnns, replaceAnns, replaceAnn_tyAnn t, replaceAnns_tyAnns ts, bind, Except.bind, pure, Except.pure]
end

theorem replaceArgs_aargsOf (p : SProg) : replaceArgs (aargsOf p) = .ok (aargsOf p) := by
  unfold aargsOf
  induction p.args with
  | nil => simp [replaceArgs, pure, Except.pure]
  | cons a as ih =>
    simp only [List.map_cons, replaceArgs, replaceAnn_tyAnn, ih, bind, Except.bind, pure, Except.pure]

theorem visitE_tyAnn (st : RSt) (t : Ty) : visitE st (tyAnn t) = .ok (tyAnn t) := by
  cases t with
  | bool => simp [tyAnn, visitE, pure, Except.pure]; decide
  | qint w => rfl
  | qchar => simp [tyAnn, visitE, pure, Except.pure]; decide
  | tuple ts => rfl

theorem replaceRet_tyAnn (t : Ty) : replaceRet (some (tyAnn t)) = .ok (some (tyAnn t)) := by
  simp [replaceRet, replaceAnn_tyAnn, bind, Except.bind, pure, Except.pure]

theorem visitRet_tyAnn (st : RSt) (t : Ty) : visitRet st (some (tyAnn t)) = .ok () := by
  simp [visitRet, visitE_tyAnn, bind, Except.bind, pure, Except.pure]

theorem visitAnns_aargsOf (st : RSt) (p : SProg) : visitAnns st ((aargsOf p).map (·.2)) = .ok () := by
  unfold aargsOf
  induction p.args with
  | nil => simp [visitAnns, pure, Except.pure]
  | cons a as ih =>
    simp only [List.map_cons, List.map_map, visitAnns, visitE_tyAnn, bind, Except.bind] at ih ⊢
    exact ih

/-- the statement of `C01.ast2ast_preserved_eq`: about `rwSs` from `initSt`; the passes around it are `C01.ast2ast_of_rw` -/
theorem rewrite_preserved_eq (p : SProg) (hp : okProg p = true) (L : List SStmt) (st : RSt)
    (h : (rwSs [] p.body).run (initSt (aargsOf p)) = .ok (L, st)) (ρ : String → Bool) :
    semProg ⟨p.args, p.ret, L.map toStmt⟩ ρ = execProg p ρ := by
  simp only [okProg, Bool.and_eq_true, List.all_eq_true] at hp
  have hk : KnownOK (initSt (aargsOf p)) := knownOK_initSt _ (by
    intro a ha
    simp only [aargsOf, List.mem_map] at ha
    obtain ⟨b, hb, rfl⟩ := ha
    exact hp.1 b hb)
  exact body_preserved p.ret p.body (by simpa [List.all_eq_true] using hp.2) _ _ L h hk _ _ (fun _ _ => rfl)

end QV.A2A
