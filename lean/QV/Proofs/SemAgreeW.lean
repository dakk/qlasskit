import QV.Proofs.SemAgreeTSem
namespace QV.Sem
open QV.Front

def XEnv.toXT (σ : XEnv) : XTEnv := fun n => (σ n).map .leaf

mutual
theorem semXT_le (σ : XEnv) : ∀ e : PExp, OLe (semXL σ e) (semXT σ.toXT e)
  | .name n => OLe.rfl
  | .cbool b => OLe.rfl
  | .cint c => by simp only [semXL, sem, semXT]; cases constWidth c <;> exact OLe.rfl
  | .cchar _ => fun _ h => nomatch h
  | .subs _ _ => fun _ h => nomatch h
  | .tuple _ => fun _ h => nomatch h
  | .unsupported _ => fun _ h => nomatch h
  | .not e => by rw [semXL_not, semXT_not]; exact (semXT_le σ e).bind fun _ => OLe.rfl
  | .inv e => by rw [semXL_inv, semXT_inv]; exact (semXT_le σ e).bind fun _ => OLe.rfl
  | .boolop isAnd vs => by rw [semXL_boolop, semXT_boolop]; exact (semXTList_le σ vs).bind fun _ => OLe.rfl
  | .ite c a b => by
    rw [semXL_ite, semXT_ite]
    exact (semXT_le σ c).bind fun _ => (semXT_le σ a).bind fun _ => (semXT_le σ b).bind fun _ => OLe.rfl
  | .cmp op l r => by
    rw [semXL_cmp, semXT_cmp]
    exact (semXT_le σ l).bind fun _ => (semXT_le σ r).bind fun _ => OLe.rfl
  | .bin op l r => by
    rw [semXL_bin, semXT_bin]
    refine (semXT_le σ l).bind fun _ => ?_
    split
    · exact OLe.rfl
    · exact (semXT_le σ r).bind fun _ => OLe.rfl
theorem semXTList_le (σ : XEnv) : ∀ es : List PExp, OLe (semXLList σ es) (semXTList σ.toXT es)
  | [] => OLe.rfl
  | e :: es => by
    rw [semXLList_cons, semXTList_cons]
    exact (semXT_le σ e).bind fun _ => (semXTList_le σ es).map _
end

theorem envAgreeT_leaf {σX : XEnv} {σW : SEnv} (h : EnvAgree σX σW) : EnvAgreeT σX.toXT σW.toT := by
  intro n xv sv hx hw
  simp only [XEnv.toXT, Option.map_eq_some_iff] at hx
  simp only [SEnv.toT, Option.map_eq_some_iff] at hw
  obtain ⟨x, hx, rfl⟩ := hx
  obtain ⟨s, hw, rfl⟩ := hw
  exact agreeT_leaf.mpr (h n x s hx hw)

/-- `SemW` against `Sem`: on every expression on which both are defined, the fixed-width value
agrees with the exact python value as far as the latter claims -/
theorem sem_agree (σX : XEnv) (σW : SEnv) (henv : EnvAgree σX σW) :
    ∀ (e : PExp) (sv : SVal) (xv : XVal), semW σW e = some sv → sem σX e = some xv → Agree xv sv := by
  intro e sv xv hw hx
  have h1 := semT_le σW σW.toT (fun n s hs => by simp only [SEnv.toT, hs, Option.map_some]) e sv.toT
    (by simp only [semWT, hw, Option.map_some])
  have h2 := semXT_le σX e (.leaf xv) (by simp only [semXL, hx, Option.map_some])
  exact agreeT_leaf.mp (semT_rel σX.toXT σW.toT (envAgreeT_leaf henv) e _ _ h2 h1)

theorem semList_agree (σX : XEnv) (σW : SEnv) (henv : EnvAgree σX σW) :
    ∀ (es : List PExp) (ss : List SVal) (xs : List XVal), semWList σW es = some ss →
      semList σX es = some xs → List.Forall₂ Agree xs ss
  | [], ss, xs, hw, hx => by
    simp only [semWList, Option.some.injEq] at hw
    simp only [semList, Option.some.injEq] at hx
    subst hw; subst hx
    exact List.Forall₂.nil
  | e :: es, ss, xs, hw, hx => by
    simp only [semWList] at hw
    simp only [semList] at hx
    cases hw1 : semW σW e with
    | none => simp [hw1] at hw
    | some s1 =>
    cases hw2 : semWList σW es with
    | none => simp [hw1, hw2] at hw
    | some ss2 =>
    cases hx1 : sem σX e with
    | none => simp [hx1] at hx
    | some x1 =>
    cases hx2 : semList σX es with
    | none => simp [hx1, hx2] at hx
    | some xs2 =>
    simp only [hw1, hw2, Option.some.injEq] at hw
    simp only [hx1, hx2, Option.some.injEq] at hx
    subst hw; subst hx
    exact List.Forall₂.cons (sem_agree σX σW henv e s1 x1 hw1 hx1) (semList_agree σX σW henv es ss2 xs2 hw2 hx2)

theorem envAgree_set {σX : XEnv} {σW : SEnv} (h : EnvAgree σX σW) (t : String) {xv : XVal} {sv : SVal}
    (ha : Agree xv sv) : EnvAgree (σX.set t xv) (σW.set t sv) := by
  intro n xv' sv' hx hw
  simp only [XEnv.set] at hx
  simp only [SEnv.set] at hw
  by_cases hn : (n == t) = true
  · simp only [hn, if_true, Option.some.injEq] at hx hw
    subst hx; subst hw; exact ha
  · simp only [hn] at hx hw
    exact h n xv' sv' hx hw

-- by cases, not from `semBodyT_agree`: the exact side has no inclusion of `semBodyX` in `semBodyXT`
theorem semBody_agree (ret : Ty) :
    ∀ (ss : List Stmt) (σX : XEnv) (σW : SEnv), EnvAgree σX σW → ∀ (sv : SVal) (xv : XVal),
      semBody ret σW ss = some sv → semBodyX ret σX ss = some xv → Agree xv sv
  | [], _, _, _, sv, xv, hw, _ => by simp [semBody] at hw
  | .assign t e :: ss, σX, σW, henv, sv, xv, hw, hx => by
    simp only [semBody] at hw
    simp only [semBodyX] at hx
    cases hw1 : semW σW e with
    | none => simp [hw1] at hw
    | some s1 =>
    cases hx1 : sem σX e with
    | none => simp [hx1] at hx
    | some x1 =>
    simp only [hw1] at hw
    simp only [hx1] at hx
    exact semBody_agree ret ss _ _ (envAgree_set henv t (sem_agree σX σW henv e s1 x1 hw1 hx1)) sv xv hw hx
  | .ret e :: ss, σX, σW, henv, sv, xv, hw, hx => by
    simp only [semBody] at hw
    simp only [semBodyX] at hx
    cases hw1 : semW σW e with
    | none => simp [hw1] at hw
    | some s1 =>
    cases hx1 : sem σX e with
    | none => simp [hx1] at hx
    | some x1 =>
    simp only [hw1] at hw
    simp only [hx1] at hx
    exact coerceRet_agree ret x1 s1 (sem_agree σX σW henv e s1 x1 hw1 hx1) sv xv hw hx
  | .expr _ :: ss, σX, σW, henv, sv, xv, hw, hx => by
    simp only [semBody] at hw
    simp only [semBodyX] at hx
    exact semBody_agree ret ss σX σW henv sv xv hw hx
  | .unsupported _ :: ss, _, _, _, sv, xv, hw, _ => by simp [semBody] at hw

theorem envAgree_args (args : List (String × Ty)) (ρ : QV.Env) :
    EnvAgree (argsEnvX args ρ) (argsEnv args ρ) := by
  intro n xv sv hx hw
  simp only [argsEnvX] at hx
  simp only [argsEnv] at hw
  cases hf : args.find? (·.1 == n) with
  | none => simp [hf] at hw
  | some p =>
    obtain ⟨m, ty⟩ := p
    simp only [hf] at hx hw
    cases ty with
    | bool =>
      simp only [decodeArg, Option.some.injEq] at hx hw
      subst hx; subst hw
      exact decode_agree ρ .bool n
    | qint w =>
      simp only [decodeArg, Option.some.injEq] at hx hw
      subst hx; subst hw
      exact decode_agree ρ (.qint w) n
    | qchar => simp at hx
    | tuple _ => simp at hx

theorem semProg_agree (p : Prog) (ρ : QV.Env) (sv : SVal) (xv : XVal)
    (hw : semProg p ρ = some sv) (hx : semProgX p ρ = some xv) : Agree xv sv :=
  semBody_agree p.ret p.body _ _ (envAgree_args p.args ρ) sv xv hw hx

end QV.Sem
