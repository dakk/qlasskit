import QV.Proofs.CompilerBennett
/-! The values on the qubits while `compile_expr` runs, in the generality every class of `QV.C02` needs:

* some names are *known* (`Kn`): their qubits are outside the free and the ancilla set and hold the value `kv` gives
  them – arguments, named intermediates, and, where the expression mentions them, the constants `TRUE` / `FALSE`
  (qubits created on first use);
* the free set may be non-empty: the *scratch space* of a state is `Avail s q` (`q` in the free set or not yet
  allocated), and every qubit of it is zero;
* kept ancillas (`kept_ancillas`, the ancillas of statements whose result the final `uncompute_all` undoes) are
  never in the free set, so no ancilla handed out by `get_free_ancilla` is kept and `mark_ancilla` marks it.

The induction over `compile_expr` is done once, for every `Kn` / `kv`, and used at `Kn := Known scope`,
`kv := kval ρ` (`Pre2` / `Sem2`) and at `Kn := (· ∈ inputs)`, `kv := ρ` (`Pre` / `Sem`, `CompilerFrag.lean`, where the
defined name may be any name that is not an argument – `TRUE` included). -/
namespace QV.Compiler
open QV

variable {Kn : String → Prop} {kv : String → Bool} {scope : List String} {ρ : Env} {σ0 : FState} {wo : Bool}
variable {Q Q' : FState → Nat → Prop} {W W' : Nat → Prop} {K K' : BExp → Prop} {Mk Mk' : Nat → Prop}

def Avail (s : CState) (q : Nat) : Prop := q ∈ s.qc.free ∨ s.qc.numQubits ≤ q

theorem Avail.congr {s s' : CState} (hf : s'.qc.free = s.qc.free) (hn : s'.qc.numQubits = s.qc.numQubits)
    (q : Nat) : Avail s' q ↔ Avail s q := by
  unfold Avail; rw [hf, hn]

theorem notAvail_lt {s : CState} {q : Nat} (h : ¬ Avail s q) : q < s.qc.numQubits :=
  Nat.lt_of_not_le fun hh => h (Or.inr hh)

theorem Good.qmap_notAvail {s : CState} (hg : Good s) {n : String} {q : Nat}
    (hq : dictGet? s.qc.qmap n = some q) (hf : q ∉ s.qc.free) : ¬ Avail s q := by
  rintro (h | h)
  · exact hf h
  · exact absurd (hg.qmap_lt _ (dictGet?_mem hq)) (by simp only; omega)

/-- the known names: arguments and earlier left-hand sides (`scope`) and the two constants; `kval ρ n` is the
value the qubit of a known name holds -/
def Known (scope : List String) (n : String) : Prop := n ∈ scope ∨ n = "TRUE" ∨ n = "FALSE"

def kval (ρ : Env) (n : String) : Bool := if n = "TRUE" then true else if n = "FALSE" then false else ρ n

theorem kval_TRUE : kval ρ "TRUE" = true := by simp [kval]
theorem kval_FALSE : kval ρ "FALSE" = false := by simp [kval]

theorem notReserved {n : String} (h : reservedName n = false) : n ≠ "TRUE" ∧ n ≠ "FALSE" ∧ ancLike n = false := by
  simp only [reservedName, scratchName, Bool.or_eq_false_iff, beq_eq_false_iff_ne, ne_eq] at h
  exact ⟨h.1.2, h.1.1, h.2⟩

theorem known_notAnc {n : String} (hs : ∀ m ∈ scope, reservedName m = false)
    (h : Known scope n) : ancLike n = false := by
  rcases h with h | rfl | rfl
  · exact (notReserved (hs n h)).2.2
  · decide
  · decide

theorem kval_scope {n : String} (hs : ∀ m ∈ scope, reservedName m = false)
    (h : n ∈ scope) : kval ρ n = ρ n := by
  unfold kval
  rw [if_neg (notReserved (hs n h)).1, if_neg (notReserved (hs n h)).2.1]

theorem Known.ne_of_fresh {r m : String} (hnr : r ∉ scope) (hT : r ≠ "TRUE")
    (hF : r ≠ "FALSE") (hm : Known scope m) : m ≠ r := by
  rintro rfl
  rcases hm with hm | hm | hm
  · exact hnr hm
  · exact hT hm
  · exact hF hm

/-- the qubit is the target of a gate in `gates_computed` (so the inline `uncompute` removes its mark) -/
def Tgt (s : CState) (q : Nat) : Prop := ∃ g ∈ s.qc.gatesComputed.toList, g.target = q

theorem cur_of_gates {s s' : CState} {l : List AGate}
    (h : s'.qc.gates.toList = s.qc.gates.toList ++ l) : cur σ0 s' = runF l (cur σ0 s) := by
  unfold cur; rw [h, runF_append]

/-- condition on the controls of an emitted gate, relative to the state `s'` at the end of the piece of
compilation the gate belongs to: the control is marked in `s'` (its gates will be replayed before) or is the
qubit of a known name and holds that name's value when the gate is applied -/
def CtlK (Kn : String → Prop) (kv : String → Bool) (s' : CState) : FState → Nat → Prop :=
  fun f c => c ∈ s'.qc.marked ∨ ∃ n, Kn n ∧ dictGet? s'.qc.qmap n = some c ∧ f c = kv n

/-- `W` qubits outside the scratch space the piece may have written, `K` cache keys added, `Mk` qubits marked, `Q`
the condition the controls of its gates satisfy.  `wo` is the flag `lax` of the expression class `wfExpW`.  With
`wo = true` (one definition with constants, `compile_const_sem`) `Or` / `Xor` without arguments are admitted, whose
ancilla is the target of no gate; then neither `Tgt` for the marked qubits nor `Q` for the controls is claimed, and
nothing is said about the ancillas the inline `uncompute` frees.  With `wo = false` (definition lists, `defs_sem`)
both are claimed: they are what `bennettF` needs to give the freed ancillas back as zeros.  A newly marked qubit is
an ancilla (so that the invariant need not say it of every mark), and the free set does not grow (`fkeep`). -/
structure SemK (Kn : String → Prop) (σ0 : FState) (wo : Bool) (Q : FState → Nat → Prop) (W : Nat → Prop) (K : BExp → Prop)
    (Mk : Nat → Prop) (s s' : CState) : Prop where
  nq : s.qc.numQubits ≤ s'.qc.numQubits
  avail : ∀ q, Avail s' q → Avail s q
  frame : ∀ q, ¬ W q → (¬ Avail s q ∨ Avail s' q) → cur σ0 s' q = cur σ0 s q
  keys : ∀ p ∈ s'.expq, (∃ p0 ∈ s.expq, p0.1 = p.1) ∨ K p.1
  marks : ∀ m ∈ s'.qc.marked, m ∈ s.qc.marked ∨ (Mk m ∧ m ∈ s'.qc.anc ∧ (wo = false → Tgt s' m))
  mkeep : ∀ m ∈ s.qc.marked, m ∈ s'.qc.marked
  akeep : ∀ a ∈ s.qc.anc, a ∈ s'.qc.anc
  qkeep : ∀ n q, Kn n → dictGet? s.qc.qmap n = some q → dictGet? s'.qc.qmap n = some q
  qnew : ∀ n q, dictGet? s'.qc.qmap n = some q → dictGet? s.qc.qmap n = some q ∨ s.qc.numQubits ≤ q
  kkeep : s'.qc.kept = s.qc.kept
  seg : ∃ l, s'.qc.gates.toList = s.qc.gates.toList ++ l ∧
      s'.qc.gatesComputed.toList = s.qc.gatesComputed.toList ++ l ∧
      (∀ g ∈ l, ¬ Avail s' g.target) ∧ (wo = false → CtlOK Q l (cur σ0 s))
  fkeep : ∀ q ∈ s'.qc.free, q ∈ s.qc.free

theorem SemK.refl (s : CState) : SemK Kn σ0 wo Q W K Mk s s :=
  ⟨Nat.le_refl _, fun _ h => h, fun _ _ _ => rfl, fun p hp => Or.inl ⟨p, hp, rfl⟩, fun _ hm => Or.inl hm,
   fun _ h => h, fun _ h => h, fun _ _ _ h => h, fun _ _ h => Or.inl h, rfl,
   ⟨[], by simp, by simp, fun _ h => absurd h List.not_mem_nil, fun _ => trivial⟩, fun _ h => h⟩

theorem SemK.trans' {W1 W2 : Nat → Prop}
    {K1 K2 : BExp → Prop} {Mk1 Mk2 : Nat → Prop} {s s1 s2 : CState}
    (h1 : SemK Kn σ0 wo Q W1 K1 Mk1 s s1) (h2 : SemK Kn σ0 wo Q W2 K2 Mk2 s1 s2) :
    SemK Kn σ0 wo Q (fun q => W1 q ∨ W2 q) (fun e => K1 e ∨ K2 e) (fun m => Mk1 m ∨ Mk2 m) s s2 := by
  obtain ⟨l1, g1, c1, t1, q1⟩ := h1.seg
  obtain ⟨l2, g2, c2, t2, q2⟩ := h2.seg
  refine ⟨Nat.le_trans h1.nq h2.nq, fun q h => h1.avail q (h2.avail q h), ?_, ?_, ?_,
    fun m h => h2.mkeep m (h1.mkeep m h), fun a h => h2.akeep a (h1.akeep a h),
    fun n q hn h => h2.qkeep n q hn (h1.qkeep n q hn h), ?_, h2.kkeep.trans h1.kkeep, ?_,
    fun q h => h1.fkeep q (h2.fkeep q h)⟩
  · intro q hw hav
    have hav1 : ¬ Avail s1 q ∨ Avail s2 q := by
      rcases hav with h | h
      · exact Or.inl (fun h' => h (h1.avail q h'))
      · exact Or.inr h
    have hav0 : ¬ Avail s q ∨ Avail s1 q := hav.imp id (h2.avail q)
    rw [h2.frame q (fun h => hw (Or.inr h)) hav1, h1.frame q (fun h => hw (Or.inl h)) hav0]
  · intro p hp
    rcases h2.keys p hp with ⟨p1, hp1, e1⟩ | hk
    · rcases h1.keys p1 hp1 with ⟨p0, hp0, e0⟩ | hk
      · exact Or.inl ⟨p0, hp0, e0.trans e1⟩
      · exact Or.inr (Or.inl (e1 ▸ hk))
    · exact Or.inr (Or.inr hk)
  · intro m hm
    rcases h2.marks m hm with h | h
    · rcases h1.marks m h with h | h
      · exact Or.inl h
      · refine Or.inr ⟨Or.inl h.1, h2.akeep m h.2.1, fun hwo => ?_⟩
        obtain ⟨g, hg, ht⟩ := h.2.2 hwo
        exact ⟨g, by rw [c2]; exact List.mem_append_left _ hg, ht⟩
    · exact Or.inr ⟨Or.inr h.1, h.2⟩
  · intro n q h
    rcases h2.qnew n q h with h | h
    · exact h1.qnew n q h
    · exact Or.inr (Nat.le_trans h1.nq h)
  · refine ⟨l1 ++ l2, by rw [g2, g1, List.append_assoc], by rw [c2, c1, List.append_assoc], ?_, ?_⟩
    · intro g hg
      rcases List.mem_append.mp hg with hg | hg
      · exact fun h => t1 g hg (h2.avail _ h)
      · exact t2 g hg
    · intro hwo
      rw [CtlOK.append]
      refine ⟨q1 hwo, ?_⟩
      rw [← cur_of_gates g1]
      exact q2 hwo

theorem SemK.mono {s s' : CState} (h : SemK Kn σ0 wo Q W K Mk s s')
    (hw : ∀ q, (¬ Avail s q ∨ Avail s' q) → W q → W' q) (hk : ∀ e, K e → K' e) (hm : ∀ m, Mk m → Mk' m) :
    SemK Kn σ0 wo Q W' K' Mk' s s' :=
  ⟨h.nq, h.avail, fun q hnw hav => h.frame q (fun hwq => hnw (hw q hav hwq)) hav,
   fun p hp => (h.keys p hp).imp id (hk _), fun m hm' => (h.marks m hm').imp id (fun x => ⟨hm _ x.1, x.2⟩),
   h.mkeep, h.akeep, h.qkeep, h.qnew, h.kkeep, h.seg, h.fkeep⟩

theorem SemK.monoQ {s s' : CState} (h : SemK Kn σ0 wo Q W K Mk s s') (hq : ∀ f c, Q f c → Q' f c) :
    SemK Kn σ0 wo Q' W K Mk s s' := by
  obtain ⟨l, g, c, t, q⟩ := h.seg
  exact ⟨h.nq, h.avail, h.frame, h.keys, h.marks, h.mkeep, h.akeep, h.qkeep, h.qnew, h.kkeep,
    ⟨l, g, c, t, fun hwo => CtlOK.mono hq l _ (q hwo)⟩, h.fkeep⟩

theorem Tgt.of_sem {s s' : CState} {q : Nat} (sem : SemK Kn σ0 wo Q W K Mk s s')
    (h : Tgt s q) : Tgt s' q := by
  obtain ⟨l, _, c, _, _⟩ := sem.seg
  obtain ⟨g, hg, ht⟩ := h
  exact ⟨g, by rw [c]; exact List.mem_append_left _ hg, ht⟩

theorem SemK.of_quiet {s s' : CState}
    (hg : s'.qc.gates = s.qc.gates) (hc : s'.qc.gatesComputed = s.qc.gatesComputed)
    (hn : s'.qc.numQubits = s.qc.numQubits) (hf : s'.qc.free = s.qc.free) (ha : s'.qc.anc = s.qc.anc)
    (hq : s'.qc.qmap = s.qc.qmap) (hkp : s'.qc.kept = s.qc.kept)
    (hk : ∀ p ∈ s'.expq, (∃ p0 ∈ s.expq, p0.1 = p.1) ∨ K p.1)
    (hm : ∀ m ∈ s'.qc.marked, m ∈ s.qc.marked ∨ (Mk m ∧ m ∈ s'.qc.anc ∧ (wo = false → Tgt s' m)))
    (hmk : ∀ m ∈ s.qc.marked, m ∈ s'.qc.marked) :
    SemK Kn σ0 wo Q W K Mk s s' := by
  refine ⟨Nat.le_of_eq hn.symm, ?_, ?_, hk, hm, hmk, fun a h => by rw [ha]; exact h,
    fun n q _ h => by rw [hq]; exact h, fun n q h => Or.inl (by rw [← hq]; exact h), hkp,
    ⟨[], by rw [hg]; simp, by rw [hc]; simp, fun _ h => absurd h List.not_mem_nil, fun _ => trivial⟩,
    fun q h => by rw [← hf]; exact h⟩
  · intro q h; exact (Avail.congr hf hn q).mp h
  · intro q _ _; rw [cur_congr hg]

/-- the state invariant under which every piece of `compile_expr` runs: the scratch space is zero (`zero`), the
qubit of every known name is outside the free and the ancilla set and holds the name's value (`tbl`), no known
name has the shape of an ancilla name (`knOK`), free qubits are ancillas, kept ancillas are never free (`keptNF`) -/
structure PreK (Kn : String → Prop) (kv : String → Bool) (σ0 : FState) (s : CState) : Prop where
  good : Good s
  zero : ∀ q, Avail s q → cur σ0 s q = false
  tbl : ∀ n q, Kn n → dictGet? s.qc.qmap n = some q →
    q ∉ s.qc.free ∧ q ∉ s.qc.anc ∧ cur σ0 s q = kv n
  knOK : ∀ n, Kn n → ancLike n = false
  freeNd : s.qc.free.Nodup
  freeAnc : ∀ q ∈ s.qc.free, q ∈ s.qc.anc
  keptNF : ∀ k ∈ s.qc.kept, k ∉ s.qc.free

theorem PreK.notKept {s : CState} (hp : PreK Kn kv σ0 s)
    {q : Nat} (h : Avail s q) : q ∉ s.qc.kept := by
  intro hk
  rcases h with h | h
  · exact hp.keptNF q hk h
  · exact absurd (hp.good.kept_lt q hk) (by omega)

theorem PreK.sym_notAvail {s : CState} (hp : PreK Kn kv σ0 s)
    {n : String} {q : Nat} (hk : Kn n) (hq : dictGet? s.qc.qmap n = some q) : ¬ Avail s q :=
  hp.good.qmap_notAvail hq (hp.tbl n q hk hq).1

theorem PreK.mono {Kn' : String → Prop} {kv' : String → Bool} {s : CState} (hp : PreK Kn kv σ0 s)
    (h : ∀ n, Kn' n → Kn n ∧ kv n = kv' n) : PreK Kn' kv' σ0 s :=
  ⟨hp.good, hp.zero, fun n q hk hq => (h n hk).2 ▸ hp.tbl n q (h n hk).1 hq, fun n hk => hp.knOK n (h n hk).1,
    hp.freeNd, hp.freeAnc, hp.keptNF⟩

/-- a qubit the caller owns: allocated, not in the free set, not the qubit of a known name -/
def PrivK (Kn : String → Prop) (s : CState) (d : Nat) : Prop :=
  ¬ Avail s d ∧ ∀ n, Kn n → dictGet? s.qc.qmap n ≠ some d

theorem PrivK.next {s s' : CState} {d : Nat} (h : PrivK Kn s d)
    (sem : SemK Kn σ0 wo Q W K Mk s s') : PrivK Kn s' d := by
  refine ⟨fun ha => h.1 (sem.avail d ha), fun n hk hq => ?_⟩
  rcases sem.qnew n d hq with h' | h'
  · exact h.2 n hk h'
  · exact h.1 (Or.inr h')

theorem PreK.of_same {s s' : CState} (hp : PreK Kn kv σ0 s)
    (hg : Good s') (hn : s'.qc.numQubits = s.qc.numQubits) (hf : s'.qc.free = s.qc.free)
    (ha : s'.qc.anc = s.qc.anc) (hq : s'.qc.qmap = s.qc.qmap) (hkp : s'.qc.kept = s.qc.kept)
    (hfr : ∀ q, (Avail s q ∨ ∃ n, Kn n ∧ dictGet? s.qc.qmap n = some q) → cur σ0 s' q = cur σ0 s q) :
    PreK Kn kv σ0 s' := by
  refine ⟨hg, ?_, ?_, hp.knOK, by rw [hf]; exact hp.freeNd, by rw [hf, ha]; exact hp.freeAnc,
    by rw [hkp, hf]; exact hp.keptNF⟩
  · intro q h
    have h' : Avail s q := (Avail.congr hf hn q).mp h
    rw [hfr q (Or.inl h')]; exact hp.zero q h'
  · intro n q hk h
    rw [hq] at h
    obtain ⟨t1, t2, t3⟩ := hp.tbl n q hk h
    exact ⟨by rw [hf]; exact t1, by rw [ha]; exact t2, by rw [hfr q (Or.inr ⟨n, hk, h⟩)]; exact t3⟩

theorem gate_semK {cls : GClass} {cs : List Nat} {t : Nat}
    {u : Unit} {s s' : CState} (h : (append cls (cs ++ [t])).run s = .ok (u, s'))
    (hc : cls.isMCXLike = true) (hnop : cls.isNop = false) (ht : ¬ Avail s t)
    (hq : wo = false → ∀ c ∈ cs, Q (cur σ0 s) c) :
    Appended cls (cs ++ [t]) s s' ∧ SemK Kn σ0 wo Q (· = t) NoK NoQ s s' ∧ Tgt s' t := by
  have ha := append_run h
  unfold append at h
  obtain ⟨b, hb⟩ := run_discard_ok.mp h
  obtain ⟨g, hgc, hgw, hgg, hgcomp⟩ := appendG_push hb hnop
  have hav : ∀ q, Avail s' q ↔ Avail s q := Avail.congr ha.free ha.nq
  have htg : g.target = t := AGate.target_concat hgw
  refine ⟨ha, ⟨Nat.le_of_eq ha.nq.symm, fun q h => (hav q).mp h, ?_, ?_, ?_, ?_, ?_, ?_, ?_, ?_, ?_,
      fun q h => by rw [← ha.free]; exact h⟩,
    ⟨g, by rw [hgcomp]; simp, htg⟩⟩
  · intro q hq' _; exact ha.cur_ne hc σ0 q hq'
  · intro p hp; rw [ha.expq] at hp; exact Or.inl ⟨p, hp, rfl⟩
  · intro m hm; rw [ha.marked] at hm; exact Or.inl hm
  · intro m hm; rw [ha.marked]; exact hm
  · intro a h'; rw [ha.anc]; exact h'
  · intro n q _ h'; rw [ha.qmap]; exact h'
  · intro n q h'; rw [ha.qmap] at h'; exact Or.inl h'
  · exact ha.kept
  · refine ⟨[g], by rw [hgg]; simp, by rw [hgcomp]; simp, ?_, ?_⟩
    · intro g' hg'
      have : g' = g := by simpa using hg'
      subst this
      rw [htg]; exact fun h' => ht ((hav t).mp h')
    · intro hwo
      refine ⟨fun c hcm => hq hwo c ?_, trivial⟩
      rw [hgw] at hcm
      simpa using hcm

/-- a step that takes the qubit `a` out of the scratch space and appends no gate (`get_free_ancilla`, a new
named qubit) -/
structure Alloc (Kn : String → Prop) (s s' : CState) (a : Nat) : Prop where
  good : Good s'
  expq : s'.expq = s.expq
  gates : s'.qc.gates = s.qc.gates
  comp : s'.qc.gatesComputed = s.qc.gatesComputed
  marked : s'.qc.marked = s.qc.marked
  kept : s'.qc.kept = s.qc.kept
  was : Avail s a
  now : ¬ Avail s' a
  avail : ∀ q, Avail s' q → Avail s q
  nq : s.qc.numQubits ≤ s'.qc.numQubits
  ancs : ∀ x ∈ s'.qc.anc, x ∈ s.qc.anc ∨ x = a
  anck : ∀ x ∈ s.qc.anc, x ∈ s'.qc.anc
  free : ∀ x ∈ s'.qc.free, x ∈ s.qc.free ∧ x ≠ a
  freek : ∀ x ∈ s.qc.free, x ≠ a → x ∈ s'.qc.free
  freeNd : s'.qc.free.Nodup
  qmap : ∀ n, Kn n → dictGet? s'.qc.qmap n = dictGet? s.qc.qmap n
  qnew : ∀ n q, dictGet? s'.qc.qmap n = some q → dictGet? s.qc.qmap n = some q ∨ s.qc.numQubits ≤ q
  new : ∀ q, s.qc.numQubits ≤ q → q < s'.qc.numQubits → q = a

theorem getFreeAncilla_alloc {a : Nat} {s s' : CState} (h : getFreeAncilla.run s = .ok (a, s')) (hg : Good s)
    (hkn : ∀ n, Kn n → ancLike n = false) (hnd : s.qc.free.Nodup) (hfa : ∀ q ∈ s.qc.free, q ∈ s.qc.anc) :
    Alloc Kn s s' a ∧ a ∈ s'.qc.anc := by
  have hg' : Good s' := (getFreeAncilla_ok (B := fun _ => False) h hg).1.good
  obtain ⟨ch, nq, qm, an, fr, rfl, hcase⟩ := getFreeAncilla_eff h
  rcases hcase with ⟨hf0, rfl, rfl, rfl, rfl, rfl⟩ | ⟨haf, rfl, rfl, rfl, rfl⟩
  · -- a new qubit `anc_k`
    refine ⟨⟨hg', rfl, rfl, rfl, rfl, rfl, Or.inr (Nat.le_refl _), ?_, ?_, Nat.le_succ _, fun x hx => mem_setIns hx,
      fun x hx => mem_setIns_iff.mpr (Or.inl hx), nofun, ?_, List.nodup_nil, ?_, ?_, ?_⟩, mem_setIns_iff.mpr (Or.inr rfl)⟩
    · rintro (h' | h')
      · cases h'
      · exact Nat.lt_irrefl _ (Nat.lt_of_succ_le h')
    · rintro q (hq | hq)
      · cases hq
      · exact Or.inr (Nat.le_of_succ_le hq)
    · intro x hx; rw [hf0] at hx; cases hx
    · intro n hk
      have hna := hkn n hk
      exact dictGet?_dictSet_ne (by rintro rfl; rw [ancLike_anc] at hna; cases hna)
    · intro n q hq
      have hq' : dictGet? (dictSet s.qc.qmap s!"anc_{s.qc.anc.length}" s.qc.numQubits) n = some q := hq
      by_cases hne : n = s!"anc_{s.qc.anc.length}"
      · rw [hne, dictGet?_dictSet_self] at hq'
        cases hq'; exact Or.inr (Nat.le_refl _)
      · rw [dictGet?_dictSet_ne hne] at hq'; exact Or.inl hq'
    · intro q h1 h2; exact Nat.le_antisymm (Nat.le_of_lt_succ h2) h1
  · -- a qubit of the free set
    refine ⟨⟨hg', rfl, rfl, rfl, rfl, rfl, Or.inl haf, ?_, ?_, Nat.le_refl _, fun x hx => Or.inl hx, fun x hx => hx,
      ?_, ?_, hnd.erase a, fun _ _ => rfl, fun _ _ hq => Or.inl hq, ?_⟩, hfa a haf⟩
    · rintro (h' | h')
      · exact ((hnd.mem_erase_iff).mp h').1 rfl
      · exact absurd (hg.free_lt a haf) (Nat.not_lt.mpr h')
    · intro q hq; exact hq.imp List.mem_of_mem_erase id
    · intro x hx
      exact ⟨List.mem_of_mem_erase hx, fun e => ((hnd.mem_erase_iff).mp (e ▸ hx)).1 rfl⟩
    · intro x hx hxa; exact (List.mem_erase_of_ne hxa).mpr hx
    · intro q h1 h2; exact absurd h1 (Nat.not_le.mpr h2)

theorem getFreeAncilla_semK {a : Nat} {s s' : CState}
    (h : getFreeAncilla.run s = .ok (a, s')) (hp : PreK Kn kv σ0 s) :
    PreK Kn kv σ0 s' ∧ SemK Kn σ0 wo Q NoQ NoK NoQ s s' ∧ cur σ0 s' = cur σ0 s ∧ Avail s a ∧ ¬ Avail s' a ∧
      a ∈ s'.qc.anc := by
  obtain ⟨al, ha⟩ := getFreeAncilla_alloc h hp.good hp.knOK hp.freeNd hp.freeAnc
  have hcur : cur σ0 s' = cur σ0 s := cur_congr al.gates
  refine ⟨⟨al.good, fun q hq => by rw [hcur]; exact hp.zero q (al.avail q hq), fun n q hk hq => ?_, hp.knOK,
      al.freeNd, fun q hq => al.anck q (hp.freeAnc q (al.free q hq).1),
      fun k hk hf => hp.keptNF k (al.kept ▸ hk) (al.free k hf).1⟩,
    ⟨al.nq, al.avail, fun q _ _ => by rw [hcur], fun p hp' => Or.inl ⟨p, al.expq ▸ hp', rfl⟩,
      fun m hm => Or.inl (al.marked ▸ hm), fun m hm => by rw [al.marked]; exact hm, al.anck,
      fun n q hk hq => by rw [al.qmap n hk]; exact hq, al.qnew, al.kept,
      ⟨[], by rw [al.gates]; simp, by rw [al.comp]; simp, fun _ h => absurd h List.not_mem_nil, fun _ => trivial⟩,
      fun q hq => (al.free q hq).1⟩,
    hcur, al.was, al.now, ha⟩
  rw [al.qmap n hk] at hq
  obtain ⟨t1, t2, t3⟩ := hp.tbl n q hk hq
  exact ⟨fun hf => t1 (al.free q hf).1, fun h' => (al.ancs q h').elim t2 (fun e => hp.sym_notAvail hk hq (e ▸ al.was)),
    by rw [hcur]; exact t3⟩

/-! The instance at the known names of a scope: `CtlQ scope ρ`, `Priv scope` are `CtlK` / `PrivK` at `Known scope`,
`kval ρ` by definition.  `Sem2` is `SemK` without its last field and without the ancilla clause of `marks`
(`Sem2.ofK`); `Pre2` has three fields more than `PreK`, which the expression level only hands on: they come back
from the first state of a run (`Pre2.ofK`).  `Pre2` is the state part of the invariants between statements (`Inv` in
`CompilerSem2.lean`, `BI` in `CompilerGenStmt.lean`); `Sem2` / `CtlQ` occur in `Head` (`CompilerSem2.lean`) only.
The rest of the layer – `Priv`, `Res`, `ArgsSem2` / `XorSem2` with `argsSem2` / `xorSem2`, `orChain_sem2` – restates
the `K` versions at `Known scope` and has no user. -/

def CtlQ (scope : List String) (ρ : Env) (s' : CState) : FState → Nat → Prop :=
  fun f c => c ∈ s'.qc.marked ∨ ∃ n, Known scope n ∧ dictGet? s'.qc.qmap n = some c ∧ f c = kval ρ n

structure Sem2 (scope : List String) (σ0 : FState) (wo : Bool) (Q : FState → Nat → Prop) (W : Nat → Prop) (K : BExp → Prop)
    (Mk : Nat → Prop) (s s' : CState) : Prop where
  nq : s.qc.numQubits ≤ s'.qc.numQubits
  avail : ∀ q, Avail s' q → Avail s q
  frame : ∀ q, ¬ W q → (¬ Avail s q ∨ Avail s' q) → cur σ0 s' q = cur σ0 s q
  keys : ∀ p ∈ s'.expq, (∃ p0 ∈ s.expq, p0.1 = p.1) ∨ K p.1
  marks : ∀ m ∈ s'.qc.marked, m ∈ s.qc.marked ∨ (Mk m ∧ (wo = false → Tgt s' m))
  mkeep : ∀ m ∈ s.qc.marked, m ∈ s'.qc.marked
  akeep : ∀ a ∈ s.qc.anc, a ∈ s'.qc.anc
  qkeep : ∀ n q, Known scope n → dictGet? s.qc.qmap n = some q → dictGet? s'.qc.qmap n = some q
  qnew : ∀ n q, dictGet? s'.qc.qmap n = some q → dictGet? s.qc.qmap n = some q ∨ s.qc.numQubits ≤ q
  kkeep : s'.qc.kept = s.qc.kept
  seg : ∃ l, s'.qc.gates.toList = s.qc.gates.toList ++ l ∧
      s'.qc.gatesComputed.toList = s.qc.gatesComputed.toList ++ l ∧
      (∀ g ∈ l, ¬ Avail s' g.target) ∧ (wo = false → CtlOK Q l (cur σ0 s))

theorem Sem2.reframe {scope : List String} {σ0 : FState} {wo : Bool} {Q : FState → Nat → Prop} {W W' : Nat → Prop} {K : BExp → Prop}
    {Mk : Nat → Prop} {s s' : CState} (h : Sem2 scope σ0 wo Q W K Mk s s')
    (hf : ∀ q, ¬ W' q → (¬ Avail s q ∨ Avail s' q) → cur σ0 s' q = cur σ0 s q) :
    Sem2 scope σ0 wo Q W' K Mk s s' :=
  ⟨h.nq, h.avail, hf, h.keys, h.marks, h.mkeep, h.akeep, h.qkeep, h.qnew, h.kkeep, h.seg⟩

/-- `PreK` at the known names of a scope, with what the statement level adds: every name of the scope is bound
and not reserved, marked qubits are ancillas -/
structure Pre2 (scope : List String) (ρ : Env) (σ0 : FState) (s : CState) : Prop where
  good : Good s
  zero : ∀ q, Avail s q → cur σ0 s q = false
  tbl : ∀ n q, Known scope n → dictGet? s.qc.qmap n = some q →
    q ∉ s.qc.free ∧ q ∉ s.qc.anc ∧ cur σ0 s q = kval ρ n
  bound : ∀ n ∈ scope, ∃ q, dictGet? s.qc.qmap n = some q
  scopeOK : ∀ n ∈ scope, reservedName n = false
  freeNd : s.qc.free.Nodup
  freeAnc : ∀ q ∈ s.qc.free, q ∈ s.qc.anc
  mkAnc : ∀ m ∈ s.qc.marked, m ∈ s.qc.anc
  keptNF : ∀ k ∈ s.qc.kept, k ∉ s.qc.free

def Priv (scope : List String) (s : CState) (d : Nat) : Prop :=
  ¬ Avail s d ∧ ∀ n, Known scope n → dictGet? s.qc.qmap n ≠ some d

theorem Pre2.toK {s : CState} (hp : Pre2 scope ρ σ0 s) : PreK (Known scope) (kval ρ) σ0 s :=
  ⟨hp.good, hp.zero, hp.tbl, fun _ hk => known_notAnc hp.scopeOK hk, hp.freeNd, hp.freeAnc, hp.keptNF⟩

theorem Sem2.ofK {s s' : CState} (h : SemK (Known scope) σ0 wo Q W K Mk s s') : Sem2 scope σ0 wo Q W K Mk s s' :=
  ⟨h.nq, h.avail, h.frame, h.keys, fun m hm => (h.marks m hm).imp id (fun x => ⟨x.1, x.2.2⟩), h.mkeep, h.akeep,
    h.qkeep, h.qnew, h.kkeep, h.seg⟩

theorem Pre2.ofK {s s' : CState} (hp : Pre2 scope ρ σ0 s) (hp' : PreK (Known scope) (kval ρ) σ0 s')
    (sem : SemK (Known scope) σ0 wo Q W K Mk s s') : Pre2 scope ρ σ0 s' :=
  ⟨hp'.good, hp'.zero, hp'.tbl, fun n hn => (hp.bound n hn).imp fun q hq => sem.qkeep n q (Or.inl hn) hq,
    hp.scopeOK, hp'.freeNd, hp'.freeAnc,
    fun m hm => (sem.marks m hm).elim (fun h => sem.akeep m (hp.mkAnc m h)) (fun h => h.2.1), hp'.keptNF⟩

theorem Pre2.notKept {s : CState} (hp : Pre2 scope ρ σ0 s) {q : Nat} (h : Avail s q) : q ∉ s.qc.kept :=
  hp.toK.notKept h

end QV.Compiler
