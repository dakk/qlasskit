import QV.Proofs.FrontStmtNames
namespace QV.Sem
open QV.Arith QV.Front

def AgreeLow (t : String) (k : Nat) (ρ ρ' : QV.Env) : Prop :=
  ∀ s, (∀ j, j < k → s ≠ bitName t j) → ρ' s = ρ s

-- `AgreeLow`, `AgreeLow.mono`: kept, not used below; `LowBits` states this notion for any list of names
theorem AgreeLow.mono {t : String} {k k' : Nat} {ρ ρ' : QV.Env} (hk : k ≤ k') (h : AgreeLow t k ρ ρ') :
    AgreeLow t k' ρ ρ' := by
  intro s hs
  exact h s (fun j hj => hs j (by omega))

theorem retName_good : goodName "_ret" = true := by decide

/-- what `Return` does, from the code alone: the value is translated; a sized value whose size differs from that
of the declared type is filled or cropped to it, any other value must have the declared type; a value of tuple
type is re-nested (`_nest_as_type`); `_ret` must be unbound; then `decompose_to_symbols` and the new binding -/
theorem trStmt_ret_inv {q : Quirks} {ret : Ty} {env : Front.Env} {e : PExp} {s s' : St}
    {defs : List (String × BExp)} {env' : Front.Env}
    (h : (trStmt q ret env (.ret e)).run s = .ok ((defs, env'), s')) :
    ∃ t v s1, (tr q env e).run s = .ok ((t, v), s1) ∧ ∃ v1 v2,
      ((t = ret ∧ v1 = v) ∨
       ∃ a b bits, t.size? = some a ∧ ret.size? = some b ∧ bitsOf v = .ok bits ∧
         ((a < b ∧ v1 = Val.ofBits (fill b bits)) ∨ (b < a ∧ v1 = Val.ofBits (crop b bits)))) ∧
      (((∀ ts, ret ≠ .tuple ts) ∧ v2 = v1) ∨
       ∃ ts rest, ret = .tuple ts ∧ nestAs ret v1.flatten = some (v2, rest)) ∧
      env.find "_ret" = none ∧ defs = v2.decompose "_ret" ∧
      env' = env ++ [⟨"_ret", ret, (v2.decompose "_ret").map (·.1)⟩] := by
  rw [trStmt] at h
  obtain ⟨⟨t, v⟩, s1, h1, h2⟩ := bind_inv h
  clear h
  refine ⟨t, v, s1, h1, ?_⟩
  -- `jp`: the common tail of every branch (re-nest a tuple, refuse a bound `_ret`, decompose, bind), specified once
  extract_lets jp tret at h2
  have hfin : ∀ {k : Unit → M (List (String × BExp) × Front.Env)} {x : List (String × BExp) × Front.Env} {s3 : St},
      (if (env.find "_ret").isSome = true then (throw "duplicate bind" >>= k) else pure x).run s3
        = .ok ((defs, env'), s') → env.find "_ret" = none ∧ (defs, env') = x := by
    intro k x s3 hf
    rcases (run_ite_ok _ _ _ _ _).mp hf with ⟨_, hf⟩ | ⟨hn, hf⟩
    · obtain ⟨_, _, hf, _⟩ := bind_inv hf
      exact (throw_inv hf).elim
    · refine ⟨?_, pure_inv hf⟩
      cases hr : env.find "_ret" with
      | none => rfl
      | some b => rw [hr] at hn; exact absurd rfl hn
  have hjp : ∀ u t' v1 s2, (jp u t' v1).run s2 = .ok ((defs, env'), s') →
      ∃ v2, (((∀ ts, t' ≠ .tuple ts) ∧ v2 = v1) ∨
          ∃ ts rest, t' = .tuple ts ∧ nestAs t' v1.flatten = some (v2, rest)) ∧
        env.find "_ret" = none ∧ defs = v2.decompose "_ret" ∧
        env' = env ++ [⟨"_ret", t', (v2.decompose "_ret").map (·.1)⟩] := by
    intro u t' v1 s2 hj
    simp only [jp] at hj
    split at hj
    · rename_i ts
      split at hj
      · rename_i v' rest hn
        obtain ⟨hnone, hx⟩ := hfin hj
        cases hx
        exact ⟨v', .inr ⟨ts, rest, rfl, hn⟩, hnone, rfl, rfl⟩
      · obtain ⟨_, _, hj, _⟩ := bind_inv hj
        exact (throw_inv hj).elim
    · rename_i hnt
      obtain ⟨hnone, hx⟩ := hfin hj
      cases hx
      exact ⟨v1, .inl ⟨fun ts hts => hnt ts hts, rfl⟩, hnone, rfl, rfl⟩
  clear_value jp
  clear hfin
  subst tret
  dsimp only at h2
  have hsame : ∀ u s2, (if (t != ret) = true then (throw "TypeError return" >>= fun r => jp r t v)
      else jp u t v).run s2 = .ok ((defs, env'), s') →
      t = ret ∧ (jp u t v).run s2 = .ok ((defs, env'), s') := by
    intro u s2 hs
    rcases (run_ite_ok _ _ _ _ _).mp hs with ⟨_, hs1⟩ | ⟨hne, hs1⟩
    · obtain ⟨_, _, hs2, _⟩ := bind_inv hs1
      exact (throw_inv hs2).elim
    · exact ⟨Classical.not_not.mp ((Ty.bne_iff t ret).not.mp hne), hs1⟩
  split at h2
  · rename_i a b ha hb
    rcases (run_ite_ok _ _ _ _ _).mp h2 with ⟨hab, h3⟩ | ⟨hab, h3⟩
    · obtain ⟨bits, _, hbits, h4⟩ := bind_inv h3
      obtain ⟨v2, hnest, hrest⟩ := hjp _ _ _ _ h4
      exact ⟨_, v2, .inr ⟨a, b, bits, ha, hb, (lift_inv hbits).1, .inl ⟨hab, rfl⟩⟩, hnest, hrest⟩
    · rcases (run_ite_ok _ _ _ _ _).mp h3 with ⟨hab2, h4⟩ | ⟨_, h4⟩
      · obtain ⟨bits, _, hbits, h5⟩ := bind_inv h4
        obtain ⟨v2, hnest, hrest⟩ := hjp _ _ _ _ h5
        exact ⟨_, v2, .inr ⟨a, b, bits, ha, hb, (lift_inv hbits).1, .inr ⟨hab2, rfl⟩⟩, hnest, hrest⟩
      · obtain ⟨rfl, h5⟩ := hsame _ _ h4
        obtain ⟨v2, hnest, hrest⟩ := hjp _ _ _ _ h5
        exact ⟨v, v2, .inl ⟨rfl, rfl⟩, hnest, hrest⟩
  · obtain ⟨rfl, h3⟩ := hsame _ _ h2
    obtain ⟨v2, hnest, hrest⟩ := hjp _ _ _ _ h3
    exact ⟨v, v2, .inl ⟨rfl, rfl⟩, hnest, hrest⟩

theorem ret_needs_fresh {q : Quirks} {ret : Ty} {env : Front.Env} {e : PExp} {s : St}
    {r : (List (String × BExp) × Front.Env) × St}
    (h : (trStmt q ret env (.ret e)).run s = .ok r) : env.find "_ret" = none := by
  obtain ⟨⟨defs, env'⟩, s'⟩ := r
  obtain ⟨_, _, _, _, _, _, _, _, hnone, _⟩ := trStmt_ret_inv h
  exact hnone

theorem expr_step {ret : Ty} {env : Front.Env} {e : PExp} {s s' : St} {defs : List (String × BExp)}
    {env' : Front.Env} (h : (trStmt Quirks.none ret env (.expr e)).run s = .ok ((defs, env'), s')) :
    defs = [] ∧ env' = env := by
  rw [trStmt] at h
  simp only [run_bind_ok, run_pure_ok, Prod.mk.injEq] at h
  obtain ⟨_, _, _, ⟨rfl, rfl⟩, _⟩ := h
  exact ⟨rfl, rfl⟩

theorem decomposeList_cons (base : String) (i : Nat) (v : Val) (vs : List Val) :
    Val.decomposeList base i (v :: vs) = v.decompose (bitName base i) ++ Val.decomposeList base (i + 1) vs := by
  simp only [Val.decomposeList]
  rfl

mutual
theorem decompose_sub : ∀ (v : Val) (base : String), ∀ d ∈ v.decompose base, Sub base d.1
  | .atom e, base, d, hd => by
    simp only [Val.decompose, List.mem_singleton] at hd
    rw [hd]; exact sub_refl _
  | .list vs, base, d, hd => by
    rw [Val.decompose] at hd
    obtain ⟨j, hj⟩ := decomposeList_sub vs base 0 d hd
    exact sub_child base j hj
theorem decomposeList_sub : ∀ (vs : List Val) (base : String) (i : Nat), ∀ d ∈ Val.decomposeList base i vs,
    ∃ j, Sub (bitName base j) d.1
  | [], base, i, d, hd => by simp [Val.decomposeList] at hd
  | v :: vs, base, i, d, hd => by
    rw [decomposeList_cons, List.mem_append] at hd
    rcases hd with hd | hd
    · exact ⟨i, decompose_sub v _ d hd⟩
    · exact decomposeList_sub vs base (i + 1) d hd
end

theorem assign_shape0 {q : Quirks} {ret : Ty} {env : Front.Env} {t : String} {e : PExp} {s s' : St}
    {defs : List (String × BExp)} {env' : Front.Env}
    (h : (trStmt q ret env (.assign t e)).run s = .ok ((defs, env'), s')) :
    ∃ (v' : Val) (ty : Ty) (bv : List String), defs = v'.decompose t ∧ env' = env.bind ⟨t, ty, bv⟩ := by
  rw [trStmt] at h
  simp only [run_bind_ok] at h
  obtain ⟨⟨ty, v⟩, s1, h1, h2⟩ := h
  repeat' split at h2
  all_goals simp only [run_bind_ok, run_throw_ok, run_pure_ok, run_event_ok, false_and, and_false, exists_false, Prod.mk.injEq] at h2
  all_goals first
    | (obtain ⟨_, _, _, ⟨h3, h4⟩, _⟩ := h2; exact ⟨_, _, _, h3, h4⟩)
    | (obtain ⟨⟨h3, h4⟩, _⟩ := h2; exact ⟨_, _, _, h3, h4⟩)

/-- once `_ret` is bound, the rest of the body leaves the return symbols alone (and a second `return`
is refused): the definitions of an assignment to `t ≠ _ret` are named below `t`.  No invariant is needed, only that
the targets are dot-free names other than `_ret` -/
theorem body_frame (ret : Ty) :
    ∀ (ss : List Stmt) (ρ : QV.Env) (env : Front.Env),
      (∀ t e, Stmt.assign t e ∈ ss → goodName t = true ∧ t ≠ "_ret") → (env.find "_ret").isSome = true →
      ∀ (s s' : St) (defs : List (String × BExp)), (trBody Quirks.none ret env ss).run s = .ok (defs, s') →
      ∀ x, Sub "_ret" x → runDefs defs ρ x = ρ x
  | [], ρ, env, hok, hsome, s, s', defs, h, x, hx => by
    rw [trBody] at h
    have hn : ¬ ((env.find "_ret").isNone = true) := by
      cases hf : env.find "_ret" <;> simp [hf] at hsome ⊢
    rw [if_neg hn] at h
    cases pure_inv h
    rfl
  | st :: ss, ρ, env, hok, hsome, s, s', defs, h, x, hx => by
    rw [trBody] at h
    obtain ⟨⟨d1, env1⟩, s1, h1, h'⟩ := bind_inv h
    obtain ⟨rest, s2, h2, h3⟩ := bind_inv h'
    cases pure_inv h3
    have hok' : ∀ t e, Stmt.assign t e ∈ ss → goodName t = true ∧ t ≠ "_ret" :=
      fun t e hm => hok t e (List.mem_cons_of_mem _ hm)
    rw [runDefs_append]
    cases st with
    | assign t e =>
      obtain ⟨hgt, hne⟩ := hok t e List.mem_cons_self
      obtain ⟨v', ty, bv, rfl, rfl⟩ := assign_shape0 h1
      have hsome1 : ((env.bind ⟨t, ty, bv⟩).find "_ret").isSome = true := by
        rw [find_bind, if_neg (fun h => hne h.symm)]
        exact hsome
      rw [body_frame ret ss _ _ hok' hsome1 s1 s2 rest h2 x hx]
      apply runDefs_frame
      intro hmem
      obtain ⟨d, hd, rfl⟩ := List.mem_map.mp hmem
      exact sub_disjoint retName_good hgt (fun h => hne h.symm) hx (decompose_sub v' t d hd)
    | ret e =>
      rw [ret_needs_fresh h1] at hsome
      cases hsome
    | expr e =>
      obtain ⟨rfl, rfl⟩ := expr_step h1
      exact body_frame ret ss ρ _ hok' hsome s1 s2 rest h2 x hx
    | unsupported w =>
      rw [trStmt] at h1
      exact (throw_inv h1).elim


theorem initEnv_no_ret (args : List (String × Ty)) (h : ∀ p ∈ args, p.1 ≠ "_ret") :
    (initEnv args).find "_ret" = none := by
  unfold Env.find
  rw [initEnv_eq, List.find?_eq_none]
  intro b hb
  simp only [List.mem_map] at hb
  obtain ⟨p, hp, rfl⟩ := hb
  simp [h p hp]

end QV.Sem
