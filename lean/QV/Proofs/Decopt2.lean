import QV.Proofs.Decopt
import QV.Proofs.CompilerSem
/-!
# C12: what the repaired splice test accepts

The re-synthesis of a section is `Compiler.compile (symbols n) exprs none false`: every qubit an
argument, no return bits, no final uncomputation.  `stable_xonly`: for pairwise distinct definitions of
`q0 … q{n-1}`, a re-synthesis whose qubit map is `nameStable` is of the `xonly` shape.  Reason: as long as every
definition so far was `q = q` or `q = ~q` the compiler state is `Clean` (no ancilla, nothing cached but symbols, the
qubit map is the identity) and holds only X gates; the first other definition `q{i} = e` is compiled into a qubit
different from `i` (a symbol `q{j}` into `j`; a constant into the `FALSE`/`TRUE` qubit; a compound expression, which
the cache of a clean state does not hold, into an ancilla or, under `Xor`, a constant's qubit: all `≥ n`), `q{i}` is
re-mapped onto it, and no later definition maps it back (names are distinct) – so the qubit map is not stable.
-/
namespace QV.Decopt
open QV.Decompiler QV.Compiler

theorem qname_toList (i : Nat) : (qname i).toList = 'q' :: (toString i).toList := by
  unfold qname; simp [String.toList_append]

theorem qname_startsWith_us (i : Nat) (p : String) (hp : p.toList.head? = some '_') :
    (qname i).startsWith p = false := by
  rw [Bool.eq_false_iff]
  intro h
  rw [String.startsWith_string_iff, qname_toList] at h
  cases hl : p.toList with
  | nil => rw [hl] at hp; simp at hp
  | cons c cs =>
    rw [hl] at hp h
    simp at hp
    subst hp
    simp at h

theorem qname_ne_of_head (i : Nat) (x : String) (c : Char) (hx : x.toList.head? = some c) (hc : c ≠ 'q') :
    qname i ≠ x := by
  intro h
  rw [← h, qname_toList] at hx
  simp at hx
  exact hc hx.symm

theorem qname_not_reserved (i : Nat) : reservedName (qname i) = false := by
  have h1 : (qname i == "FALSE") = false := beq_eq_false_iff_ne.mpr (qname_ne_of_head i _ 'F' (by decide) (by decide))
  have h2 : (qname i == "TRUE") = false := beq_eq_false_iff_ne.mpr (qname_ne_of_head i _ 'T' (by decide) (by decide))
  have h4 : ancLike (qname i) = false := by
    unfold ancLike; rw [qname_toList]; simp
  simp [reservedName, scratchName, h1, h2, h4]

/-- the qubit map only gains names of qubits added since `s` (no `Good` is asked, unlike `Compiler.Step`) -/
structure QStep (s s' : CState) : Prop where
  nq_le : s.qc.numQubits ≤ s'.qc.numQubits
  qmap_new : ∀ p ∈ s'.qc.qmap, p ∈ s.qc.qmap ∨ s.qc.numQubits ≤ p.2

theorem QStep.refl (s : CState) : QStep s s := ⟨Nat.le_refl _, fun _ h => Or.inl h⟩

theorem QStep.trans {s s1 s2 : CState} (h1 : QStep s s1) (h2 : QStep s1 s2) : QStep s s2 :=
  ⟨Nat.le_trans h1.nq_le h2.nq_le, fun p hp =>
    (h2.qmap_new p hp).elim (fun h => h1.qmap_new p h) (fun h => Or.inr (Nat.le_trans h1.nq_le h))⟩

theorem QStep.of_same {s s' : CState} (hn : s'.qc.numQubits = s.qc.numQubits)
    (hq : s'.qc.qmap = s.qc.qmap) : QStep s s' :=
  ⟨Nat.le_of_eq hn.symm, fun _ hp => Or.inl (hq ▸ hp)⟩

theorem QStep.of_qc {s s' : CState} (h : s'.qc = s.qc) : QStep s s' :=
  QStep.of_same (by rw [h]) (by rw [h])

def Pres {α : Type} (m : M α) : Prop := ∀ ⦃a : α⦄ ⦃s s' : CState⦄, m.run s = .ok (a, s') → QStep s s'

theorem Pres.discard {α : Type} {m : M α} (hm : Pres m) : Pres (discard m) := by
  intro b s s' h
  obtain ⟨a, h1⟩ := run_discard_ok.mp h
  exact hm h1

/-- an `if c then m` with the statements `k` that follow it -/
theorem Pres.whenBind_run {α : Type} {c : Prop} [Decidable c] {m : M Unit} {k : Unit → M α} (hm : Pres m)
    {s : CState} {r : α × CState} (h : (if c then m >>= k else k ()).run s = .ok r) :
    ∃ s1, QStep s s1 ∧ (k ()).run s1 = .ok r := by
  rcases run_ite_ok.mp h with ⟨_, h1⟩ | ⟨_, h1⟩
  · obtain ⟨u, s1, hm1, h2⟩ := run_bind_ok.mp h1
    exact ⟨s1, hm hm1, h2⟩
  · exact ⟨s, QStep.refl s, h1⟩

theorem pres_getQC : Pres getQC := by
  intro a s s' h; obtain ⟨_, rfl⟩ := getQC_run h; exact QStep.refl _

theorem pres_event (e : String) : Pres (event e) := by
  intro a s s' h; have := event_run h; subst this; exact QStep.of_same rfl rfl

theorem pres_append (cls : GClass) (wires : List Nat) : Pres (append cls wires) := by
  intro a s s' h; have ha := append_run h; exact QStep.of_same ha.nq ha.qmap

theorem pres_expqSet (e : BExp) (q : Nat) : Pres (expqSet e q) := by
  intro a s s' h; exact QStep.of_qc (expqSet_run h).1

theorem pres_expqRemove (qs : List Nat) : Pres (expqRemove qs) := by
  intro a s s' h; exact QStep.of_qc (expqRemove_run h)

theorem pres_expqGet (e : BExp) : Pres (expqGet? e) := by
  intro a s s' h; obtain ⟨rfl, _⟩ := expqGet?_run h; exact QStep.refl _

theorem pres_lookup (n : String) : Pres (lookup n) := by
  intro a s s' h; obtain ⟨rfl, _⟩ := lookup_run h; exact QStep.refl _

theorem pres_addQubit (name : String) : Pres (addQubit name) := by
  intro a s s' h
  obtain ⟨_, rfl⟩ := addQubit_run h
  refine ⟨Nat.le_succ _, fun p hp => ?_⟩
  rcases mem_dictSet hp with hp | hp
  · exact Or.inl hp
  · subst hp; exact Or.inr (Nat.le_refl _)

theorem pres_getFreeAncilla : Pres getFreeAncilla := by
  intro a s s' h
  obtain ⟨_, _, _, _, _, rfl, ⟨_, rfl, rfl, rfl, rfl, rfl⟩ | ⟨_, rfl, rfl, rfl, rfl⟩⟩ := getFreeAncilla_eff h
  · refine ⟨Nat.le_succ _, fun p hp => ?_⟩
    rcases mem_dictSet hp with hp | hp
    · exact Or.inl hp
    · subst hp; exact Or.inr (Nat.le_refl _)
  · exact QStep.of_same rfl rfl

theorem pres_markAncilla (w : Nat) : Pres (markAncilla w) := by
  intro a s s' h
  obtain ⟨M, rfl, _⟩ := markAncilla_eff h
  exact QStep.of_same rfl rfl

theorem pres_compileSymbol_none (n : String) : Pres (compileSymbol n none) := by
  intro a s s' h
  obtain ⟨rfl, _⟩ := compileSymbol_none_run h
  exact QStep.refl _

/-- the walk over `compile_expr` (`Compiler.Walk`) for `QStep`, for nested calls (no symbol being defined): no
invariant is asked and every index counts as a qubit -/
theorem qstepWalk : Walk (fun _ => True) QStep (fun _ _ => True) (· = none) :=
  have of : ∀ {α : Type} {m : M α} {R : List Nat} {Q : α → List Nat}, Pres m →
      Spec (fun _ => True) QStep (fun _ _ => True) R m Q :=
    fun hp _ _ _ h _ _ => ⟨hp h, fun _ _ => trivial⟩
  { refl := fun _ => QStep.refl _
    trans := QStep.trans
    inv := fun _ => trivial
    mono := fun _ _ => trivial
    symNone := rfl
    xGate := fun _ => of (pres_append _ _)
    cx := fun _ _ => of (pres_append _ _)
    mcx := fun _ _ => of (pres_append _ _)
    event := fun e => of (pres_event e)
    markAncilla := fun w => of (pres_markAncilla w)
    expqSet := fun _ => of (pres_expqSet _ _)
    expqGet := fun e => of (pres_expqGet e)
    getFreeAncilla := @fun _ => of pres_getFreeAncilla
    lookup := fun n => of (pres_lookup n)
    getQC := @fun _ => of pres_getQC
    addConst := fun _ => of (pres_addQubit _)
    symbol := fun n _ hs => hs ▸ of (pres_compileSymbol_none n) }

theorem Pres.of_spec {α : Type} {m : M α} {R : List Nat} {Q : α → List Nat}
    (h : Spec (fun _ => True) QStep (fun _ _ => True) R m Q) : Pres m :=
  fun _ _ _ hr => (h hr trivial (fun _ _ => trivial)).1

theorem pres_constFalse : Pres constFalse := Pres.of_spec (qstepWalk.constFalse (R := []))
theorem pres_constTrue : Pres constTrue := Pres.of_spec (qstepWalk.constTrue (R := []))

/-- nested calls: no symbol being defined -/
def ExprP (e : BExp) : Prop := ∀ dest : Option Nat, Pres (compileExpr e dest none)
def ArgsP (as : List BExp) : Prop := Pres (compileArgs as)
def XorP (as : List BExp) : Prop := ∀ d : Nat, Pres (compileXorArgs as d)

theorem exprP : ∀ e : BExp, ExprP e := fun e dest =>
  Pres.of_spec (qstepWalk.compile.1 e (R := dest.toList) (by simp) rfl)
theorem argsP : ∀ as : List BExp, ArgsP as := fun as => Pres.of_spec (qstepWalk.compile.2.1 as (R := []))
theorem xorP : ∀ as : List BExp, XorP as := fun as d =>
  Pres.of_spec (qstepWalk.compile.2.2 as (R := [d]) (by simp))

/-! With a destination `d`, `Not` / `And` / `Or` return `d` (`ret_not`, `ret_and`, `ret_or`); a compound expression under
`Xor` returns `d` or a qubit `≥ n` (`RetE`, `RetX`: the accumulator can move to a constant's qubit). -/

/-- the final expression of the `do` block decides, so `Ret.bind` asks nothing of the first action -/
def Ret {α : Type} (P : α → Prop) (m : M α) : Prop := ∀ ⦃a : α⦄ ⦃s s' : CState⦄, m.run s = .ok (a, s') → P a

theorem Ret.pure {α : Type} {P : α → Prop} {a : α} (h : P a) : Ret P (pure a : M α) := by
  intro b s s' hr; obtain ⟨rfl, _⟩ := run_pure_ok.mp hr; exact h

theorem Ret.throw {α : Type} {P : α → Prop} (e : String) : Ret P (throw e : M α) := by
  intro b s s' h; exact (run_throw_ok.mp h).elim

theorem Ret.bind {α β : Type} {P : β → Prop} {m : M α} {f : α → M β} (hf : ∀ a, Ret P (f a)) :
    Ret P (m >>= f) := by
  intro b s s' h
  obtain ⟨a, s1, _, h2⟩ := run_bind_ok.mp h
  exact hf a h2

theorem Ret.pureBind {α β : Type} {P : β → Prop} {a : α} {f : α → M β} (hf : Ret P (f a)) :
    Ret P (Pure.pure a >>= f) := by
  rw [pure_bind]; exact hf

theorem Ret.ite {α : Type} {P : α → Prop} {c : Prop} [Decidable c] {m1 m2 : M α} (h1 : Ret P m1)
    (h2 : Ret P m2) : Ret P (if c then m1 else m2) := by
  split
  · exact h1
  · exact h2

theorem Ret.whenBind {α : Type} {P : α → Prop} {c : Prop} [Decidable c] {m : M Unit} {k : Unit → M α}
    (hk : ∀ u, Ret P (k u)) : Ret P (if c then m >>= k else k ()) :=
  Ret.ite (Ret.bind hk) (hk ())

theorem ret_cacheHit (q d : Nat) : Ret (· = d) (cacheHit q (some d)) := by
  unfold cacheHit
  refine Ret.bind fun _ => ?_
  dsimp only
  split
  · exact Ret.bind fun _ => Ret.pure rfl
  · next h =>
    have : d = q := by simpa using h
    subst this
    exact Ret.pure rfl

theorem cachedM_run {e : BExp} {dest : Option Nat} {body : M Nat} {a : Nat} {s s' : CState}
    (h : (cachedM e dest body).run s = .ok (a, s')) :
    ∃ r, (expqGet? e).run s = .ok (r, s) ∧
      (match r with | some q => cacheHit q dest | none => body).run s = .ok (a, s') := by
  obtain ⟨r, s1, hget, h1⟩ := run_bind_ok.mp h
  obtain ⟨rfl, _⟩ := expqGet?_run hget
  exact ⟨r, hget, h1⟩

theorem ret_cachedM {e : BExp} {d : Nat} {body : M Nat} (hb : Ret (· = d) body) :
    Ret (· = d) (cachedM e (some d) body) :=
  Ret.bind fun r => by
    cases r
    · exact hb
    · exact ret_cacheHit _ d

theorem ret_cacheResult (dest : Option Nat) (e : BExp) (d : Nat) : Ret (· = d) (cacheResult dest e d) :=
  Ret.whenBind (P := (· = d)) fun _ => Ret.pure rfl

theorem ret_finishM (es : List Nat) (dest : Option Nat) (e : BExp) (d : Nat) :
    Ret (· = d) (finishM es dest e d) :=
  Ret.bind fun _ => ret_cacheResult dest e d

theorem ret_not (x : BExp) (d : Nat) : Ret (· = d) (compileExpr (.not x) (some d) none) := by
  rw [compileExpr_not]
  simp only [Option.isNone_some, Bool.false_and, Bool.false_eq_true, ↓reduceIte]
  exact ret_cachedM (Ret.ite (Ret.throw _) (Ret.bind fun _ => Ret.bind fun _ => Ret.bind fun _ => Ret.pureBind
    (Ret.bind fun _ => Ret.bind fun _ => Ret.bind fun _ => ret_cacheResult _ _ d)))

theorem ret_and (args : List BExp) (d : Nat) : Ret (· = d) (compileExpr (.and args) (some d) none) := by
  rw [compileExpr_and]
  exact ret_cachedM (Ret.bind fun _ => Ret.pureBind (Ret.whenBind fun _ => Ret.bind fun _ => ret_finishM _ _ _ d))

theorem ret_or (args : List BExp) (d : Nat) : Ret (· = d) (compileExpr (.or args) (some d) none) := by
  rw [compileExpr_or]
  exact ret_cachedM (Ret.bind fun _ => Ret.pureBind (Ret.whenBind fun _ => Ret.bind fun _ => ret_finishM _ _ _ d))

def CInv (n : Nat) (s : CState) : Prop :=
  n ≤ s.qc.numQubits ∧ ∀ p ∈ s.qc.qmap, (p.1 = "FALSE" ∨ p.1 = "TRUE") → n ≤ p.2

theorem CInv.step {n : Nat} {s s' : CState} (h : CInv n s) (st : QStep s s') : CInv n s' :=
  ⟨Nat.le_trans h.1 st.nq_le, fun p hp hn =>
    (st.qmap_new p hp).elim (fun hp' => h.2 p hp' hn) (fun hge => Nat.le_trans h.1 hge)⟩

/-- both constants end with the lookup of their name -/
theorem lookup_const_ge {x : String} (hx : x = "FALSE" ∨ x = "TRUE") {a n : Nat} {s s' : CState}
    (h : (lookup x).run s = .ok (a, s')) (hc : CInv n s') : n ≤ a := by
  obtain ⟨rfl, hl⟩ := lookup_run h
  exact hc.2 _ (dictGet?_mem hl) hx

theorem constFalse_ge {a : Nat} {s s' : CState} (h : constFalse.run s = .ok (a, s')) {n : Nat}
    (hc : CInv n s) : n ≤ a := by
  have hc' := hc.step (pres_constFalse h)
  unfold constFalse at h
  obtain ⟨qc, s1, _, h1⟩ := run_bind_ok.mp h
  obtain ⟨s2, _, h2⟩ := (Pres.discard (pres_addQubit _)).whenBind_run h1
  exact lookup_const_ge (Or.inl rfl) h2 hc'

theorem constTrue_ge {a : Nat} {s s' : CState} (h : constTrue.run s = .ok (a, s')) {n : Nat}
    (hc : CInv n s) : n ≤ a := by
  have hc' := hc.step (pres_constTrue h)
  unfold constTrue at h
  obtain ⟨qc, s1, _, h1⟩ := run_bind_ok.mp h
  rcases run_ite_ok.mp h1 with ⟨_, h1⟩ | ⟨_, h1⟩
  · obtain ⟨u, s2, _, h2⟩ := run_bind_ok.mp h1
    obtain ⟨l, s3, _, h3⟩ := run_bind_ok.mp h2
    obtain ⟨u2, s4, _, h4⟩ := run_bind_ok.mp h3
    exact lookup_const_ge (Or.inr rfl) h4 hc'
  · exact lookup_const_ge (Or.inr rfl) h1 hc'

def RetE (e : BExp) : Prop := ∀ (d : Nat) {a : Nat} {s s' : CState},
  (compileExpr e (some d) none).run s = .ok (a, s') → isSym e = false → ∀ n, CInv n s → a = d ∨ n ≤ a

def RetX (as : List BExp) : Prop := ∀ (d : Nat) {a : Nat} {s s' : CState},
  (compileXorArgs as d).run s = .ok (a, s') → ∀ n, CInv n s → a = d ∨ n ≤ a

theorem retE_xor {args : List BExp} (ih : RetX args) : RetE (.xor args) := by
  intro d a s s' h _ n hc
  rw [compileExpr_xor] at h
  obtain ⟨r, _, h1⟩ := cachedM_run h
  cases r with
  | some q => exact Or.inl (ret_cacheHit q d h1)
  | none =>
    obtain ⟨d0, s2, hp, h2⟩ := run_bind_ok.mp h1
    obtain ⟨rfl, rfl⟩ := run_pure_ok.mp hp
    obtain ⟨d', s3, hx, h3⟩ := run_bind_ok.mp h2
    rw [ret_cacheResult _ _ d' h3]
    exact ih d0 hx n hc

/-- whatever runs between the compilation of `b` and the rest of the loop is a `QStep` -/
theorem xorRound_ret {b : BExp} {as : List BExp} {d d' r n : Nat} {s s1 s3 s' : CState}
    (ihb : RetE b) (hns : isSym b = false) (ihs : RetX as) (hc : CInv n s)
    (h1 : (compileExpr b (some d) none).run s = .ok (d', s1)) (q : QStep s1 s3)
    (h3 : (compileXorArgs as d').run s3 = .ok (r, s')) : r = d ∨ n ≤ r := by
  rcases ihs d' h3 n ((hc.step (exprP b _ h1)).step q) with rfl | hr
  · exact ihb d h1 hns n hc
  · exact Or.inr hr

theorem retX_cons {a : BExp} {as : List BExp} (iha : RetE a) (ihi : RetE (stripNot a))
    (ihs : RetX as) : RetX (a :: as) := by
  intro d r s s' h n hc
  have step : ∀ {b}, RetE b → isSym b = false → (xorStepM b as d).run s = .ok (r, s') → r = d ∨ n ≤ r := by
    intro b ihb hns h
    obtain ⟨d', s1, h1, h2⟩ := run_bind_ok.mp h
    obtain ⟨s2, q2, h3⟩ := (pres_event _).whenBind_run h2
    exact xorRound_ret ihb hns ihs hc h1 q2 h3
  rw [compileXorArgs_cons] at h
  split at h
  · obtain ⟨q, s1, hl, h1⟩ := run_bind_ok.mp h
    obtain ⟨rfl, _⟩ := lookup_run hl
    rcases run_ite_ok.mp h1 with ⟨_, h1⟩ | ⟨_, h1⟩
    · exact ihs d h1 n hc
    · obtain ⟨u, s2, hcx, h2⟩ := run_bind_ok.mp h1
      exact ihs d h2 n (hc.step (pres_append _ _ hcx))
  · next inner =>
    rcases run_ite_ok.mp h with ⟨_, h⟩ | ⟨hi, h⟩
    · exact step iha rfl h
    · obtain ⟨d', s1, h1, h2⟩ := run_bind_ok.mp h
      obtain ⟨s2, q2, h3⟩ := (pres_event _).whenBind_run h2
      obtain ⟨u, s3, hx, h4⟩ := run_bind_ok.mp h3
      have hns : isSym inner = false := by simpa using hi
      exact xorRound_ret ihi hns ihs hc h1 (q2.trans (pres_append _ _ hx)) h4
  · next hsym _ =>
    refine step iha ?_ h
    cases a with
    | sym n => exact absurd rfl (hsym n)
    | _ => rfl

theorem ret_compile : (∀ e, RetE e) ∧ (∀ as, RetX as) :=
  compile_induction₂
    (ff := fun _ _ _ _ h _ _ hc => by unfold compileExpr at h; exact Or.inr (constFalse_ge h hc))
    (tt := fun _ _ _ _ h _ _ hc => by unfold compileExpr at h; exact Or.inr (constTrue_ge h hc))
    (sym := fun _ _ _ _ _ _ hs => by cases hs)
    (ite := fun _ _ _ _ _ _ _ h => by unfold compileExpr at h; exact (run_throw_ok.mp h).elim)
    (imp := fun _ _ _ _ _ _ h => by unfold compileExpr at h; exact (run_throw_ok.mp h).elim)
    (not := fun x _ d _ _ _ h _ _ _ => Or.inl (ret_not x d h))
    (and := fun l d _ _ _ h _ _ _ => Or.inl (ret_and l d h))
    (or := fun l d _ _ _ h _ _ _ => Or.inl (ret_or l d h))
    (xor := fun _ => retE_xor)
    (xnil := fun _ _ _ _ h _ _ => by unfold compileXorArgs at h; exact Or.inl (run_pure_ok.mp h).1)
    (xcons := fun _ _ => retX_cons)

theorem retE : ∀ e : BExp, RetE e := ret_compile.1
theorem retX : ∀ as : List BExp, RetX as := ret_compile.2

/-- a compiler state with nothing but the `n` argument qubits, mapped by `q{i} ↦ i`; not `C03.Clean`, a property of
a gate list -/
structure Clean (n : Nat) (s : CState) : Prop where
  good : Good s
  nq : s.qc.numQubits = n
  anc : s.qc.anc = []
  free : s.qc.free = []
  marked : s.qc.marked = []
  expq : ∀ p ∈ s.expq, isSym p.1 = true
  qmap_get : ∀ i, i < n → dictGet? s.qc.qmap (qname i) = some i
  qmap_mem : ∀ p ∈ s.qc.qmap, ∃ i, i < n ∧ p = (qname i, i)
  kept : s.qc.kept = []

theorem Clean.cinv {n : Nat} {s : CState} (h : Clean n s) : CInv n s := by
  refine ⟨Nat.le_of_eq h.nq.symm, fun p hp hn => ?_⟩
  obtain ⟨i, _, rfl⟩ := h.qmap_mem p hp
  rcases hn with hn | hn
  · exact absurd hn (qname_ne_of_head i _ 'F' (by decide) (by decide))
  · exact absurd hn (qname_ne_of_head i _ 'T' (by decide) (by decide))

theorem Clean.scratch {n : Nat} {s : CState} (h : Clean n s) : ScratchGe n s :=
  ⟨fun a ha => (by rw [h.anc] at ha; cases ha), fun a ha => (by rw [h.free] at ha; cases ha),
   fun a ha => (by rw [h.marked] at ha; cases ha), fun a ha => (by rw [h.kept] at ha; cases ha)⟩

theorem Clean.of_qc {n : Nat} {s s' : CState} (hc : Clean n s) (hg : Good s') (hq : s'.qc = s.qc)
    (he : ∀ p ∈ s'.expq, isSym p.1 = true) : Clean n s' := by
  obtain ⟨_, nq, anc, free, marked, _, qmap_get, qmap_mem, kept⟩ := hc
  rw [← hq] at nq anc free marked qmap_get qmap_mem kept
  exact ⟨hg, nq, anc, free, marked, he, qmap_get, qmap_mem, kept⟩

theorem Clean.cachedM_miss {n : Nat} {s s' : CState} (hc : Clean n s) {e : BExp} (he : isSym e = false)
    {dest : Option Nat} {body : M Nat} {a : Nat} (h : (cachedM e dest body).run s = .ok (a, s')) :
    body.run s = .ok (a, s') :=
  Compiler.cachedM_miss h fun p hp => beq_sym_false (hc.expq p hp) he

theorem getFreeAncilla_ge {a : Nat} {s s' : CState} (h : getFreeAncilla.run s = .ok (a, s')) {n : Nat}
    (hs : ScratchGe n s) (hn : n ≤ s.qc.numQubits) : n ≤ a := by
  obtain ⟨_, _, _, _, _, _, ⟨_, rfl, _⟩ | ⟨hm, _⟩⟩ := getFreeAncilla_eff h
  · exact hn
  · exact hs.2.1 a hm

theorem Clean.scratch_step {n : Nat} {B : String → Prop} {s s2 : CState} (hc : Clean n s)
    (st : Step B s s2) : ScratchGe n s2 ∧ n ≤ s2.qc.numQubits :=
  ⟨st.ge_keep n (Nat.le_of_eq hc.nq.symm) hc.scratch, hc.nq ▸ st.nq_le⟩

/-- `And` and `Or` at top level, not cached: the arguments are compiled, then the result goes to a fresh
ancilla -/
theorem top_args {n : Nat} {args : List BExp} {k : List Nat → Nat → M Nat}
    (hk : ∀ erets d, Ret (· = d) (k erets d)) {iret : Nat} {s s1 : CState} (hc : Clean n s)
    (h : StateT.run (do
          let erets ← compileArgs args
          let d ← destOr none
          k erets d) s = .ok (iret, s1)) : n ≤ iret := by
  obtain ⟨erets, s2, hargs, h2⟩ := run_bind_ok.mp h
  obtain ⟨hs2, hn2⟩ := hc.scratch_step (argsSpec (B := fun _ => False) args hargs hc.good).1
  obtain ⟨d, s4, hf, h4⟩ := run_bind_ok.mp h2
  exact hk erets d h4 ▸ getFreeAncilla_ge hf hs2 hn2

/-- from a clean state (whose cache holds no compound expression) a right-hand side that is neither a symbol nor the
self-negation of the name being defined goes into a constant's qubit or an ancilla: a qubit `≥ n` -/
theorem compound_ge {n : Nat} {e : BExp} {sym : Option String} {iret : Nat} {s s1 : CState} (hc : Clean n s)
    (hs : isSym e = false) (hself : ∀ x, e = .not x → isSelfNot x sym = false)
    (h : (compileExpr e none sym).run s = .ok (iret, s1)) : n ≤ iret := by
  cases e with
  | ff => unfold compileExpr at h; exact constFalse_ge h hc.cinv
  | tt => unfold compileExpr at h; exact constTrue_ge h hc.cinv
  | sym t => cases hs
  | ite a b c => unfold compileExpr at h; exact (run_throw_ok.mp h).elim
  | imp a b => unfold compileExpr at h; exact (run_throw_ok.mp h).elim
  | and l =>
    rw [compileExpr_and] at h
    exact top_args (fun _ d => Ret.whenBind fun _ => Ret.bind fun _ => ret_finishM _ _ _ d) hc
      (hc.cachedM_miss (e := .and l) rfl h)
  | or l =>
    rw [compileExpr_or] at h
    exact top_args (fun _ d => Ret.whenBind fun _ => Ret.bind fun _ => ret_finishM _ _ _ d) hc
      (hc.cachedM_miss (e := .or l) rfl h)
  | xor l =>
    rw [compileExpr_xor] at h
    obtain ⟨d, s2, hf, h2⟩ := run_bind_ok.mp (hc.cachedM_miss (e := .xor l) rfl h)
    have hd := getFreeAncilla_ge hf hc.scratch (Nat.le_of_eq hc.nq.symm)
    obtain ⟨d', s3, hx, h3⟩ := run_bind_ok.mp h2
    rw [ret_cacheResult _ _ d' h3]
    rcases retX l d hx n (hc.cinv.step (pres_getFreeAncilla hf)) with rfl | hd'
    · exact hd
    · exact hd'
  | not x =>
    rw [compileExpr_not] at h
    rcases run_ite_ok.mp (hc.cachedM_miss (e := .not x) rfl h) with ⟨hself', _⟩ | ⟨_, k1⟩
    · rw [hself x rfl] at hself'; cases hself'
    · obtain ⟨sh, s0', hsh, k1'⟩ := run_bind_ok.mp k1
      have hs0' := (expqGet?_ok hsh hc.good).1
      rw [hs0'] at k1'
      obtain ⟨eret, s2, he, h2⟩ := run_bind_ok.mp k1'
      obtain ⟨st1, _⟩ := exprSpec (B := fun _ => False) x none none he hc.good
        (by intro d hd; cases hd) (by intro y hy; cases hy)
      obtain ⟨hs2, hn2⟩ := hc.scratch_step st1
      obtain ⟨qc, s3, hq, h3⟩ := run_bind_ok.mp h2
      obtain ⟨rfl, rfl⟩ := getQC_run hq
      split at h3
      · next hcond =>
        -- negated in place: the result is the ancilla `eret`
        have hres : iret = eret :=
          (Ret.bind fun _ => Ret.bind fun _ => Ret.bind fun _ => Ret.pure rfl : Ret (· = eret) _) h3
        have hmem : eret ∈ s3.qc.anc := by
          simp only [Bool.and_eq_true] at hcond
          simpa using hcond.1.2
        exact hres ▸ hs2.1 eret hmem
      · obtain ⟨d, s4, hf, h4⟩ := run_bind_ok.mp h3
        have hres : iret = d :=
          (Ret.bind fun _ => Ret.bind fun _ => Ret.bind fun _ => ret_cacheResult _ _ d : Ret (· = d) _) h4
        exact hres ▸ getFreeAncilla_ge hf hs2 hn2

/-- the right-hand side of `q{i} = e` compiled from a clean state; `iret ≠ i`: another symbol `q{j}`, or `iret ≥ n`
by `compound_ge` -/
def TopRes (i : Nat) (e : BExp) (iret : Nat) (s s1 : CState) : Prop :=
  (e = .sym (qname i) ∧ iret = i ∧ s1 = s) ∨
  (e = .not (.sym (qname i)) ∧ iret = i ∧ Appended .X ([] ++ [i]) s s1) ∨ iret ≠ i

theorem top_sym {n i : Nat} (t : String) {iret : Nat} {s s1 : CState} (hc : Clean n s)
    (h : (compileExpr (.sym t) none (some (qname i))).run s = .ok (iret, s1)) :
    TopRes i (.sym t) iret s s1 := by
  unfold compileExpr at h
  rcases compileSymbol_run h with ⟨rfl, hl, _⟩ | ⟨sy, _, _, e, hr, _⟩
  · obtain ⟨j, hj, hp⟩ := hc.qmap_mem _ (dictGet?_mem hl)
    obtain ⟨rfl, rfl⟩ := Prod.mk.inj hp
    by_cases hji : iret = i
    · subst hji; exact Or.inl ⟨rfl, rfl, rfl⟩
    · exact Or.inr (Or.inr hji)
  · cases e; rw [qname_startsWith_us i _ (by decide)] at hr; cases hr

theorem top_selfNot {n i : Nat} (hi : i < n) {iret : Nat} {s s1 : CState} (hc : Clean n s)
    (h : (compileExpr (.not (.sym (qname i))) none (some (qname i))).run s = .ok (iret, s1)) :
    iret = i ∧ Appended .X ([] ++ [i]) s s1 := by
  rw [compileExpr_not] at h
  have h1 := hc.cachedM_miss (e := .not (.sym (qname i))) rfl h
  simp only [isSelfNot, beq_self_eq_true, ↓reduceIte] at h1
  obtain ⟨iret0, s2, hl, h2⟩ := run_bind_ok.mp h1
  obtain ⟨rfl, hl'⟩ := lookup_run hl
  rw [hc.qmap_get i hi] at hl'
  obtain rfl : i = iret0 := Option.some.inj hl'
  obtain ⟨u, s3, hx, h3⟩ := run_bind_ok.mp h2
  obtain ⟨hir, rfl⟩ := run_pure_ok.mp h3
  exact ⟨hir, xGate_run hx⟩

theorem top_step {n i : Nat} (hi : i < n) (e : BExp) {iret : Nat} {s s1 : CState} (hc : Clean n s)
    (h : (compileExpr e none (some (qname i))).run s = .ok (iret, s1)) : TopRes i e iret s s1 := by
  by_cases hs : isSym e = true
  · cases e with
    | sym t => exact top_sym t hc h
    | _ => cases hs
  · by_cases hself : e = .not (.sym (qname i))
    · subst hself; exact Or.inr (Or.inl ⟨rfl, top_selfNot hi hc h⟩)
    · have := compound_ge hc (by simpa using hs) (fun x hx => by
        subst hx
        cases x <;> simp_all [isSelfNot]) h
      exact Or.inr (Or.inr (by omega))

theorem mapQubit_clean {n i : Nat} {promote : Bool} {u : Unit} {s s' : CState} (hc : Clean n s)
    (hi : i < n) (h : (mapQubit (qname i) i promote).run s = .ok (u, s')) : s' = s := by
  have hfalse : (promote && s.qc.anc.contains i) = false := by rw [hc.anc]; simp
  rw [mapQubit_eq h, hfalse]
  simp only [Bool.false_eq_true, ↓reduceIte]
  have hd : dictSet s.qc.qmap (qname i) i = s.qc.qmap := by
    apply Assoc.set_same (β := Nat)
    · rw [← dictGet?_isSome, hc.qmap_get i hi]; rfl
    · intro p hp hk
      obtain ⟨j, _, rfl⟩ := hc.qmap_mem p hp
      have := qname_inj hk
      subst this; rfl
  rw [hd]

theorem uncompute_clean {r : List Nat} {s s' : CState} (hm : s.qc.marked = [])
    (h : uncompute.run s = .ok (r, s')) : r = [] ∧ s' = s := by
  unfold uncompute at h
  obtain ⟨qc, s1, hq, h1⟩ := run_bind_ok.mp h
  obtain ⟨rfl, rfl⟩ := getQC_run hq
  rcases run_ite_ok.mp h1 with ⟨_, h1⟩ | ⟨hne, _⟩
  · exact run_pure_ok.mp h1
  · rw [hm] at hne; simp at hne

theorem after_def_clean {n i : Nat} (hi : i < n) {s s3 s5 : CState} {u u' : Unit} (hc : Clean n s)
    (hb : (bindResultM (qname i) i).run s = .ok (u, s3))
    (he : (stmtEndM true).run s3 = .ok (u', s5)) : Clean n s5 ∧ s5.qc = s.qc := by
  obtain ⟨u0, s1, hrs, h1⟩ := run_bind_ok.mp hb
  obtain ⟨u1, s2, hset, hmap⟩ := run_bind_ok.mp h1
  obtain ⟨unc, s4, hunc, hrem⟩ := run_bind_ok.mp he
  have hc1 : Clean n s1 ∧ s1.qc = s.qc := by
    have hg := (expqRemoveSymbol_ok (B := fun _ => True) hrs hc.good).good
    unfold expqRemoveSymbol at hrs
    have := run_modify_ok.mp hrs; subst this
    exact ⟨hc.of_qc hg rfl fun p hp => hc.expq p (List.mem_filter.mp hp).1, rfl⟩
  obtain ⟨hc1, hq1⟩ := hc1
  obtain ⟨hq2, hk2⟩ := expqSet_run hset
  have hc2 : Clean n s2 := by
    refine hc1.of_qc (expqSet_ok (B := fun _ => True) hset hc1.good (by rw [hc1.nq]; exact hi)).good hq2 ?_
    intro p hp
    rcases hk2 p hp with hp0 | he
    · exact hc1.expq p hp0.1
    · rw [he]; rfl
  have := mapQubit_clean hc2 hi hmap; subst this
  obtain ⟨rfl, rfl⟩ := uncompute_clean hc2.marked hunc
  have hq5 := expqRemove_run hrem
  exact ⟨hc2.of_qc (expqRemove_ok (B := fun _ => True) hrem hc2.good).good hq5
    fun p hp => hc2.expq p (expqRemove_sub hrem p hp).1, (hq5.trans hq2).trans hq1⟩

/-- the `gcore` of an X gate on `i`; the model's `xonly` and `Decopt.runClassical_xs` write `gcore` / `xkey` out as lambdas -/
abbrev xkey (i : Nat) : GClass × List Nat := (GClass.X, [i])

theorem selfId_sym (x : String) : selfId (x, .sym x) = true := by
  simp [selfId, BEq.beq, BExp.beq]

theorem selfNeg_sym (x : String) : selfNeg (x, .sym x) = false := by
  simp [selfNeg, BEq.beq, BExp.beq]

theorem selfNeg_not (x : String) : selfNeg (x, .not (.sym x)) = true := by
  simp [selfNeg, BEq.beq, BExp.beq]

theorem defs_clean {n : Nat} : ∀ (defs : List (String × BExp)) {s s' : CState} {u : Unit} (F : List Nat),
    Clean n s → s.qc.gates.toList.map gcore = F.map xkey →
    (defs.map (·.1)).Nodup → (∀ p ∈ defs, (qidx n p.1).isSome = true) →
    (compileDefs none false defs).run s = .ok (u, s') → nameStable n s'.qc.qmap = true →
    defs.all (fun p => selfId p || selfNeg p) = true ∧
      s'.qc.gates.toList.map gcore = (F ++ negated n defs).map xkey
  | [], s, s', u, F, hc, hg, _, _, h, _ => by
    unfold compileDefs at h
    obtain ⟨_, rfl⟩ := run_pure_ok.mp h
    refine ⟨rfl, ?_⟩
    simpa [negated] using hg
  | (x, e) :: rest, s, s', u, F, hc, hg, hnd, hkeys, h, hst => by
    obtain ⟨i, hqi⟩ := Option.isSome_iff_exists.mp (hkeys (x, e) List.mem_cons_self)
    obtain ⟨hi, hx⟩ := qidx_some hqi
    dsimp only at hx
    subst hx
    rw [List.map_cons] at hnd
    have hnd' := List.nodup_cons.mp hnd
    have hkeys' : ∀ p ∈ rest, (qidx n p.1).isSome = true := fun p hp => hkeys p (List.mem_cons_of_mem _ hp)
    rw [compileDefs_cons] at h
    obtain ⟨iret, s1, he, h1⟩ := run_bind_ok.mp h
    have htop := top_step hi e hc he
    obtain ⟨st1, hlt⟩ := exprSpec (B := fun _ => True) e none (some (qname i)) he hc.good
      (by intro d hd; cases hd) (fun _ _ => trivial)
    obtain ⟨u1, s3, hbind, h3⟩ := run_bind_ok.mp h1
    -- decopt mode (`returns=None`, no final uncomputation): the ancillas are released after every statement
    obtain ⟨u2, s5, hend, h5⟩ := run_bind_ok.mp h3
    rcases htop with ⟨rfl, rfl, rfl⟩ | ⟨rfl, rfl, happ⟩ | hne
    · obtain ⟨hc5, hq5⟩ := after_def_clean hi hc hbind hend
      obtain ⟨hall, hgs⟩ := defs_clean rest F hc5 (by rw [hq5]; exact hg) hnd'.2 hkeys' h5 hst
      refine ⟨?_, ?_⟩
      · rw [List.all_cons, hall, selfId_sym]; rfl
      · rw [hgs]
        unfold negated
        rw [List.filter_cons, selfNeg_sym]
        simp
    · have hc1 : Clean n s1 :=
        ⟨st1.good, by rw [happ.nq]; exact hc.nq, by rw [happ.anc]; exact hc.anc,
          by rw [happ.free]; exact hc.free, by rw [happ.marked]; exact hc.marked,
          by rw [happ.expq]; exact hc.expq, by rw [happ.qmap]; exact hc.qmap_get,
          by rw [happ.qmap]; exact hc.qmap_mem, by rw [happ.kept]; exact hc.kept⟩
      have hg1 : s1.qc.gates.toList.map gcore = (F ++ [iret]).map xkey := by
        obtain ⟨g, hcls, hw, hgates, _⟩ := happ.gates
        rw [hgates, Array.toList_push, List.map_append, hg, List.map_append]
        simp [gcore, xkey, hcls, hw]
      obtain ⟨hc5, hq5⟩ := after_def_clean hi hc1 hbind hend
      obtain ⟨hall, hgs⟩ := defs_clean rest (F ++ [iret]) hc5 (by rw [hq5]; exact hg1) hnd'.2 hkeys' h5 hst
      refine ⟨?_, ?_⟩
      · rw [List.all_cons, hall, selfNeg_not]; simp
      · rw [hgs]
        unfold negated
        rw [List.filter_cons, selfNeg_not]
        simp [hqi]
    · -- any other definition moves `q{i}` away from qubit `i` for good
      exfalso
      obtain ⟨st3, hkey⟩ := bindResultM_ok (B := fun _ => True) hbind st1.good hlt trivial
      have st5 : Step (· ∈ rest.map (·.1)) s3 s5 := stmtEndM_ok hend st3.good
      obtain ⟨st6, _⟩ := compileDefs_ok (B := (· ∈ rest.map (·.1))) (retBits := none) (doUnc := false) rest h5 st5.good
        (fun p hp => List.mem_map.mpr ⟨p, hp, rfl⟩)
      have hkeep := (st5.trans st6).qmap_keep (qname i) hnd'.1 (qname_not_reserved i)
      have hfin := List.all_eq_true.mp hst i (List.mem_range.mpr hi)
      rw [hkeep, hkey] at hfin
      simp at hfin
      exact hne hfin

theorem symbols_get {n i : Nat} (hi : i < n) : (symbols n)[i]? = some (qname i) := by
  unfold symbols
  rw [List.getElem?_map, List.getElem?_range hi]; rfl

theorem symbols_get_inv {n j : Nat} {x : String} (h : (symbols n)[j]? = some x) : j < n ∧ x = qname j := by
  unfold symbols at h
  rw [List.getElem?_map] at h
  have hj : j < n := by
    by_cases hj : j < n
    · exact hj
    · rw [List.getElem?_eq_none (by simpa using hj)] at h; simp at h
  rw [List.getElem?_range hj] at h
  exact ⟨hj, by simpa using h.symm⟩

theorem symbols_nodup (n : Nat) : (symbols n).Nodup := by
  unfold symbols
  exact List.Pairwise.map qname (fun a b hab h => hab (qname_inj h)) List.nodup_range

theorem symbols_length (n : Nat) : (symbols n).length = n := by simp [symbols]

theorem entry_clean (n : Nat) (cs : List Nat) : Clean n (entry cs (symbols n)) := by
  refine ⟨good_entry _ _, symbols_length n, rfl, rfl, rfl, List.forall_mem_nil _,
    fun i hi => entry_pos (symbols_nodup n) (symbols_get hi), fun p hp => ?_, rfl⟩
  obtain ⟨hjn, hx⟩ := symbols_get_inv (entry_mem hp)
  exact ⟨p.2, hjn, Prod.ext hx rfl⟩

theorem removeIdentitiesList_xs {gs : List AGate} {F : List Nat} (hF : F.Nodup)
    (h : gs.map gcore = F.map xkey) : removeIdentitiesList gs = gs := by
  have hx : ∀ g ∈ gs, ∃ i ∈ F, gcore g = xkey i := fun g hg =>
    List.mem_map.mp (h ▸ List.mem_map_of_mem hg) |>.imp fun i hi => ⟨hi.1, hi.2.symm⟩
  refine (removeIdentitiesList_ri gs).eq_of_distinct (fun g hg hb => ?_) ?_
  · obtain ⟨i, _, hi⟩ := hx g hg
    have hX : g.cls = .X := congrArg Prod.fst hi
    rw [hX] at hb; cases hb
  · have hk : (gs.map gcore).Pairwise (· ≠ ·) := by
      rw [h]; exact List.Pairwise.map _ (fun a b hab he => hab (by simpa [xkey] using he)) hF
    exact (List.pairwise_map.mp hk).imp fun hne he => hne (by rw [he])

/-- for every choice of ancillas: a re-synthesis (`exprs_to_quantum` on all `n` qubits) whose qubit map sends every
`q{i}` to `i` – a necessary condition of the repaired splice test – compiled only definitions `q = q` / `q = ~q`
and consists of the X gates of the self-negations -/
theorem stable_xonly {n : Nat} {exprs : List (String × BExp)} {choices : List Nat} {r : SecResult}
    (hk : keysOK n exprs = true) (h : resynth n exprs choices = .ok r)
    (hst : nameStable n r.qmap = true) : xonly n exprs r.gates = true := by
  simp only [keysOK, Bool.and_eq_true, decide_eq_true_eq, List.all_eq_true] at hk
  unfold resynth at h
  split at h
  · cases h
  · next s hrun =>
    cases h
    dsimp only at hst ⊢
    obtain ⟨s2, s3, hdefs, hrem, h4, _⟩ := Compiler.compile_cut hrun
    obtain ⟨_, rfl⟩ := run_pure_ok.mp h4
    obtain ⟨hgates, hqm, _⟩ := removeIdentities_run hrem
    rw [hqm] at hst
    obtain ⟨hall, hgs⟩ := defs_clean exprs [] (entry_clean n choices) rfl hk.1 hk.2 hdefs hst
    rw [List.nil_append] at hgs
    rw [hgates, removeIdentitiesList_xs (negated_nodup hk.1) hgs]
    simp only [xonly, Bool.and_eq_true, beq_iff_eq]
    exact ⟨hall, hgs⟩

end QV.Decopt
