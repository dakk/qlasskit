import QV.Model.Compiler
namespace QV
open QV.Compiler

theorem flip_getD (s : BState) (i j : Nat) :
    (s.flip i).getD j false = if i = j ∧ j < s.length then !(s.getD j false) else s.getD j false := by
  unfold BState.flip
  simp only [List.getD_eq_getElem?_getD, List.getElem?_modify]
  by_cases hj : j < s.length
  · simp [hj]
  · simp at hj; simp [hj]

theorem flip_length (s : BState) (i : Nat) : (s.flip i).length = s.length := by
  unfold BState.flip; simp

theorem flip_comm (s : BState) (i j : Nat) : (s.flip i).flip j = (s.flip j).flip i := by
  apply List.ext_getElem?
  intro k
  unfold BState.flip
  simp only [List.getElem?_modify]
  cases s[k]? with
  | none => rfl
  | some a => by_cases h1 : i = k <;> by_cases h2 : j = k <;> simp [h1, h2]

theorem flip_flip (s : BState) (i : Nat) : (s.flip i).flip i = s := by
  unfold BState.flip
  rw [List.modify_modify_eq]
  apply List.ext_getElem?
  intro k
  simp only [List.getElem?_modify]
  cases s[k]? with
  | none => rfl
  | some a => by_cases h : i = k <;> simp [h]

theorem flip_set (s : BState) (r : Nat) (b : Bool) : BState.flip (s.set r b) r = s.set r (!b) := by
  apply List.ext_getElem?
  intro k
  simp only [BState.flip, List.getElem?_modify, List.getElem?_set]
  by_cases hk : r = k
  · subst hk; by_cases hl : r < s.length <;> simp [hl]
  · simp [hk]

theorem controls_flip (cs : List Nat) (s : BState) (r : Nat) (h : ¬ cs.contains r) :
    cs.all (fun c => (s.flip r).getD c false) = cs.all (fun c => s.getD c false) := by
  induction cs with
  | nil => rfl
  | cons c cs ih =>
    simp only [List.contains_cons, Bool.or_eq_true, not_or] at h
    simp only [List.all_cons]
    rw [ih (by simpa using h.2), flip_getD]
    have : ¬ (r = c) := by intro e; apply h.1; simp [e]
    simp [this]

theorem applyClassical_flip (g : AGate) (s : BState) (r : Nat)
    (h : ¬ g.wires.dropLast.contains r) :
    g.applyClassical (s.flip r) = (g.applyClassical s).flip r := by
  unfold AGate.applyClassical
  cases g.wires.getLast? with
  | none => rfl
  | some t =>
    simp only [controls_flip _ s r h]
    split
    · exact flip_comm s r t
    · rfl

theorem runClassical_flip (gs : List AGate) (r : Nat) (h : retNeverControl gs r = true) (s : BState) :
    runClassical gs (s.flip r) = (runClassical gs s).flip r := by
  unfold runClassical
  induction gs generalizing s with
  | nil => rfl
  | cons g gs ih =>
    simp only [retNeverControl, List.all_cons, Bool.and_eq_true] at h
    simp only [List.foldl_cons]
    have hg := h.1
    by_cases hm : g.cls.isMCXLike = true
    · simp only [hm, if_true]
      have : ¬ g.wires.dropLast.contains r := by simpa [hm] using hg
      rw [applyClassical_flip g s r this]
      exact ih (by simpa [retNeverControl] using h.2) _
    · simp only [hm]
      exact ih (by simpa [retNeverControl] using h.2) _

theorem mem_allBits (x : List Bool) : x ∈ allBits x.length := by
  induction x with
  | nil => simp [allBits]
  | cons b bs ih =>
    simp only [List.length_cons, allBits, List.mem_flatMap]
    exact ⟨bs, ih, by cases b <;> simp⟩

theorem mem_allBits' {x : List Bool} {n : Nat} (h : x.length = n) : x ∈ allBits n := h ▸ mem_allBits x

theorem allBits_length {n : Nat} {x : List Bool} (h : x ∈ allBits n) : x.length = n := by
  induction n generalizing x with
  | zero => simp [allBits] at h; simp [h]
  | succ n ih =>
    simp only [allBits, List.mem_flatMap] at h
    obtain ⟨l, hl, hx⟩ := h
    have := ih hl
    simp at hx
    rcases hx with rfl | rfl <;> simp [this]

theorem BState.ext_getD {a b : BState} (hl : a.length = b.length)
    (h : ∀ j, j < a.length → a.getD j false = b.getD j false) : a = b := by
  apply List.ext_getElem hl
  intro j h1 h2
  simpa [List.getD_eq_getElem?_getD, h1, h2] using h j h1

theorem set_false_id (s : BState) (r : Nat) (h : s.getD r false = false) : s.set r false = s := by
  by_cases hl : r < s.length
  · have : s[r] = false := by simpa [List.getD_eq_getElem?_getD, hl] using h
    rw [← this, List.set_getElem_self]
  · exact List.set_eq_of_length_le (by omega)

theorem set_eq_flip_of_false (s : BState) (r : Nat) (h : s.getD r false = false) :
    s.set r true = s.flip r := by
  apply List.ext_getElem?
  intro k
  unfold BState.flip
  simp only [List.getElem?_set, List.getElem?_modify]
  by_cases hk : r = k
  · subst hk
    by_cases hl : r < s.length
    · have hv : s[r] = false := by
        simpa [List.getD_eq_getElem?_getD, List.getElem?_eq_getElem hl] using h
      simp [hl, hv]
    · simp at hl; simp [hl]
  · simp [hk]

theorem last_not_in_dropLast {l : List Nat} (hn : l.Nodup) {t : Nat} (ht : l.getLast? = some t) :
    ¬ l.dropLast.contains t := by
  have hne : l ≠ [] := by intro h; subst h; simp at ht
  have hl : l.getLast hne = t := by
    rw [List.getLast?_eq_some_getLast hne] at ht; simpa using ht
  have := List.dropLast_concat_getLast hne
  rw [hl] at this
  rw [← this] at hn
  have := (List.nodup_append.mp hn).2.2
  intro hc
  have hc' : t ∈ l.dropLast := by simpa using hc
  exact this t hc' t (by simp) rfl

theorem applyClassical_involutive (g : AGate) (hn : g.wires.Nodup) (s : BState) :
    g.applyClassical (g.applyClassical s) = s := by
  unfold AGate.applyClassical
  cases ht : g.wires.getLast? with
  | none => rfl
  | some t =>
    simp only
    have hnc := last_not_in_dropLast hn ht
    by_cases hc : g.wires.dropLast.all (fun c => s.getD c false) = true
    · simp only [hc, if_true, controls_flip _ s t hnc, flip_flip]
    · simp only [hc]; simp only [Bool.false_eq_true, if_false, hc]

def stepClassical (s : BState) (g : AGate) : BState :=
  if g.cls.isMCXLike then g.applyClassical s else s

theorem runClassical_cons (g : AGate) (gs : List AGate) (s : BState) :
    runClassical (g :: gs) s = runClassical gs (stepClassical s g) := rfl

theorem runClassical_append (a b : List AGate) (s : BState) :
    runClassical (a ++ b) s = runClassical b (runClassical a s) := by
  unfold runClassical; rw [List.foldl_append]

theorem applyClassical_length (g : AGate) (s : BState) : (g.applyClassical s).length = s.length := by
  unfold AGate.applyClassical
  cases g.wires.getLast? with
  | none => rfl
  | some t => simp only; split <;> simp [flip_length]

theorem stepClassical_length (g : AGate) (s : BState) : (stepClassical s g).length = s.length := by
  unfold stepClassical; split
  · exact applyClassical_length g s
  · rfl

theorem runClassical_length (gs : List AGate) : ∀ s : BState, (runClassical gs s).length = s.length := by
  induction gs with
  | nil => intro s; rfl
  | cons g gs ih => intro s; rw [runClassical_cons, ih, stepClassical_length]

theorem stepClassical_involutive (g : AGate) (hn : g.cls.isMCXLike = true → g.wires.Nodup) (s : BState) :
    stepClassical (stepClassical s g) g = s := by
  unfold stepClassical
  split
  · next hm => exact applyClassical_involutive g (hn hm) s
  · rfl

theorem runClassical_reverse_undo_acting (gs : List AGate)
    (h : ∀ g ∈ gs, g.cls.isMCXLike = true → g.wires.Nodup) (s : BState) :
    runClassical (gs ++ gs.reverse) s = s := by
  induction gs generalizing s with
  | nil => rfl
  | cons g gs ih =>
    have e : g :: gs ++ (g :: gs).reverse = g :: ((gs ++ gs.reverse) ++ [g]) := by simp
    rw [e, runClassical_cons, runClassical_append, ih (fun g' hg' => h g' (List.mem_cons_of_mem _ hg'))]
    exact stepClassical_involutive g (h g List.mem_cons_self) s

theorem runClassical_reverse_undo (gs : List AGate) (h : ∀ g ∈ gs, g.wires.Nodup) (s : BState) :
    runClassical (gs ++ gs.reverse) s = s :=
  runClassical_reverse_undo_acting gs (fun g hg _ => h g hg) s

theorem runClassical_reverse_left (gs : List AGate) (h : ∀ g ∈ gs, g.cls.isMCXLike = true → g.wires.Nodup)
    (s : BState) : runClassical gs.reverse (runClassical gs s) = s := by
  rw [← runClassical_append]; exact runClassical_reverse_undo_acting gs h s

theorem runClassical_reverse_right (gs : List AGate) (h : ∀ g ∈ gs, g.cls.isMCXLike = true → g.wires.Nodup)
    (s : BState) : runClassical gs (runClassical gs.reverse s) = s := by
  have := runClassical_reverse_left gs.reverse (fun g hg => h g (List.mem_reverse.mp hg)) s
  rwa [List.reverse_reverse] at this

theorem GClass.not_isMCXLike_of_isNop {c : GClass} (h : c.isNop = true) : c.isMCXLike = false := by
  cases c with
  | Barrier | Nop => rfl
  | _ => cases h

theorem GClass.not_isNop_of_isMCXLike {c : GClass} (h : c.isMCXLike = true) : c.isNop = false :=
  Bool.eq_false_iff.mpr fun hn => Bool.false_ne_true ((not_isMCXLike_of_isNop hn).symm.trans h)

theorem stepClassical_nop (g : AGate) (h : g.cls.isNop = true) (s : BState) : stepClassical s g = s := by
  unfold stepClassical
  rw [GClass.not_isMCXLike_of_isNop h]
  rfl

theorem AGate.target_of_getLast? {g : AGate} {q : Nat} (h : g.wires.getLast? = some q) : g.target = q := by
  unfold AGate.target; rw [h]; rfl

theorem AGate.target_concat {g : AGate} {cs : List Nat} {t : Nat} (h : g.wires = cs ++ [t]) : g.target = t :=
  AGate.target_of_getLast? (by rw [h]; simp)

theorem Compiler.target_of_wires {g g' : AGate} (h : g'.wires = g.wires) : g'.target = g.target := by
  unfold AGate.target; rw [h]

theorem Compiler.getLast_of_target {g : AGate} (hne : g.wires ≠ []) : g.wires.getLast? = some g.target := by
  unfold AGate.target
  rw [List.getLast?_eq_some_getLast hne]
  rfl

theorem Compiler.wires_split {g : AGate} (h : g.wires ≠ []) :
    ∃ cs t, g.wires = cs ++ [t] ∧ g.target = t ∧ g.wires.dropLast = cs :=
  ⟨g.wires.dropLast, g.wires.getLast h, (List.dropLast_concat_getLast h).symm,
    AGate.target_of_getLast? (List.getLast?_eq_some_getLast h), rfl⟩

theorem applyClassical_getD_of_ne_target (g : AGate) (s : BState) (q : Nat) (h : g.wires.getLast? ≠ some q) :
    (g.applyClassical s).getD q false = s.getD q false := by
  unfold AGate.applyClassical
  cases ht : g.wires.getLast? with
  | none => rfl
  | some t =>
    simp only
    split
    · rw [flip_getD]
      have : ¬ t = q := by intro e; apply h; rw [ht, e]
      simp [this]
    · rfl

theorem runClassical_getD_untargeted (gs : List AGate) (q : Nat)
    (h : ∀ g ∈ gs, g.wires.getLast? ≠ some q) (s : BState) :
    (runClassical gs s).getD q false = s.getD q false := by
  induction gs generalizing s with
  | nil => rfl
  | cons g gs ih =>
    rw [runClassical_cons, ih (fun g' hg' => h g' (List.mem_cons_of_mem _ hg'))]
    unfold stepClassical
    split
    · exact applyClassical_getD_of_ne_target g s q (h g List.mem_cons_self)
    · rfl

theorem runClassical_getD_of_target_ne (gs : List AGate) (q : Nat) (h : ∀ g ∈ gs, g.target ≠ q) (s : BState) :
    (runClassical gs s).getD q false = s.getD q false :=
  runClassical_getD_untargeted gs q (fun g hg e => h g hg (AGate.target_of_getLast? e)) s

/-- `ψ`: the amplitudes, `sem g`: the action of the gate `g` on them; precomposition reverses the order of the gates -/
theorem foldl_precomp_classical {α : Type} (sem : AGate → (BState → α) → BState → α) (A : List AGate)
    (h : ∀ g ∈ A, ∀ ψ b, sem g ψ b = ψ (stepClassical b g)) :
    ∀ (ψ : BState → α) (b : BState), A.foldl (fun ψ g => sem g ψ) ψ b = ψ (runClassical A.reverse b) := by
  induction A with
  | nil => intro ψ b; rfl
  | cons g A ih =>
    intro ψ b
    rw [List.foldl_cons, ih (fun x hx => h x (List.mem_cons_of_mem _ hx)), List.reverse_cons,
      runClassical_append, h g List.mem_cons_self]
    rfl

/-- what `remove_identities` does to a gate list: it deletes an adjacent pair of one gate, such a pair with a barrier
between the two, and a barrier in front of a deleted pair (`popBarrier`).  (The loop deletes a pair only if the gate
is self-inverse; no fact below needs that.) -/
inductive RI : List AGate → List AGate → Prop
  | refl (l : List AGate) : RI l l
  | pair (a : List AGate) (g : AGate) (b : List AGate) {l' : List AGate} : RI (a ++ b) l' → RI (a ++ g :: g :: b) l'
  | pairB (a : List AGate) (g bar : AGate) (b : List AGate) {l' : List AGate} : bar.cls = .Barrier →
      RI (a ++ b) l' → RI (a ++ g :: bar :: g :: b) l'
  | pop (a : List AGate) (bar : AGate) (b : List AGate) {l' : List AGate} : bar.cls = .Barrier →
      RI (a ++ b) l' → RI (a ++ bar :: b) l'

theorem RI.popBarrier {res b l' : List AGate} (h : RI ((popBarrier res).reverse ++ b) l') :
    RI (res.reverse ++ b) l' := by
  unfold QV.Compiler.popBarrier at h
  split at h
  · exact h
  · next r rs =>
    split at h
    · next hb =>
      rw [List.reverse_cons, List.append_assoc]
      exact RI.pop _ r _ (by simpa using hb) h
    · exact h

theorem removeIdentitiesLoop_ri : ∀ (fuel : Nat) (gs res : List AGate), gs.length < fuel →
    RI (res.reverse ++ gs) (removeIdentitiesLoop fuel gs res)
  | 0, _, _, hl => absurd hl (Nat.not_lt_zero _)
  | fuel + 1, [], res, _ => by
    simp only [removeIdentitiesLoop, List.append_nil]
    exact RI.refl _
  | fuel + 1, g :: rest, res, hl => by
    have hl' : rest.length < fuel := by simpa using hl
    have keep : RI (res.reverse ++ g :: rest) (removeIdentitiesLoop fuel rest (g :: res)) := by
      have := removeIdentitiesLoop_ri fuel rest (g :: res) hl'
      rwa [List.reverse_cons, List.append_assoc] at this
    simp only [removeIdentitiesLoop]
    cases rest with
    | nil => exact keep
    | cons g1 rest1 =>
      have hl1 : rest1.length < fuel := by simp at hl'; omega
      dsimp only
      split
      · next e1 =>
        have eg : g = g1 := by simp only [Bool.and_eq_true] at e1; simpa using e1.2
        subst eg
        exact RI.pair _ g _ (removeIdentitiesLoop_ri fuel rest1 (popBarrier res) hl1).popBarrier
      · cases rest1 with
        | nil => exact keep
        | cons g2 rest2 =>
          dsimp only
          split
          · next e2 =>
            simp only [Bool.and_eq_true] at e2
            have eg : g = g2 := by simpa using e2.1.2
            subst eg
            exact RI.pairB _ g g1 _ (by simpa using e2.2)
              (removeIdentitiesLoop_ri fuel rest2 (popBarrier res) (by simp at hl1; omega)).popBarrier
          · exact keep

theorem RI.mem {l l' : List AGate} (h : RI l l') {g : AGate} (hg : g ∈ l') : g ∈ l := by
  induction h with
  | refl => exact hg
  | pair a g0 b _ ih => have := ih hg; simp only [List.mem_append, List.mem_cons] at this ⊢; rcases this with h | h <;> simp [h]
  | pairB a g0 bar b _ _ ih => have := ih hg; simp only [List.mem_append, List.mem_cons] at this ⊢; rcases this with h | h <;> simp [h]
  | pop a bar b _ _ ih => have := ih hg; simp only [List.mem_append, List.mem_cons] at this ⊢; rcases this with h | h <;> simp [h]

theorem RI.eq_of_distinct {l l' : List AGate} (h : RI l l') (hb : ∀ g ∈ l, g.cls ≠ .Barrier)
    (hd : l.Pairwise (· ≠ ·)) : l' = l := by
  cases h with
  | refl => rfl
  | pair a g b _ =>
    exact absurd rfl ((List.pairwise_cons.mp (List.pairwise_append.mp hd).2.1).1 g List.mem_cons_self)
  | pairB a g bar b hbar _ => exact absurd hbar (hb bar (by simp))
  | pop a bar b hbar _ => exact absurd hbar (hb bar (by simp))

theorem RI.run {l l' : List AGate} (h : RI l l') (hwf : ∀ g ∈ l, g.wires.Nodup) (s : BState) :
    runClassical l' s = runClassical l s := by
  have nop : ∀ (bar : AGate) (t : BState), bar.cls = .Barrier → stepClassical t bar = t := fun bar t hb =>
    stepClassical_nop bar (by rw [hb]; rfl) t
  induction h with
  | refl => rfl
  | pair a g b _ ih =>
    rw [ih (fun x hx => hwf x (by simp only [List.mem_append, List.mem_cons] at hx ⊢; rcases hx with h | h <;> simp [h])),
      runClassical_append, runClassical_append, runClassical_cons, runClassical_cons,
      stepClassical_involutive g (fun _ => hwf g (by simp))]
  | pairB a g bar b hb _ ih =>
    rw [ih (fun x hx => hwf x (by simp only [List.mem_append, List.mem_cons] at hx ⊢; rcases hx with h | h <;> simp [h])),
      runClassical_append, runClassical_append, runClassical_cons, runClassical_cons, runClassical_cons, nop bar _ hb,
      stepClassical_involutive g (fun _ => hwf g (by simp))]
  | pop a bar b hb _ ih =>
    rw [ih (fun x hx => hwf x (by simp only [List.mem_append, List.mem_cons] at hx ⊢; rcases hx with h | h <;> simp [h])),
      runClassical_append, runClassical_append, runClassical_cons, nop bar _ hb]

theorem removeIdentitiesList_ri (gs : List AGate) : RI gs (removeIdentitiesList gs) := by
  simpa [removeIdentitiesList] using removeIdentitiesLoop_ri (gs.length + 1) gs [] (by omega)

theorem removeIdentitiesList_sound (gs : List AGate)
    (hwf : ∀ g ∈ gs, g.wires.Nodup) (s : BState) :
    runClassical (removeIdentitiesList gs) s = runClassical gs s :=
  (removeIdentitiesList_ri gs).run hwf s

end QV

namespace QV.Compiler
open QV

/-! Qubit values as total functions `Nat → Bool` (`runF`): this frees the invariants from length side conditions;
`runF_spec` relates them to `runClassical` on a list state long enough for every wire. -/

abbrev FState := Nat → Bool

def applyF (g : AGate) (f : FState) : FState :=
  match g.wires.getLast? with
  | none => f
  | some t => if g.wires.dropLast.all f then (fun q => if q = t then !f t else f q) else f

def stepF (f : FState) (g : AGate) : FState := if g.cls.isMCXLike then applyF g f else f

def runF (gs : List AGate) (f : FState) : FState := gs.foldl stepF f

theorem stepF_eq_applyF {g : AGate} (hm : g.cls.isMCXLike = true) (f : FState) : stepF f g = applyF g f := by
  unfold stepF; rw [hm]; rfl

theorem runF_cons (g : AGate) (gs : List AGate) (f : FState) : runF (g :: gs) f = runF gs (stepF f g) := rfl

theorem runF_append (a b : List AGate) (f : FState) : runF (a ++ b) f = runF b (runF a f) := by
  unfold runF; rw [List.foldl_append]

theorem untargeted_runF (gs : List AGate) (q : Nat) (h : ∀ g ∈ gs, g.wires.getLast? ≠ some q) (f : FState) :
    runF gs f q = f q := by
  induction gs generalizing f with
  | nil => rfl
  | cons g gs ih =>
    rw [runF_cons, ih (fun g' hg' => h g' (List.mem_cons_of_mem _ hg'))]
    unfold stepF
    split
    · unfold applyF
      cases ht : g.wires.getLast? with
      | none => rfl
      | some t =>
        dsimp only
        split
        · have : q ≠ t := by
            rintro rfl; exact h g List.mem_cons_self ht
          simp [this]
        · rfl
    · rfl

theorem runF_of_target_ne (gs : List AGate) (q : Nat) (h : ∀ g ∈ gs, g.target ≠ q) (f : FState) :
    runF gs f q = f q :=
  untargeted_runF gs q (fun g hg e => h g hg (AGate.target_of_getLast? e)) f

def toF (σ : BState) : FState := fun q => σ.getD q false

theorem stepF_spec (g : AGate) (σ : BState) (h : ∀ w ∈ g.wires, w < σ.length) :
    toF (stepClassical σ g) = stepF (toF σ) g := by
  unfold stepClassical stepF
  split
  · unfold AGate.applyClassical applyF
    cases ht : g.wires.getLast? with
    | none => rfl
    | some t =>
      have htl : t < σ.length := h t (List.mem_of_getLast? ht)
      dsimp only
      have e : (g.wires.dropLast.all fun c => σ.getD c false) = g.wires.dropLast.all (toF σ) := rfl
      rw [e]
      split
      · funext q
        show (σ.flip t).getD q false = _
        rw [flip_getD]
        by_cases hq : q = t
        · subst hq; simp [htl, toF]
        · simp [hq, Ne.symm hq, toF]
      · rfl
  · rfl

theorem runF_spec (gs : List AGate) (σ : BState) (h : ∀ g ∈ gs, ∀ w ∈ g.wires, w < σ.length) :
    toF (runClassical gs σ) = runF gs (toF σ) := by
  induction gs generalizing σ with
  | nil => rfl
  | cons g gs ih =>
    rw [runClassical_cons, runF_cons, ← stepF_spec g σ (h g List.mem_cons_self)]
    apply ih
    intro g' hg' w hw
    rw [stepClassical_length]
    exact h g' (List.mem_cons_of_mem _ hg') w hw

theorem applyF_eq (g : AGate) (cs : List Nat) (t : Nat) (hw : g.wires = cs ++ [t]) (f : FState) :
    applyF g f t = Bool.xor (f t) (cs.all f) := by
  unfold applyF
  rw [hw]
  simp only [List.getLast?_append, List.getLast?_singleton, Option.some_or, List.dropLast_concat]
  split
  · next h => rw [h]; simp
  · next h =>
    have : cs.all f = false := by simpa using h
    rw [this]; simp

theorem applyF_ne (g : AGate) (cs : List Nat) (t : Nat) (hw : g.wires = cs ++ [t]) (f : FState)
    (q : Nat) (hq : q ≠ t) : applyF g f q = f q := by
  unfold applyF
  rw [hw]
  simp only [List.getLast?_append, List.getLast?_singleton, Option.some_or, List.dropLast_concat]
  split
  · simp [hq]
  · rfl

end QV.Compiler
