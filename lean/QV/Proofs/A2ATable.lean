import QV.Proofs.A2AIndexChains
/-! `visit_Subscript` on a variable index into a tuple literal / a constant tuple returns `tableChain` (a left fold: the
*last* element is the outermost test, the first element the innermost `else`). -/
namespace QV.A2A
open QV.Sem

/-- `[x0, …, xn][i]`, `i` a variable that is no constant of the environment (the elements are not visited) -/
theorem visitE_table_lit (st : RSt) (i : String) (x : SExp) (xs : List SExp) (hi : lookup st.consts i = none) :
    visitE st (.sub (.tuple (x :: xs)) (.name i)) = .ok (tableChain (.name i) x xs) := by
  simp [visitE, visitSub, constSlice, hi, visitSubTable, pure, Except.pure]

theorem visitE_table_lit_sub (st : RSt) (a b x : SExp) (xs : List SExp) :
    visitE st (.sub (.tuple (x :: xs)) (.sub a b)) = .ok (tableChain (.sub a b) x xs) := by
  simp [visitE, visitSub, constSlice, visitSubTable, pure, Except.pure]

theorem visitE_table_const (st : RSt) (T : String) (cv : EVal) (a b x : SExp) (xs : List SExp) (hT : T ≠ "Tuple")
    (hc : lookup st.consts T = some cv) (hn : cv.asNode? = some (.tuple (x :: xs))) :
    visitE st (.sub (.name T) (.sub a b)) = .ok (tableChain (.sub a b) x xs) := by
  simp only [visitE, visitSub, constSlice, visitSubTable]
  split
  · rename_i h; simp at h
  · split
    · rename_i h; cases h; exact absurd rfl hT
    · simp [hc, hn, pure, Except.pure]

theorem toP_tableChain (i x : SExp) (xs : List SExp) :
    toP (tableChain i x xs) = selChain (fun p : SExp × Nat => .cmp "Eq" (toP i) (.cint ((p.2 : Int) + 1)))
      (fun p => toP p.1) xs.zipIdx.reverse (toP x) := by
  unfold tableChain
  generalize xs.zipIdx = l
  induction l generalizing x with
  | nil => rfl
  | cons p l ih =>
    rw [List.foldl_cons, ih, List.reverse_cons, selChain, selChain, List.foldr_append]
    simp only [toP, List.foldr_cons, List.foldr_nil]

theorem maxWidth_reverse (w : Nat) : ∀ vs : List SVal, maxWidth w vs.reverse = maxWidth w vs
  | [] => rfl
  | v :: vs => by
    rw [List.reverse_cons]
    show (vs.reverse ++ [v]).foldl _ w = maxWidth (max w (widthOf v)) vs
    rw [List.foldl_append, maxWidth_max, Nat.max_comm, ← maxWidth_reverse w vs]
    rfl

theorem forall₂_getElem? {α β : Type} {R : α → β → Prop} : ∀ {l1 : List α} {l2 : List β}, List.Forall₂ R l1 l2 →
    l1.length = l2.length ∧ ∀ (n : Nat) a, l1[n]? = some a → ∃ b, l2[n]? = some b ∧ R a b
  | _, _, .nil => ⟨rfl, fun n a h => by cases h⟩
  | _, _, .cons h1 h => by
    obtain ⟨hl, hn⟩ := forall₂_getElem? h
    refine ⟨congrArg (· + 1) hl, fun n a ha => ?_⟩
    cases n with
    | zero => cases ha; exact ⟨_, rfl, h1⟩
    | succ n => exact hn n a ha

section
variable (σ : SEnv) (ie : SExp) (wi xv : Nat) (hi : semW σ (toP ie) = some (.int wi xv)) (xs : List SExp)
  (v : SVal) (vs : List SVal)
include hi

theorem table_items (Q : SVal → Prop) (hlen : xs.length < 65535)
    (hf : List.Forall₂ (fun e u => semW σ (toP e) = some u ∧ Q u) xs vs) :
    ∀ p ∈ xs.zipIdx.reverse, semW σ (.cmp "Eq" (toP ie) (.cint ((p.2 : Int) + 1))) = some (.bool (decide (xv = p.2 + 1))) ∧
      semW σ (toP p.1) = some (vs[p.2]?.getD v) ∧ Q (vs[p.2]?.getD v) := fun p hp => by
  have hp' := List.mem_zipIdx_iff_getElem?.mp (List.mem_reverse.mp hp)
  obtain ⟨u, hu, hsem, hQ⟩ := (forall₂_getElem? hf).2 _ _ hp'
  have hlt : p.2 < xs.length := (List.getElem?_eq_some_iff.mp hp').1
  have hcast : ((p.2 : Int) + 1) = ((p.2 + 1 : Nat) : Int) := by push_cast; rfl
  rw [hcast, semW_eq_const σ (toP ie) wi xv (p.2 + 1) hi (by omega), hu]
  exact ⟨rfl, hsem, hQ⟩
omit hi

theorem table_selected (hl : xs.length = vs.length) :
    pyIndex1 (v :: vs) (if xv ≤ xs.length then xv else 0)
      = some (selected (fun p : SExp × Nat => decide (xv = p.2 + 1)) (fun p => vs[p.2]?.getD v) xs.zipIdx.reverse v) := by
  rcases selected_cases (fun p : SExp × Nat => decide (xv = p.2 + 1)) (fun p => vs[p.2]?.getD v) xs.zipIdx.reverse v
    with ⟨p, hp, hhit, e⟩ | ⟨hmiss, e⟩ <;> rw [e]
  · have hlt : p.2 < xs.length :=
      (List.getElem?_eq_some_iff.mp (List.mem_zipIdx_iff_getElem?.mp (List.mem_reverse.mp hp))).1
    obtain rfl : xv = p.2 + 1 := of_decide_eq_true hhit
    simp [pyIndex1, Nat.succ_le_of_lt hlt, List.getElem?_eq_getElem (hl ▸ hlt)]
  · rcases Nat.eq_zero_or_pos xv with rfl | h0
    · simp [pyIndex1]
    · have : ¬ xv ≤ xs.length := fun hle => by
        have hlt : xv - 1 < xs.length := by omega
        have := hmiss (xs[xv - 1], xv - 1)
          (List.mem_reverse.mpr (List.mem_zipIdx_iff_getElem?.mpr (List.getElem?_eq_getElem hlt)))
        simp at this; omega
      simp [pyIndex1, this]
end

/-- over elements `x :: xs` whose values `vals` are all bools or all `Qint`s, under index value `xv`, the chain has - at
the largest width of the elements - the value of element `xv` if `xv ≤ |xs|` and of element `0` otherwise -/
theorem tableChain_selects (σ : SEnv) (ie x : SExp) (xs : List SExp) (vals : List SVal) (b : Bool) (wi xv : Nat)
    (hi : semW σ (toP ie) = some (.int wi xv)) (hlen : xs.length < 65535)
    (hvals : List.Forall₂ (fun e v => semW σ (toP e) = some v ∧ isInt v = b) (x :: xs) vals) :
    semW σ (toP (tableChain ie x xs))
      = (pyIndex1 vals (if xv ≤ xs.length then xv else 0)).map (withWidth (maxWidth 0 vals)) := by
  cases hvals with
  | @cons _ v _ vs hev hf =>
  have hl := (forall₂_getElem? hf).1
  have hmap : xs.zipIdx.map (fun p => vs[p.2]?.getD v) = vs := by
    apply List.ext_getElem?
    intro n
    simp only [List.getElem?_map, List.getElem?_zipIdx, Option.map_map]
    by_cases hn : n < vs.length
    · simp [List.getElem?_eq_getElem hn, List.getElem?_eq_getElem (hl ▸ hn)]
    · simp [List.getElem?_eq_none (Nat.le_of_not_lt hn), List.getElem?_eq_none (hl ▸ Nat.le_of_not_lt hn)]
  rw [toP_tableChain, selChain_value σ _ _ _ _ b _ v hev.1 hev.2 _ (table_items σ ie wi xv hi xs v vs _ hlen hf),
    List.map_reverse, hmap, maxWidth_reverse, table_selected xv xs v vs hl]
  show _ = some (withWidth (maxWidth (max 0 (widthOf v)) vs) _)
  rw [Nat.zero_max]

theorem tableChain_selects_sameTy (σ : SEnv) (ie x : SExp) (xs : List SExp) (vals : List SVal) (Tv : Option Nat)
    (wi xv : Nat) (hi : semW σ (toP ie) = some (.int wi xv)) (hlen : xs.length < 65535)
    (hvals : List.Forall₂ (fun e v => semW σ (toP e) = some v ∧ tyOf v = Tv) (x :: xs) vals) :
    semW σ (toP (tableChain ie x xs)) = pyIndex1 vals (if xv ≤ xs.length then xv else 0) := by
  cases hvals with
  | @cons _ v _ vs hev hf =>
  rw [toP_tableChain, selChain_sameTy σ _ _ _ _ Tv _ v hev.1 hev.2 _ (table_items σ ie wi xv hi xs v vs _ hlen hf),
    table_selected xv xs v vs (forall₂_getElem? hf).1]

end QV.A2A
