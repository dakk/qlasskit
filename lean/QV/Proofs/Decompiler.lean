import QV.Model.Decompiler
import QV.Proofs.BExp
import QV.Proofs.Circuit
import Std.Data.String.ToNat
/-!
# The decompiler model: symbolic execution and section splitting

The expression dictionary of `__exps_of_section` denotes a function from qubits to bits (`den`); one step of the
symbolic execution is one step of `runF`.  The loop of `decompile` is used through its two equations (`go_nil`,
`go_cons`); it returns exactly one section per maximal classical run (`Decomp`).  `Decomp.exact` reads that in
absolute indices over `P ++ W`, `P` the gates before the window `W`; `Decomp.secGood/ordered/covered/separated` are
its parts for the window alone, by padding (`getElem?_pad`); `C11.sections_exact` is `exact` at `P = []`.  Away from
the listed defects every quirk setting agrees with `Quirks.none` (`decompile_congr`), which never raises on circuits
built through `QCircuit.append` (`decompile_ok`).
-/
namespace QV.Decompiler
open QV.Compiler

/-! ## class tests, on the tables regenerated from `decompiler.py` / `gates.py` -/

theorem isZB_eq (q : Quirks) (c : GClass) : isZB q c =
    (match c with
     | .I | .X | .CX | .CCX | .MCX _ => true
     | .MCtrl g _ => !q.mctrlXSplits && g == "X"
     | _ => false) := by
  have h : zbClassName (pyClass c) = (match c with
     | .I | .X | .CX | .CCX | .MCX _ => true
     | _ => false) := by
    cases c <;> simp only [pyClass] <;> decide
  unfold isZB; rw [h]
  cases c <;> simp

theorem isNopClass_eq (c : GClass) : isNopClass c = c.isNop := by
  cases c <;> simp only [isNopClass, pyClass, GClass.isNop] <;> decide

theorem qname_inj {i j : Nat} (h : qname i = qname j) : i = j := by
  unfold qname at h
  have h2 : (toString i : String) = toString j := by
    have := congrArg String.toList h
    simp only [String.toList_append] at this
    exact String.toList_inj.mp (List.append_cancel_left this)
  exact Nat.repr_injective h2

def stateEnv (n : Nat) (s : BState) : Env := fun name =>
  match (List.range n).find? (fun i => qname i == name) with
  | some i => s.getD i false
  | none => false

theorem find_unique {l : List Nat} {p : Nat → Bool} {i : Nat} (hi : i ∈ l) (hp : p i = true)
    (hu : ∀ j ∈ l, p j = true → j = i) : l.find? p = some i := by
  induction l with
  | nil => cases hi
  | cons a l ih =>
    by_cases ha : p a = true
    · have := hu a (by simp) ha
      subst this
      simp [List.find?, hp]
    · have hne : a ≠ i := by intro h; subst h; exact ha hp
      have hi' : i ∈ l := by
        cases hi with
        | head => exact absurd rfl hne
        | tail _ h => exact h
      simp only [List.find?, Bool.not_eq_true] at ha ⊢
      rw [ha]
      exact ih hi' (fun j hj => hu j (List.mem_cons_of_mem _ hj))

theorem stateEnv_qname {n : Nat} (s : BState) {i : Nat} (hi : i < n) :
    stateEnv n s (qname i) = s.getD i false := by
  unfold stateEnv
  rw [find_unique (i := i) (List.mem_range.mpr hi) (by simp)
    (fun j _ hj => qname_inj (by simpa using hj))]

theorem Dict.get_touch (d : Dict) (k k' : String) : (d.touch k).get k' = d.get k' := by
  induction d with
  | nil =>
    simp only [Dict.touch, Dict.get]
    split
    · next h => rw [h]
    · rfl
  | cons p d ih =>
    obtain ⟨a, e⟩ := p
    simp only [Dict.touch]
    split <;> simp [Dict.get, ih]

theorem Dict.get_foldl_touch (names : List String) (d : Dict) (k' : String) :
    (names.foldl Dict.touch d).get k' = d.get k' := by
  induction names generalizing d with
  | nil => rfl
  | cons a l ih => simp [List.foldl, ih, Dict.get_touch]

theorem Dict.get_set (d : Dict) (k : String) (v : BExp) (k' : String) :
    (d.set k v).get k' = if k = k' then v else d.get k' := by
  induction d with
  | nil => simp [Dict.set, Dict.get]
  | cons p d ih =>
    obtain ⟨a, e⟩ := p
    simp only [Dict.set]
    by_cases h : a = k
    · subst h; simp only [if_true, Dict.get]; by_cases h2 : a = k' <;> simp [h2]
    · simp only [h, if_false, Dict.get, ih]
      by_cases h2 : a = k'
      · subst h2; simp [Ne.symm h]
      · simp [h2]

def Dict.keys (d : Dict) : List String := d.map (·.1)

theorem Dict.get_of_not_mem (d : Dict) (k : String) (h : k ∉ d.keys) : d.get k = .sym k := by
  induction d with
  | nil => rfl
  | cons p d ih =>
    obtain ⟨a, e⟩ := p
    simp only [Dict.keys, List.map_cons, List.mem_cons, not_or] at h
    simp only [Dict.get, Ne.symm h.1, if_false]
    exact ih h.2

theorem Dict.get_of_mem (d : Dict) (hd : d.keys.Nodup) {k : String} {e : BExp} (h : (k, e) ∈ d) :
    d.get k = e := by
  induction d with
  | nil => cases h
  | cons p d ih =>
    obtain ⟨a, e'⟩ := p
    simp only [Dict.keys, List.map_cons, List.nodup_cons] at hd
    cases h with
    | head => simp [Dict.get]
    | tail _ h =>
      have : a ≠ k := by
        intro hak; subst hak
        exact hd.1 (List.mem_map.mpr ⟨(a, e), h, rfl⟩)
      simp only [Dict.get, this, if_false]
      exact ih hd.2 h

theorem Dict.keys_touch (d : Dict) (k : String) :
    (d.touch k).keys = if k ∈ d.keys then d.keys else d.keys ++ [k] := by
  induction d with
  | nil => simp [Dict.touch, Dict.keys]
  | cons p d ih =>
    obtain ⟨a, e⟩ := p
    simp only [Dict.touch]
    by_cases h : a = k
    · subst h; simp [Dict.keys]
    · simp only [h, if_false]
      simp only [Dict.keys, List.map_cons, List.mem_cons] at ih ⊢
      rw [ih]
      have : ¬ k = a := fun h' => h h'.symm
      simp only [this, false_or]
      exact apply_ite (List.cons a) _ _ _

theorem Dict.keys_set (d : Dict) (k : String) (v : BExp) : (d.set k v).keys = (d.touch k).keys := by
  induction d with
  | nil => rfl
  | cons p d ih =>
    simp only [Dict.set, Dict.touch]
    split
    · rfl
    · simp only [Dict.keys, List.map_cons] at ih ⊢
      rw [ih]

theorem dropIdentities_cons (a : String) (e : BExp) (d : Dict) :
    dropIdentities ((a, e) :: d) =
      if e == BExp.sym a then dropIdentities d else (a, e) :: dropIdentities d := by
  unfold dropIdentities
  rw [List.filter_cons]
  cases e == BExp.sym a <;> rfl

theorem keys_dropIdentities_sublist (d : Dict) : (dropIdentities d).keys.Sublist d.keys :=
  List.filter_sublist.map _

theorem Dict.get_dropIdentities_eval (d : Dict) (hd : d.keys.Nodup) (k : String) (ρ : Env) :
    ((dropIdentities d).get k).eval ρ = (d.get k).eval ρ := by
  induction d with
  | nil => rfl
  | cons p d ih =>
    obtain ⟨a, e⟩ := p
    obtain ⟨ha, hd'⟩ := List.nodup_cons.mp hd
    rw [dropIdentities_cons]
    split
    · next hb =>
      -- the dropped entry is `a ↦ a`, which is what an absent key means
      rw [BExp.eq_of_beq hb]
      simp only [Dict.get]
      split
      · next h =>
        rw [← h, Dict.get_of_not_mem _ _ fun hm => ha ((keys_dropIdentities_sublist d).subset hm)]
      · exact ih hd'
    · simp only [Dict.get]
      split
      · rfl
      · exact ih hd'

theorem rawKernel_sound : rawKernel.Sound :=
  ⟨fun _ _ => rfl, fun _ _ => rfl, fun _ _ => rfl⟩

theorem mcxExp_eval {K : Kernel} (hK : K.Sound) (cls : GClass) (ce : List BExp) (te : BExp)
    (ρ : Env) (hx : cls = .X → ce = []) :
    (mcxExp K cls ce te).eval ρ = Bool.xor (ce.all (fun e => e.eval ρ)) (te.eval ρ) := by
  unfold mcxExp
  split
  · rw [hx rfl, hK.not_eval]; simp
  · rw [hK.xor_eval]; simp [evalXor]
  · rw [hK.xor_eval]; simp [evalXor, hK.and_eval, evalAnd]
  · rw [hK.xor_eval]; simp [evalXor, hK.and_eval, BExp.evalAnd_eq_all]

def den (ρ : Env) (d : Dict) : FState := fun i => (d.get (qname i)).eval ρ

theorem den_foldl_touch (ρ : Env) (names : List String) (d : Dict) :
    den ρ (names.foldl Dict.touch d) = den ρ d :=
  funext fun i => congrArg (·.eval ρ) (Dict.get_foldl_touch names d (qname i))

theorem den_set (ρ : Env) (d : Dict) (t : Nat) (e : BExp) :
    den ρ (d.set (qname t) e) = fun i => if i = t then e.eval ρ else den ρ d i := by
  funext i
  unfold den
  rw [Dict.get_set]
  by_cases h : i = t
  · rw [if_pos (congrArg qname h.symm), if_pos h]
  · rw [if_neg (fun e => h (qname_inj e).symm), if_neg h]

def updRes (K : Kernel) (d : Dict) (g : AGate) : Except String Dict :=
  match (g.wires.map qname).getLast? with
  | none => .ok d
  | some t => .ok (d.set t (mcxExp K g.cls ((g.wires.map qname).dropLast.map d.get) (d.get t)))

theorem upd_den {K : Kernel} (hK : K.Sound) {ρ : Env} {d d' : Dict} (g : AGate)
    (hx : g.cls = .X → g.wires.dropLast = []) (h : updRes K d g = .ok d') :
    den ρ d' = applyF g (den ρ d) := by
  unfold updRes at h
  unfold applyF
  rw [List.getLast?_map] at h
  cases hl : g.wires.getLast? with
  | none => rw [hl] at h; cases h; rfl
  | some t =>
    rw [hl] at h; cases h
    have hall : ((g.wires.map qname).dropLast.map d.get).all (fun e => e.eval ρ) =
        g.wires.dropLast.all (den ρ d) := by
      rw [← List.map_dropLast, List.map_map, List.all_map]; rfl
    simp only []
    rw [den_set, mcxExp_eval hK _ _ _ _ (fun hc => by rw [← List.map_dropLast, hx hc]; rfl), hall]
    -- the target is xor-ed with the conjunction of the controls, whether or not that flips it
    funext i
    cases g.wires.dropLast.all (den ρ d) <;> by_cases hi : i = t <;> simp [hi, den]

theorem gateStep_cases {q : Quirks} {K : Kernel} {n : Nat} {d d' : Dict} {g : AGate}
    (h : gateStep q K n d g = .ok d') :
    (∀ i ∈ g.wires, i < n) ∧ g.wires.length = g.cls.nQubits ∧
    ((g.cls.isMCXLike = true ∧ updRes K ((g.wires.map qname).foldl Dict.touch d) g = .ok d') ∨
     (g.cls.isMCXLike = false ∧ d' = (g.wires.map qname).foldl Dict.touch d)) := by
  unfold gateStep at h
  split at h
  · cases h
  · next hfind =>
    split at h
    · cases h
    · next har =>
      refine ⟨fun i hi => by simpa using List.find?_eq_none.mp hfind i hi, by simpa using har, ?_⟩
      split at h
      · next hc => exact Or.inl ⟨by rw [hc]; rfl, h⟩
      · next hc => exact Or.inl ⟨by rw [hc]; rfl, h⟩
      · next hc => exact Or.inl ⟨by rw [hc]; rfl, h⟩
      · next hc => exact Or.inl ⟨by rw [hc]; rfl, h⟩
      · next hc => cases h; exact Or.inr ⟨by rw [hc]; rfl, rfl⟩
      · next hc => cases h; exact Or.inr ⟨by rw [hc]; rfl, rfl⟩
      · next hc =>
        split at h
        · cases h
        · cases h; exact Or.inr ⟨by rw [hc]; rfl, rfl⟩
      · next inner k hc =>
        split at h
        · next hi =>
          simp only [Bool.and_eq_true, beq_iff_eq] at hi
          exact Or.inl ⟨by rw [hc]; simp [GClass.isMCXLike, hi.1], h⟩
        · cases h
      · cases h

theorem gateStep_den {K : Kernel} (hK : K.Sound) {q : Quirks} {n : Nat} {ρ : Env} {d d' : Dict} {g : AGate}
    (h : gateStep q K n d g = .ok d') : den ρ d' = stepF (den ρ d) g := by
  obtain ⟨_, har, hcase⟩ := gateStep_cases h
  unfold stepF
  rcases hcase with ⟨hm, hu⟩ | ⟨hm, rfl⟩
  · rw [hm, if_pos rfl, upd_den hK g (fun hc => ?_) hu, den_foldl_touch]
    rw [hc] at har
    match hgw : g.wires, har with
    | [a], _ => rfl
  · rw [hm, den_foldl_touch]; rfl

theorem runSection_den {K : Kernel} (hK : K.Sound) {q : Quirks} {n : Nat} {ρ : Env} (gs : List AGate)
    {d d' : Dict} (h : runSection q K n d gs = .ok d') :
    den ρ d' = runF gs (den ρ d) ∧ ∀ g ∈ gs, ∀ w ∈ g.wires, w < n := by
  induction gs generalizing d with
  | nil => cases h; exact ⟨rfl, by simp⟩
  | cons g gs ih =>
    simp only [runSection] at h
    split at h
    · next d1 h1 =>
      obtain ⟨h2, h3⟩ := ih h
      exact ⟨by rw [h2, gateStep_den hK h1]; rfl, List.forall_mem_cons.mpr ⟨(gateStep_cases h1).1, h3⟩⟩
    · cases h

/-- kept by every step of the symbolic execution.  `Decopt.keysOK` (model) says the same of a definition list, as a
`Bool` and through `qidx`; the two meet in `Decopt.simplifySection_keysOK`, via `expsOfSection_entries` -/
def KeysOK (n : Nat) (d : Dict) : Prop :=
  (Dict.keys d).Nodup ∧ ∀ k ∈ Dict.keys d, ∃ i, i < n ∧ k = qname i

theorem keysOK_touch {n : Nat} {d : Dict} {i : Nat} (hi : i < n) (h : KeysOK n d) :
    KeysOK n (d.touch (qname i)) := by
  unfold KeysOK
  rw [Dict.keys_touch]
  split
  · exact h
  · next hk =>
    refine ⟨List.nodup_append.mpr ⟨h.1, by simp, ?_⟩, ?_⟩
    · intro a ha b hb hab
      rw [List.mem_singleton.mp hb] at hab
      exact hk (hab ▸ ha)
    · intro k hk'
      rcases List.mem_append.mp hk' with hk' | hk'
      · exact h.2 k hk'
      · exact ⟨i, hi, List.mem_singleton.mp hk'⟩

theorem keysOK_foldl_touch {n : Nat} (w : List Nat) (hw : ∀ i ∈ w, i < n) {d : Dict}
    (h : KeysOK n d) : KeysOK n ((w.map qname).foldl Dict.touch d) := by
  induction w generalizing d with
  | nil => exact h
  | cons a w ih =>
    simp only [List.map_cons, List.foldl]
    exact ih (fun i hi => hw i (List.mem_cons_of_mem _ hi)) (keysOK_touch (hw a (by simp)) h)

theorem upd_keys {K : Kernel} {n : Nat} {d : Dict} (g : AGate) (hw : ∀ i ∈ g.wires, i < n)
    (hk : KeysOK n d) : ∀ d', updRes K d g = .ok d' → KeysOK n d' := by
  intro d' h
  unfold updRes at h
  rw [List.getLast?_map] at h
  cases hl : g.wires.getLast? with
  | none => rw [hl] at h; simp only [Option.map_none] at h; cases h; exact hk
  | some t =>
    rw [hl] at h; simp only [Option.map_some] at h; cases h
    unfold KeysOK; rw [Dict.keys_set]
    exact keysOK_touch (hw t (List.mem_of_getLast? hl)) hk

theorem gateStep_keys {K : Kernel} (q : Quirks) {n : Nat} {d d' : Dict} (g : AGate)
    (h : gateStep q K n d g = .ok d') (hk : KeysOK n d) : KeysOK n d' := by
  obtain ⟨hw, _, hcase⟩ := gateStep_cases h
  have hk' := keysOK_foldl_touch g.wires hw hk
  rcases hcase with ⟨_, hu⟩ | ⟨_, rfl⟩
  · exact upd_keys g hw hk' d' hu
  · exact hk'

theorem runSection_keys {K : Kernel} (q : Quirks) {n : Nat} (gs : List AGate) {d d' : Dict}
    (h : runSection q K n d gs = .ok d') (hk : KeysOK n d) : KeysOK n d' := by
  induction gs generalizing d with
  | nil => simp only [runSection] at h; cases h; exact hk
  | cons g gs ih =>
    simp only [runSection] at h
    split at h
    · next d1 h1 => exact ih h (gateStep_keys q g h1 hk)
    · cases h

theorem den_nil {n : Nat} {s : BState} (hs : s.length = n) : den (stateEnv n s) [] = toF s := by
  funext i
  show stateEnv n s (qname i) = s.getD i false
  by_cases hi : i < n
  · exact stateEnv_qname s hi
  · unfold stateEnv
    rw [List.find?_eq_none.mpr fun j hj hq =>
      hi (by rw [← qname_inj (i := j) (j := i) (beq_iff_eq.mp hq)]; exact List.mem_range.mp hj)]
    rw [List.getD_eq_getElem?_getD, List.getElem?_eq_none (by omega)]; rfl

theorem keysOK_empty (n : Nat) : KeysOK n [] := ⟨by simp [Dict.keys], by simp [Dict.keys]⟩

theorem expsOfSection_sound {K : Kernel} (hK : K.Sound) (q : Quirks) {n : Nat} {sec : List AGate}
    {exps : Dict} (h : expsOfSection q K n sec = .ok exps) (s : BState) (hs : s.length = n)
    (i : Nat) :
    (expOf exps i).eval (stateEnv n s) = (runClassical sec s).getD i false := by
  unfold expsOfSection at h
  split at h
  · next d hd =>
    cases h
    obtain ⟨hden, hw⟩ := runSection_den hK (ρ := stateEnv n s) sec hd
    unfold expOf
    rw [Dict.get_dropIdentities_eval d (runSection_keys q sec hd (keysOK_empty n)).1]
    exact congrFun (hden.trans (by rw [den_nil hs, ← runF_spec sec s (hs ▸ hw)])) i
  · cases h

theorem expsOfSection_entries {K : Kernel} (hK : K.Sound) (q : Quirks) {n : Nat} {sec : List AGate}
    {exps : Dict} (h : expsOfSection q K n sec = .ok exps) :
    (Dict.keys exps).Nodup ∧
    ∀ k e, (k, e) ∈ exps → ∃ i, i < n ∧ k = qname i ∧
      ∀ s : BState, s.length = n → e.eval (stateEnv n s) = (runClassical sec s).getD i false := by
  have h0 := h
  unfold expsOfSection at h
  split at h
  · next d hd =>
    cases h
    have hk := runSection_keys q sec hd (keysOK_empty n)
    have hnd := (keys_dropIdentities_sublist d).nodup hk.1
    refine ⟨hnd, ?_⟩
    intro k e hmem
    have hkm : k ∈ Dict.keys d :=
      (keys_dropIdentities_sublist d).subset (List.mem_map.mpr ⟨(k, e), hmem, rfl⟩)
    obtain ⟨i, hi, rfl⟩ := hk.2 k hkm
    refine ⟨i, hi, rfl, ?_⟩
    intro s hs
    have := expsOfSection_sound hK q h0 s hs i
    unfold expOf at this
    rw [Dict.get_of_mem _ hnd hmem] at this
    exact this
  · cases h

theorem expsOfSection_unchanged {K : Kernel} (hK : K.Sound) (q : Quirks) {n : Nat}
    {sec : List AGate} {exps : Dict} (h : expsOfSection q K n sec = .ok exps) (s : BState)
    (hs : s.length = n) (i : Nat) (hi : i < n) (hno : qname i ∉ Dict.keys exps) :
    (runClassical sec s).getD i false = s.getD i false := by
  rw [← expsOfSection_sound hK q h s hs i]
  unfold expOf
  rw [Dict.get_of_not_mem _ _ hno]
  simp [BExp.eval, stateEnv_qname s hi]

/-- classical for the decompiler (passes the `ZB_GATES` test) -/
def cl (q : Quirks) (g : AGate) : Bool := isZB q g.cls
/-- barrier / no-op -/
def np (g : AGate) : Bool := isNopClass g.cls

/-- a run as the decompiler sees it: it extends over the nops that follow its last classical gate -/
def Run (q : Quirks) (R : List AGate) : Prop :=
  ∃ g R', R = g :: R' ∧ cl q g = true ∧ ∀ x ∈ R', cl q x = true ∨ np x = true

/-- the reported end of the range of a run at offset `o`: one trailing nop is cut off -/
def stopOf (o : Nat) (R : List AGate) : Nat :=
  if (R.getLast?.map np).getD false then o + R.length - 1 else o + R.length

structure SecOf (q : Quirks) (K : Kernel) (n : Nat) (s : Section) (o : Nat) (R : List AGate) : Prop where
  start_eq : s.start = o
  stop_eq : s.stop = stopOf o R
  gates_eq : s.gates = R.filter (cl q)
  exps_eq : expsOfSection q K n s.gates = .ok s.exps

/-- `Decomp a W secs`: the gate list `W` (whose first gate has index `a` in the circuit) is
`B₁ ++ R₁ ++ [sep₁] ++ B₂ ++ R₂ ++ [sep₂] ++ … ++ Bₖ ++ Rₖ (++ [sepₖ] ++ Bₖ₊₁)`, the `B`s without
classical gates, the `R`s runs, the `sep`s neither classical nor nops, and `secs` are the `k`
sections of the `k` runs, in order. -/
inductive Decomp (q : Quirks) (K : Kernel) (n : Nat) : Nat → List AGate → List Section → Prop
  | done (a : Nat) (B : List AGate) : (∀ g ∈ B, cl q g = false) → Decomp q K n a B []
  | last (a : Nat) (B R : List AGate) (s : Section) : (∀ g ∈ B, cl q g = false) → Run q R →
      SecOf q K n s (a + B.length) R → Decomp q K n a (B ++ R) [s]
  | cons (a : Nat) (B R : List AGate) (sep : AGate) (W : List AGate) (s : Section)
      (secs : List Section) : (∀ g ∈ B, cl q g = false) → Run q R → cl q sep = false →
      np sep = false → SecOf q K n s (a + B.length) R →
      Decomp q K n (a + B.length + R.length + 1) W secs →
      Decomp q K n a (B ++ R ++ sep :: W) (s :: secs)

theorem Decomp.skip {q : Quirks} {K : Kernel} {n a : Nat} {g : AGate} {W : List AGate}
    {secs : List Section} (hg : cl q g = false) (h : Decomp q K n (a + 1) W secs) :
    Decomp q K n a (g :: W) secs := by
  have e : ∀ B : List AGate, a + (g :: B).length = a + 1 + B.length := fun B => by
    rw [List.length_cons]; omega
  cases h with
  | done _ _ h1 => exact .done a (g :: W) (List.forall_mem_cons.mpr ⟨hg, h1⟩)
  | last _ B R s h1 h2 h3 =>
    exact .last a (g :: B) R s (List.forall_mem_cons.mpr ⟨hg, h1⟩) h2 (by rw [e]; exact h3)
  | cons _ B R sep W' s secs' h1 h2 h3 h4 h5 h6 =>
    exact .cons a (g :: B) R sep W' s secs' (List.forall_mem_cons.mpr ⟨hg, h1⟩) h2 h3 h4
      (by rw [e]; exact h5) (by rw [e]; exact h6)

/-- `current_section_start_index` while the gates `pend` (from index `a`) are pending -/
def startOf (a : Nat) : List AGate → Option Nat
  | [] => none
  | _ :: _ => some a

theorem Run.snoc {q : Quirks} {R : List AGate} {g : AGate} (h : Run q R)
    (hg : cl q g = true ∨ np g = true) : Run q (R ++ [g]) := by
  obtain ⟨g0, R', rfl, h0, hR⟩ := h
  refine ⟨g0, R' ++ [g], rfl, h0, ?_⟩
  intro x hx
  rcases List.mem_append.mp hx with hx | hx
  · exact hR x hx
  · simp only [List.mem_singleton] at hx; subst hx; exact hg

theorem Run.filter_ne_nil {q : Quirks} {R : List AGate} (h : Run q R) :
    (R.filter (cl q)).isEmpty = false := by
  obtain ⟨g0, R', rfl, h0, _⟩ := h
  simp [List.filter, h0]

theorem Run.startOf {q : Quirks} {R : List AGate} (h : Run q R) (a : Nat) : startOf a R = some a := by
  obtain ⟨g0, R', rfl, _, _⟩ := h
  rfl

/-- the pending section is closed at index `i`; `end -= 1` after a no-op -/
def flush (q : Quirks) (K : Kernel) (n i : Nat) (prev : Option AGate) (cur : List AGate) (start : Option Nat) :
    Except String Section :=
  match expsOfSection q K n cur with
  | .ok e => .ok ⟨cur, e, start.getD 0, if (prev.map np).getD false then i - 1 else i⟩
  | .error e => .error e

section
variable {q : Quirks} {K : Kernel} {n i : Nat} {prev : Option AGate} {cur : List AGate} {start : Option Nat}
  {g : AGate} {rest : List AGate}

theorem go_nil : go q K n i prev cur start [] =
    if cur.isEmpty then .ok [] else (flush q K n i prev cur start).map ([·]) := by
  simp only [go, flush]
  split
  · rfl
  · cases expsOfSection q K n cur <;> rfl

theorem go_cons : go q K n i prev cur start (g :: rest) =
    if cl q g then go q K n (i + 1) (some g) (cur ++ [g]) (some (start.getD i)) rest
    else if np g || cur.isEmpty then go q K n (i + 1) (some g) cur start rest
    else (flush q K n i prev cur start).bind fun s => (go q K n (i + 1) (some g) [] none rest).map (s :: ·) := by
  unfold cl np flush
  rw [go]
  cases isZB q g.cls <;> cases isNopClass g.cls <;> try rfl
  cases hc : cur.isEmpty
  · cases expsOfSection q K n cur with
    | error e => rfl
    | ok e => cases go q K n (i + 1) (some g) [] none rest <;> rfl
  · rw [List.isEmpty_iff.mp hc]; rfl
end

theorem flush_secOf {q : Quirks} {K : Kernel} {n a i : Nat} {pend : List AGate} {prev : Option AGate}
    {s : Section} (hrun : Run q pend) (hprev : prev = pend.getLast?) (hi : i = a + pend.length)
    (hs : flush q K n i prev (pend.filter (cl q)) (startOf a pend) = .ok s) : SecOf q K n s a pend := by
  subst hprev hi
  unfold flush at hs
  split at hs
  · next e he => cases hs; exact ⟨by simp only [hrun.startOf, Option.getD_some], rfl, rfl, he⟩
  · cases hs

/-- loop invariant: `pend` (a ghost, not an argument of `go`) is the open run read so far – all its gates, no-ops
included – and starts at index `a`; the arguments of `go` are determined by it: `i = a + pend.length`, `cur` its
classical gates, `start = startOf a pend`, `prev` its last gate.  `pend = []`: no run is open. -/
theorem go_decomp (q : Quirks) (K : Kernel) (n : Nat) (rest : List AGate) :
    ∀ (a i : Nat) (pend : List AGate) (prev : Option AGate) (cur : List AGate) (start : Option Nat)
      (secs : List Section),
      (pend = [] ∨ (Run q pend ∧ prev = pend.getLast?)) →
      i = a + pend.length → cur = pend.filter (cl q) → start = startOf a pend →
      go q K n i prev cur start rest = .ok secs →
      Decomp q K n a (pend ++ rest) secs := by
  induction rest with
  | nil =>
    intro a i pend prev cur start secs hp hi hcur hstart h
    rw [go_nil] at h
    subst hcur hstart
    rcases hp with rfl | ⟨hrun, hprev⟩
    · cases h; exact Decomp.done a [] (by simp)
    · rw [hrun.filter_ne_nil, if_neg Bool.false_ne_true] at h
      cases hs : flush q K n i prev (pend.filter (cl q)) (startOf a pend) with
      | error e => rw [hs] at h; cases h
      | ok s =>
        rw [hs] at h; cases h
        simpa using Decomp.last a [] pend s (by simp) hrun (flush_secOf hrun hprev hi hs)
  | cons g rest ih =>
    intro a i pend prev cur start secs hp hi hcur hstart h
    have e : pend ++ g :: rest = pend ++ [g] ++ rest := by simp
    have hlen : i + 1 = a + (pend ++ [g]).length := by simp; omega
    rw [go_cons] at h
    subst hcur hstart
    rcases hp with rfl | ⟨hrun, hprev⟩
    · cases hc : cl q g with
      | true =>
        rw [hc, if_pos rfl] at h
        rw [e]
        exact ih a _ [g] _ _ _ _ (Or.inr ⟨⟨g, [], rfl, hc, by simp⟩, rfl⟩) hlen (by simp [List.filter, hc])
          (by simp [hi, startOf]) h
      | false =>
        -- outside a run a gate that is not classical, no-op or not, is passed over
        rw [hc, if_neg Bool.false_ne_true, if_pos (by simp)] at h
        exact Decomp.skip hc (ih (a + 1) _ [] _ _ _ _ (Or.inl rfl) (by simpa using hi) rfl rfl h)
    · by_cases hj : cl q g = true ∨ np g = true
      · -- a classical gate or a no-op inside a run stays inside
        have hrun' := hrun.snoc hj
        rw [e]
        refine ih a _ (pend ++ [g]) (some g) _ _ _ (Or.inr ⟨hrun', by simp⟩) hlen rfl rfl ?_
        rw [hrun'.startOf, List.filter_append]
        cases hc : cl q g with
        | true => simpa [hc, hrun.startOf, List.filter] using h
        | false => simpa [hc, hj.resolve_left (by simp [hc]), hrun.startOf, List.filter] using h
      · simp only [not_or, Bool.not_eq_true] at hj
        rw [hj.1, hj.2, hrun.filter_ne_nil, if_neg Bool.false_ne_true, if_neg (by simp)] at h
        cases hs : flush q K n i prev (pend.filter (cl q)) (startOf a pend) with
        | error e => rw [hs] at h; cases h
        | ok s =>
          cases hr : go q K n (i + 1) (some g) [] none rest with
          | error e => rw [hs, hr] at h; cases h
          | ok r =>
            rw [hs, hr] at h; cases h
            have h' := ih (i + 1) (i + 1) [] _ _ _ r (Or.inl rfl) rfl rfl rfl hr
            simpa using Decomp.cons a [] pend g rest s r (by simp) hrun hj.1 hj.2
              (flush_secOf hrun hprev hi hs) (by simpa [hi] using h')

theorem decompile_decomp (q : Quirks) (K : Kernel) (n : Nat) (gs : List AGate) (secs : List Section)
    (h : decompile q K n gs = .ok secs) : Decomp q K n 0 gs secs := by
  simpa using go_decomp q K n gs 0 0 [] none [] none secs (Or.inl rfl) rfl rfl rfl h

theorem cl_np_disjoint {q : Quirks} {g : AGate} (h : cl q g = true) : np g = false := by
  unfold cl at h; unfold np
  rw [isZB_eq] at h; rw [isNopClass_eq]
  cases hc : g.cls <;> simp_all [GClass.isNop]

/-- one section in indices, relative to the window `W` whose first gate has index `a` (every use is at `a = 0`, `W`
the whole gate list; `Decopt.RangeGood` is that instance written with `rangeOf`) -/
structure SecGood (q : Quirks) (a : Nat) (W : List AGate) (s : Section) : Prop where
  lo : a ≤ s.start
  lt : s.start < s.stop
  hi : s.stop ≤ a + W.length
  first : ∃ g, W[s.start - a]? = some g ∧ cl q g = true
  inside : ∀ k, s.start ≤ k → k < s.stop →
    ∃ g, W[k - a]? = some g ∧ (cl q g = true ∨ np g = true)
  gates_eq : s.gates = ((W.drop (s.start - a)).take (s.stop - s.start)).filter (cl q)

theorem stopOf_bounds {q : Quirks} {o : Nat} {R : List AGate} (hR : Run q R) :
    o < stopOf o R ∧ stopOf o R ≤ o + R.length := by
  obtain ⟨g0, R', rfl, h0, _⟩ := hR
  unfold stopOf
  split
  · next hl =>
    cases R' with
    | nil => simp [cl_np_disjoint h0] at hl
    | cons b R'' => simp
  · simp

theorem filter_take_stop {q : Quirks} {o : Nat} {R T : List AGate} :
    R.filter (cl q) = ((R ++ T).take (stopOf o R - o)).filter (cl q) := by
  unfold stopOf
  split
  · next hl =>
    -- the last gate is a no-op, hence not classical: the range without it has the same classical gates
    cases hlast : R.getLast? with
    | none => rw [hlast] at hl; exact absurd hl (by simp)
    | some x =>
      rw [hlast] at hl
      have hnp : np x = true := hl
      have hx : cl q x = false :=
        Bool.eq_false_iff.mpr fun hc => by rw [cl_np_disjoint hc] at hnp; cases hnp
      obtain ⟨ys, rfl⟩ := List.getLast?_eq_some_iff.mp hlast
      have e : o + (ys ++ [x]).length - 1 - o = ys.length := by
        rw [List.length_append, List.length_singleton]; omega
      rw [e, List.append_assoc, List.take_left' rfl, List.filter_append]
      simp [hx]
  · have e : o + R.length - o = R.length := by omega
    rw [e, List.take_left' rfl]

theorem run_cl_lt_stop {q : Quirks} {o j : Nat} {R : List AGate} {g : AGate}
    (hj : R[j]? = some g) (hg : cl q g = true) : o + j < stopOf o R := by
  obtain ⟨hlt, _⟩ := List.getElem?_eq_some_iff.mp hj
  unfold stopOf
  split
  · next hl =>
    -- the last gate is a no-op, so it is not `g`
    have : j ≠ R.length - 1 := by
      rintro rfl
      rw [List.getLast?_eq_getElem?, hj] at hl
      have hnp : np g = true := hl
      rw [cl_np_disjoint hg] at hnp; cases hnp
    omega
  · omega

theorem SecGood.of_run {q : Quirks} {K : Kernel} {n : Nat} {P R T : List AGate} {s : Section}
    (hR : Run q R) (hs : SecOf q K n s P.length R) : SecGood q 0 (P ++ R ++ T) s := by
  have hb := stopOf_bounds (o := P.length) hR
  obtain ⟨hst, hsp, hg, _⟩ := hs
  have hall : ∀ x ∈ R, cl q x = true ∨ np x = true := by
    obtain ⟨g0, R', rfl, h0, hall⟩ := hR
    exact List.forall_mem_cons.mpr ⟨Or.inl h0, hall⟩
  have hget : ∀ k, s.start ≤ k → k < s.stop → ∃ g, (P ++ R ++ T)[k - 0]? = some g ∧ g ∈ R := by
    intro k h1 h2
    have hk : k - P.length < R.length := by omega
    refine ⟨R[k - P.length], ?_, List.getElem_mem _⟩
    rw [List.append_assoc, Nat.sub_zero, List.getElem?_append_right (by omega), List.getElem?_append_left hk,
      List.getElem?_eq_getElem hk]
  refine ⟨Nat.zero_le _, by omega, by simp; omega, ?_, ?_, ?_⟩
  · obtain ⟨g0, R', rfl, h0, _⟩ := hR
    refine ⟨g0, ?_, h0⟩
    rw [hst, List.append_assoc, Nat.sub_zero, List.getElem?_append_right (Nat.le_refl _)]; simp
  · intro k h1 h2
    obtain ⟨g, h3, h4⟩ := hget k h1 h2
    exact ⟨g, h3, hall g h4⟩
  · rw [hg, hst, hsp, Nat.sub_zero, List.append_assoc, List.drop_left' rfl]
    exact filter_take_stop

theorem Decomp.exact {q : Quirks} {K : Kernel} {n a : Nat} {W : List AGate} {secs : List Section}
    (h : Decomp q K n a W secs) : ∀ P : List AGate, P.length = a →
    (∀ s ∈ secs, a ≤ s.start ∧ SecGood q 0 (P ++ W) s) ∧
    (∀ k g, a ≤ k → (P ++ W)[k]? = some g → cl q g = true → ∃ s ∈ secs, s.start ≤ k ∧ k < s.stop) ∧
    secs.Pairwise (fun x y => ∃ k g, x.stop ≤ k ∧ k < y.start ∧ (P ++ W)[k]? = some g ∧
      cl q g = false ∧ np g = false) := by
  -- over `P ++ W` with `P.length = a`, so that indices are absolute and the induction hypothesis (offset
  -- `a + B.length + R.length + 1`) speaks about the same list
  have head : ∀ {P B R T : List AGate} {s : Section}, (∀ g ∈ B, cl q g = false) → Run q R →
      SecOf q K n s (P.length + B.length) R →
      (P.length ≤ s.start ∧ SecGood q 0 (P ++ (B ++ R ++ T)) s) ∧
      ∀ k g, P.length ≤ k → k < P.length + B.length + R.length → (P ++ (B ++ R ++ T))[k]? = some g →
        cl q g = true → s.start ≤ k ∧ k < s.stop := by
    intro P B R T s hB hR hs
    have e : P ++ (B ++ R ++ T) = (P ++ B) ++ R ++ T := by simp
    refine ⟨⟨by rw [hs.start_eq]; omega, ?_⟩, ?_⟩
    · rw [e]; exact SecGood.of_run hR (by simpa using hs)
    · intro k g h1 h2 hk hg
      rw [List.getElem?_append_right h1, List.append_assoc] at hk
      rcases Nat.lt_or_ge (k - P.length) B.length with hlt | hge
      · rw [List.getElem?_append_left hlt] at hk
        rw [hB g (List.mem_of_getElem? hk)] at hg; cases hg
      · rw [List.getElem?_append_right hge, List.getElem?_append_left (by omega)] at hk
        have := run_cl_lt_stop (o := P.length + B.length) hk hg
        rw [hs.start_eq, hs.stop_eq]; omega
  induction h with
  | done a B hB =>
    rintro P rfl
    refine ⟨by simp, fun k g hk hkg hg => ?_, .nil⟩
    rw [List.getElem?_append_right hk] at hkg
    rw [hB g (List.mem_of_getElem? hkg)] at hg; cases hg
  | last a B R s hB hR hs =>
    rintro P rfl
    obtain ⟨h1, h2⟩ := head (T := []) hB hR hs
    rw [List.append_nil] at h1 h2
    refine ⟨List.forall_mem_singleton.mpr h1, fun k g hk hkg hg => ⟨s, by simp, ?_⟩, List.pairwise_singleton _ _⟩
    have := (List.getElem?_eq_some_iff.mp hkg).1
    exact h2 k g hk (by simpa [Nat.add_assoc] using this) hkg hg
  | cons a B R sep W s secs hB hR hsep hnp hs _ ih =>
    rintro P rfl
    obtain ⟨h1, h2⟩ := head (T := sep :: W) hB hR hs
    obtain ⟨ihg, ihc, ihs⟩ := ih (P ++ (B ++ R ++ [sep])) (by simp; omega)
    have e : P ++ (B ++ R ++ [sep]) ++ W = P ++ (B ++ R ++ sep :: W) := by simp
    rw [e] at ihg ihc ihs
    have hstop : s.stop ≤ P.length + B.length + R.length := by
      rw [hs.stop_eq]; exact (stopOf_bounds hR).2
    have hsepk : (P ++ (B ++ R ++ sep :: W))[P.length + B.length + R.length]? = some sep := by
      rw [← List.append_assoc, show P.length + B.length + R.length = (P ++ (B ++ R)).length by simp [Nat.add_assoc],
        List.getElem?_append_right (Nat.le_refl _)]; simp
    refine ⟨List.forall_mem_cons.mpr ⟨h1, fun y hy => ⟨by have := (ihg y hy).1; omega, (ihg y hy).2⟩⟩, ?_,
      List.Pairwise.cons (fun y hy => ⟨_, sep, hstop, by have := (ihg y hy).1; omega, hsepk, hsep, hnp⟩) ihs⟩
    intro k g hk hkg hg
    rcases Nat.lt_trichotomy k (P.length + B.length + R.length) with hlt | rfl | hgt
    · exact ⟨s, by simp, h2 k g hk hlt hkg hg⟩
    · rw [hsepk] at hkg; cases hkg; rw [hsep] at hg; cases hg
    · obtain ⟨y, hy, h3⟩ := ihc k g (by omega) hkg hg
      exact ⟨y, List.mem_cons_of_mem _ hy, h3⟩

theorem Decomp.secGood {q : Quirks} {K : Kernel} {n : Nat} {gs : List AGate} {secs : List Section}
    (h : Decomp q K n 0 gs secs) : ∀ s ∈ secs, SecGood q 0 gs s := fun s hs => ((h.exact [] rfl).1 s hs).2

/-- a window whose first gate has index `a` is the rest of a list with `a` gates before it -/
theorem getElem?_pad (a : Nat) (W : List AGate) {k : Nat} (hk : a ≤ k) :
    (List.replicate a (default : AGate) ++ W)[k]? = W[k - a]? := by
  rw [List.getElem?_append_right (by rw [List.length_replicate]; exact hk), List.length_replicate]

theorem Decomp.covered {q : Quirks} {K : Kernel} {n a : Nat} {W : List AGate} {secs : List Section}
    (h : Decomp q K n a W secs) : ∀ k g, W[k]? = some g → cl q g = true →
      ∃ s ∈ secs, s.start ≤ a + k ∧ a + k < s.stop := by
  intro k g hk hg
  refine (h.exact (List.replicate a default) List.length_replicate).2.1 (a + k) g (Nat.le_add_right _ _) ?_ hg
  rw [getElem?_pad a W (Nat.le_add_right _ _), Nat.add_sub_cancel_left]; exact hk

/-- maximality of the runs -/
theorem Decomp.separated {q : Quirks} {K : Kernel} {n a : Nat} {W : List AGate}
    {secs : List Section} (h : Decomp q K n a W secs) :
    secs.Pairwise (fun x y => ∃ k g, x.stop ≤ k ∧ k < y.start ∧ W[k - a]? = some g ∧
      cl q g = false ∧ np g = false) := by
  obtain ⟨hg, _, hs⟩ := h.exact (List.replicate a default) List.length_replicate
  refine hs.imp_of_mem fun {x y} hx _ ⟨k, g, h1, h2, h3, h4⟩ => ⟨k, g, h1, h2, ?_, h4⟩
  have h5 := (hg x hx).1
  have h6 := (hg x hx).2.lt
  rwa [getElem?_pad a W (by omega)] at h3

theorem Decomp.ordered {q : Quirks} {K : Kernel} {n a : Nat} {W : List AGate} {secs : List Section}
    (h : Decomp q K n a W secs) : secs.Pairwise (fun x y => x.stop < y.start) :=
  h.separated.imp fun ⟨_, _, h1, h2, _⟩ => Nat.lt_of_le_of_lt h1 h2

theorem decomp_exps {q : Quirks} {K : Kernel} {n a : Nat} {W : List AGate} {secs : List Section}
    (h : Decomp q K n a W secs) : ∀ s ∈ secs, expsOfSection q K n s.gates = .ok s.exps := by
  induction h with
  | done => intro s hs; cases hs
  | last a B R s _ _ hs =>
    intro s' hs'
    simp only [List.mem_singleton] at hs'; subst hs'
    exact hs.exps_eq
  | cons a B R sep W s secs _ _ _ _ hs _ ih =>
    intro s' hs'
    rcases List.mem_cons.mp hs' with hs' | hs'
    · subst hs'; exact hs.exps_eq
    · exact ih s' hs'

theorem decompile_exps {q : Quirks} {K : Kernel} {n : Nat} {gs : List AGate} {secs : List Section}
    (h : decompile q K n gs = .ok secs) : ∀ s ∈ secs, expsOfSection q K n s.gates = .ok s.exps :=
  decomp_exps (decompile_decomp q K n gs secs h)

/-- the gate runs into a listed defect whose flag is on -/
def trig (q : Quirks) (g : AGate) : Bool :=
  (q.identityGateRaises && g.cls == .I) ||
    (q.mctrlXSplits && match g.cls with | .MCtrl inner _ => inner == "X" | _ => false)

theorem triggers_eq (q : Quirks) (gs : List AGate) : triggers q gs = gs.any (trig q) := rfl

theorem isZB_congr {q : Quirks} {g : AGate} (h : trig q g = false) :
    isZB q g.cls = isZB Quirks.none g.cls := by
  rw [isZB_eq, isZB_eq]
  unfold trig at h
  -- the flag is read for `MCtrl` only
  cases hc : g.cls <;> rw [hc] at h <;> try rfl
  rename_i inner k
  cases hx : inner == "X" <;> cases hq : q.mctrlXSplits <;> simp_all [Quirks.none]

theorem gateStep_congr {q : Quirks} {K : Kernel} {n : Nat} {d : Dict} {g : AGate}
    (h : trig q g = false) : gateStep q K n d g = gateStep Quirks.none K n d g := by
  unfold trig at h
  unfold gateStep
  -- the quirks are read for `I` and `MCtrl` only
  cases hc : g.cls <;> rw [hc] at h <;> try rfl
  · have hi : q.identityGateRaises = false := by simpa using h
    simp only [hi]; rfl
  · rename_i inner k
    have hm : (inner == "X" && !q.mctrlXSplits) = (inner == "X" && !Quirks.none.mctrlXSplits) := by
      cases hx : inner == "X" <;> cases hq : q.mctrlXSplits <;> simp_all [Quirks.none]
    simp only [hm]

theorem runSection_congr {q : Quirks} {K : Kernel} {n : Nat} (gs : List AGate) {d : Dict}
    (h : ∀ g ∈ gs, trig q g = false) : runSection q K n d gs = runSection Quirks.none K n d gs := by
  induction gs generalizing d with
  | nil => rfl
  | cons g gs ih =>
    simp only [runSection]
    rw [gateStep_congr (h g (by simp))]
    split
    · exact ih (fun x hx => h x (List.mem_cons_of_mem _ hx))
    · rfl

theorem expsOfSection_congr {q : Quirks} {K : Kernel} {n : Nat} (gs : List AGate)
    (h : ∀ g ∈ gs, trig q g = false) : expsOfSection q K n gs = expsOfSection Quirks.none K n gs := by
  unfold expsOfSection; rw [runSection_congr gs h]

theorem flush_congr {q : Quirks} {K : Kernel} {n i : Nat} {prev : Option AGate} {cur : List AGate}
    {start : Option Nat} (hc : ∀ g ∈ cur, trig q g = false) :
    flush q K n i prev cur start = flush Quirks.none K n i prev cur start := by
  unfold flush; rw [expsOfSection_congr cur hc]

theorem go_congr {q : Quirks} {K : Kernel} {n : Nat} (rest : List AGate) :
    ∀ (i : Nat) (prev : Option AGate) (cur : List AGate) (start : Option Nat),
      (∀ g ∈ cur, trig q g = false) → (∀ g ∈ rest, trig q g = false) →
      go q K n i prev cur start rest = go Quirks.none K n i prev cur start rest := by
  induction rest with
  | nil => intro i prev cur start hc _; rw [go_nil, go_nil, flush_congr hc]
  | cons g rest ih =>
    intro i prev cur start hc hr
    obtain ⟨hg, hr'⟩ := List.forall_mem_cons.mp hr
    rw [go_cons, go_cons, show cl q g = cl Quirks.none g from isZB_congr hg, flush_congr hc,
      ih _ _ (cur ++ [g]) _ (List.forall_mem_append.mpr ⟨hc, List.forall_mem_singleton.mpr hg⟩) hr',
      ih _ _ cur _ hc hr', ih _ _ [] _ (by simp) hr']

theorem decompile_congr (q : Quirks) (K : Kernel) (n : Nat) (gs : List AGate)
    (h : triggers q gs = false) : decompile q K n gs = decompile Quirks.none K n gs := by
  rw [triggers_eq] at h
  exact go_congr gs 0 none [] none (by simp) (fun g hg => by
    have := List.any_eq_false.mp h g hg
    simpa using this)

/-- a gate tuple as `QCircuit.append` builds it on an `n`-qubit circuit -/
def WF (n : Nat) (g : AGate) : Prop := (∀ i ∈ g.wires, i < n) ∧ g.wires.length = g.cls.nQubits

theorem gateStep_ok {K : Kernel} {n : Nat} {d : Dict} {g : AGate} (hw : WF n g)
    (hz : isZB Quirks.none g.cls = true) : ∃ d', gateStep Quirks.none K n d g = .ok d' := by
  have hf : g.wires.find? (fun i => decide (n ≤ i)) = none := by
    rw [List.find?_eq_none]; intro i hi; simpa using hw.1 i hi
  have ha : (g.wires.length != g.cls.nQubits) = false := by simp [hw.2]
  unfold gateStep
  rw [hf]; simp only [ha]
  rw [isZB_eq] at hz
  cases hc : g.cls <;> rw [hc] at hz <;> try cases hz
  case I => exact ⟨_, rfl⟩
  case MCtrl inner k =>
    have hx : (inner == "X") = true := by simpa [Quirks.none] using hz
    simp only [hx, Quirks.none]
    cases (g.wires.map qname).getLast? <;> exact ⟨_, rfl⟩
  all_goals cases (g.wires.map qname).getLast? <;> exact ⟨_, rfl⟩

theorem runSection_ok {K : Kernel} {n : Nat} (gs : List AGate) {d : Dict}
    (h : ∀ g ∈ gs, WF n g ∧ isZB Quirks.none g.cls = true) :
    ∃ d', runSection Quirks.none K n d gs = .ok d' := by
  induction gs generalizing d with
  | nil => exact ⟨d, rfl⟩
  | cons g gs ih =>
    obtain ⟨d1, h1⟩ := gateStep_ok (K := K) (d := d) (h g (by simp)).1 (h g (by simp)).2
    simp only [runSection, h1]
    exact ih (fun x hx => h x (List.mem_cons_of_mem _ hx))

theorem expsOfSection_ok {K : Kernel} {n : Nat} (gs : List AGate)
    (h : ∀ g ∈ gs, WF n g ∧ isZB Quirks.none g.cls = true) :
    ∃ e, expsOfSection Quirks.none K n gs = .ok e := by
  obtain ⟨d, hd⟩ := runSection_ok (K := K) (d := []) gs h
  exact ⟨dropIdentities d, by simp [expsOfSection, hd]⟩

theorem flush_ok {K : Kernel} {n : Nat} {cur : List AGate}
    (hc : ∀ g ∈ cur, WF n g ∧ isZB Quirks.none g.cls = true) (i : Nat) (prev : Option AGate) (start : Option Nat) :
    ∃ s, flush Quirks.none K n i prev cur start = .ok s := by
  obtain ⟨e, he⟩ := expsOfSection_ok (K := K) cur hc
  exact ⟨_, by rw [flush, he]⟩

theorem go_ok {K : Kernel} {n : Nat} (rest : List AGate) :
    ∀ (i : Nat) (prev : Option AGate) (cur : List AGate) (start : Option Nat),
      (∀ g ∈ cur, WF n g ∧ isZB Quirks.none g.cls = true) → (∀ g ∈ rest, WF n g) →
      ∃ secs, go Quirks.none K n i prev cur start rest = .ok secs := by
  induction rest with
  | nil =>
    intro i prev cur start hc _
    obtain ⟨s, hs⟩ := flush_ok (K := K) hc i prev start
    rw [go_nil, hs]
    split <;> exact ⟨_, rfl⟩
  | cons g rest ih =>
    intro i prev cur start hc hr
    obtain ⟨hg, hr'⟩ := List.forall_mem_cons.mp hr
    rw [go_cons]
    split
    · next h => exact ih _ _ _ _ (List.forall_mem_append.mpr ⟨hc, List.forall_mem_singleton.mpr ⟨hg, h⟩⟩) hr'
    · split
      · exact ih _ _ _ _ hc hr'
      · obtain ⟨s, hs⟩ := flush_ok (K := K) hc i prev start
        obtain ⟨r, hr2⟩ := ih (i + 1) (some g) [] none (by simp) hr'
        rw [hs, hr2]
        exact ⟨_, rfl⟩

theorem decompile_ok (K : Kernel) (n : Nat) (gs : List AGate) (h : ∀ g ∈ gs, WF n g) :
    ∃ secs, decompile Quirks.none K n gs = .ok secs :=
  go_ok gs 0 none [] none (by simp) h

end QV.Decompiler
