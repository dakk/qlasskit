import QV.Base.Bits
import Mathlib.Tactic.Ring
namespace QV

/-- a bit as a number; `valLE_cons` and `valBE_append_single` spell it `if b then 1 else 0` (the same by `rfl`) -/
def bitN (b : Bool) : Nat := if b then 1 else 0

theorem bitN_true : bitN true = 1 := rfl
theorem bitN_false : bitN false = 0 := rfl

@[simp] theorem valLE_nil : valLE [] = 0 := rfl
@[simp] theorem valLE_cons (b : Bool) (bs : List Bool) :
    valLE (b :: bs) = (if b then 1 else 0) + 2 * valLE bs := rfl

theorem valLE_lt (l : List Bool) : valLE l < 2 ^ l.length := by
  induction l with
  | nil => simp
  | cons b bs ih => simp only [valLE_cons, List.length_cons, Nat.pow_succ]; split <;> omega

theorem valLE_append (l r : List Bool) : valLE (l ++ r) = valLE l + 2 ^ l.length * valLE r := by
  induction l with
  | nil => simp
  | cons b bs ih => simp only [List.cons_append, valLE_cons, ih, List.length_cons, Nat.pow_succ]; ring

theorem valLE_replicate_false (n : Nat) : valLE (List.replicate n false) = 0 := by
  induction n with
  | zero => rfl
  | succ n ih => simp [List.replicate_succ, ih]

@[simp] theorem toBitsLE_length (w n : Nat) : (toBitsLE w n).length = w := by
  induction w generalizing n with
  | zero => rfl
  | succ w ih => simp [toBitsLE, ih]

theorem bit_of_lt_two {x : Nat} (h : x < 2) : (if (x == 1) = true then 1 else 0) = x := by
  have : x = 0 ∨ x = 1 := by omega
  rcases this with rfl | rfl <;> rfl

theorem mod2_bit (n : Nat) : (if (n % 2 == 1) = true then 1 else 0) = n % 2 :=
  bit_of_lt_two (Nat.mod_lt n (by decide))

theorem valLE_toBitsLE (w n : Nat) : valLE (toBitsLE w n) = n % 2 ^ w := by
  induction w generalizing n with
  | zero => simp [toBitsLE, Nat.mod_one]
  | succ w ih =>
    simp only [toBitsLE, valLE_cons, ih, mod2_bit]
    rw [Nat.pow_succ, Nat.mul_comm (2 ^ w) 2, Nat.mod_mul]

theorem valLE_cons_div2 (b : Bool) (bs : List Bool) : valLE (b :: bs) / 2 = valLE bs := by
  rw [valLE_cons]; split <;> omega

theorem toBitsLE_valLE (l : List Bool) : toBitsLE l.length (valLE l) = l := by
  induction l with
  | nil => rfl
  | cons b bs ih =>
    have h1 : (valLE (b :: bs) % 2 == 1) = b := by cases b <;> simp
    rw [List.length_cons, toBitsLE, h1, valLE_cons_div2, ih]

theorem toBitsLE_valLE_of_length {l : List Bool} {w : Nat} (h : l.length = w) : toBitsLE w (valLE l) = l :=
  h ▸ toBitsLE_valLE l

theorem valLE_toBitsLE_of_lt {w n : Nat} (h : n < 2 ^ w) : valLE (toBitsLE w n) = n := by
  rw [valLE_toBitsLE, Nat.mod_eq_of_lt h]

theorem valLE_inj {l r : List Bool} (hl : l.length = r.length) (hv : valLE l = valLE r) : l = r := by
  rw [← toBitsLE_valLE l, ← toBitsLE_valLE r, hl, hv]

/-! ### all bits `0`: as a list, as a number, as the tests `all (!·)` / `any id` -/

theorem valLE_eq_zero_iff (l : List Bool) : valLE l = 0 ↔ l = List.replicate l.length false :=
  ⟨fun h => valLE_inj (by simp) (h.trans (valLE_replicate_false _).symm),
    fun h => h ▸ valLE_replicate_false _⟩

theorem all_not_eq_valLE (l : List Bool) : l.all (!·) = decide (valLE l = 0) := by
  induction l with
  | nil => rfl
  | cons b bs ih => rw [List.all_cons, ih, valLE_cons]; cases b <;> simp

theorem any_id_eq_not_all (l : List Bool) : l.any id = !(l.all (!·)) := by
  induction l with
  | nil => rfl
  | cons x xs ih => cases x <;> simp [ih]

theorem any_id_eq_valLE (l : List Bool) : l.any id = decide (valLE l > 0) := by
  rw [any_id_eq_not_all, all_not_eq_valLE, ← decide_not]; exact decide_eq_decide.2 (by omega)

theorem all_not_iff (l : List Bool) : l.all (!·) = true ↔ l = List.replicate l.length false := by
  rw [all_not_eq_valLE, decide_eq_true_eq]; exact valLE_eq_zero_iff l

theorem any_id_false_iff (l : List Bool) : l.any id = false ↔ l = List.replicate l.length false := by
  rw [any_id_eq_not_all, Bool.not_eq_false']; exact all_not_iff l

/-- value equality of two little-endian bit lists of any lengths, bit by bit -/
def eqB : List Bool → List Bool → Bool
  | [], r => r.all (!·)
  | l, [] => l.all (!·)
  | a :: as, b :: bs => (a == b) && eqB as bs

theorem eqB_spec (l r : List Bool) : eqB l r = decide (valLE l = valLE r) := by
  induction l generalizing r with
  | nil => simp only [eqB, all_not_eq_valLE, valLE_nil]; exact decide_eq_decide.2 eq_comm
  | cons a as ih =>
    cases r with
    | nil => simp only [eqB, all_not_eq_valLE, valLE_nil]; exact decide_eq_decide.2 Iff.rfl
    | cons b bs =>
      simp only [eqB, ih bs, valLE_cons]
      cases a <;> cases b <;> simp <;> omega

theorem toBitsLE_mod (w n : Nat) : toBitsLE w (n % 2 ^ w) = toBitsLE w n := by
  apply valLE_inj (by simp)
  simp [valLE_toBitsLE]

theorem pad_eq_toBitsLE {l : List Bool} {w : Nat} (h : l.length ≤ w) :
    l ++ List.replicate (w - l.length) false = toBitsLE w (valLE l) := by
  apply valLE_inj
  · rw [List.length_append, List.length_replicate, toBitsLE_length]; omega
  · rw [valLE_append, valLE_replicate_false, valLE_toBitsLE, Nat.mul_zero, Nat.add_zero,
      Nat.mod_eq_of_lt (Nat.lt_of_lt_of_le (valLE_lt l) (Nat.pow_le_pow_right (by decide) h))]

theorem bitsLE_zero : bitsLE 0 = [] := by rw [bitsLE]; simp

theorem bitsLE_pos {n : Nat} (h : n ≠ 0) : bitsLE n = (n % 2 == 1) :: bitsLE (n / 2) := by
  rw [bitsLE]; simp [h]

theorem bitsLE_ne_nil {n : Nat} (h : n ≠ 0) : bitsLE n ≠ [] := by rw [bitsLE_pos h]; simp

theorem valLE_bitsLE (n : Nat) : valLE (bitsLE n) = n := by
  induction n using Nat.strongRecOn with
  | _ n ih =>
    by_cases h : n = 0
    · subst h; simp [bitsLE_zero]
    · rw [bitsLE_pos h, valLE_cons, ih (n / 2) (by omega), mod2_bit]; omega

theorem bitsLE_length_le {n w : Nat} (h : n < 2 ^ w) : (bitsLE n).length ≤ w := by
  induction w generalizing n with
  | zero => rw [show n = 0 by simpa using h, bitsLE_zero]; simp
  | succ w ih =>
    by_cases h0 : n = 0
    · subst h0; simp [bitsLE_zero]
    · have := ih (n := n / 2) (by rw [Nat.pow_succ] at h; omega)
      rw [bitsLE_pos h0, List.length_cons]; omega

theorem valBE_append_single (l : List Bool) (b : Bool) :
    valBE (l ++ [b]) = 2 * valBE l + (if b then 1 else 0) := by
  simp [valBE, List.foldl_append]

theorem valBE_reverse (l : List Bool) : valBE l.reverse = valLE l := by
  induction l with
  | nil => rfl
  | cons b bs ih => rw [List.reverse_cons, valBE_append_single, ih, valLE_cons]; omega

theorem valBE_eq_valLE_reverse (l : List Bool) : valBE l = valLE l.reverse := by
  rw [← valBE_reverse, List.reverse_reverse]

theorem valBE_cons (b : Bool) (bs : List Bool) :
    valBE (b :: bs) = bitN b * 2 ^ bs.length + valBE bs := by
  rw [valBE_eq_valLE_reverse, List.reverse_cons, valLE_append, ← valBE_eq_valLE_reverse,
    List.length_reverse, valLE_cons, valLE_nil, Nat.mul_comm, Nat.add_comm]; rfl

theorem valBE_lt (l : List Bool) : valBE l < 2 ^ l.length := by
  rw [valBE_eq_valLE_reverse]; simpa using valLE_lt l.reverse

theorem valBE_inj {l r : List Bool} (hl : l.length = r.length) (hv : valBE l = valBE r) : l = r := by
  rw [valBE_eq_valLE_reverse, valBE_eq_valLE_reverse] at hv
  exact List.reverse_inj.1 (valLE_inj (by simp [hl]) hv)

@[simp] theorem bitChar_eq_one (b : Bool) : (bitChar b == '1') = b := by cases b <;> decide

@[simp] theorem map_bitChar_comp (l : List Bool) : l.map ((fun x => x == '1') ∘ bitChar) = l := by
  induction l with
  | nil => rfl
  | cons b bs ih => simp [ih]

theorem map_bitChar_eq_one (l : List Bool) : (l.map bitChar).map (· == '1') = l := by
  rw [List.map_map]; exact map_bitChar_comp l

theorem bitChar_ok (b : Bool) : (bitChar b != '0' && bitChar b != '1') = false := by
  cases b <;> decide

theorem pyInt2_boolListToBin {l : List Bool} (h : l ≠ []) :
    pyInt2 (boolListToBin l) = some (valBE l) := by
  have h1 : (l.map bitChar).isEmpty = false := by cases l <;> simp_all
  have h2 : (l.map bitChar).any (fun c => c != '0' && c != '1') = false := by
    rw [List.any_map, List.any_eq_false]; intro b _; simp [bitChar_ok]
  simp [pyInt2, boolListToBin, h1, h2]

theorem boolListToBin_reverse (l : List Bool) : (boolListToBin l).reverse = boolListToBin l.reverse :=
  List.map_reverse.symm

/-- `int(bool_list_to_bin(v[::-1]), 2)`: the reversed list read MSB first has the little-endian value of `v` -/
theorem pyInt2_boolListToBin_reverse {l : List Bool} (h : l ≠ []) :
    pyInt2 (boolListToBin l.reverse) = some (valLE l) := by
  rw [pyInt2_boolListToBin (by simpa using h), valBE_reverse]

theorem strip0b_pyBin (n : Nat) : strip0b (pyBin n) = binDigits n := rfl

theorem binDigits_bools (n : Nat) :
    (binDigits n).map (· == '1') = if n = 0 then [false] else (bitsLE n).reverse := by
  unfold binDigits
  split
  · decide
  · simp

theorem binDigits_length (n : Nat) : (binDigits n).length = if n = 0 then 1 else (bitsLE n).length := by
  unfold binDigits; split <;> simp

theorem binDigits_length_le {n w : Nat} (hw : 0 < w) (h : n < 2 ^ w) : (binDigits n).length ≤ w := by
  rw [binDigits_length]; split
  · exact hw
  · exact bitsLE_length_le h

theorem valBE_binDigits (n : Nat) : valBE ((binDigits n).map (· == '1')) = n := by
  rw [binDigits_bools]; split
  · next h => rw [h]; rfl
  · rw [valBE_reverse, valLE_bitsLE]

/-- `bin_to_bool_list(bin(n), w)[::-1]` is the `w`-bit little-endian encoding of `n` when `n < 2^w` -/
theorem binToBoolList_pyBin_reverse {n w : Nat} (h : n < 2 ^ w) :
    (binToBoolList (pyBin n) (some w)).reverse = toBitsLE w n := by
  unfold binToBoolList
  simp only [strip0b_pyBin, Option.getD_some]
  generalize hs : ((binDigits n).take w).map (· == '1') = s
  have hlen : s.reverse.length ≤ w := by
    rw [← hs, List.length_reverse, List.length_map, List.length_take]; exact Nat.min_le_left _ _
  have hval : valLE s.reverse = n := by
    rw [← valBE_eq_valLE_reverse, ← hs]
    by_cases h0 : n = 0
    · subst h0; cases w <;> simp [binDigits, valBE]
    · rw [List.take_of_length_le (by rw [binDigits_length, if_neg h0]; exact bitsLE_length_le h), valBE_binDigits]
  rw [List.reverse_append, List.reverse_replicate, ← List.length_reverse, pad_eq_toBitsLE hlen, hval]

theorem toBitsLE_inj {w x y : Nat} (hx : x < 2 ^ w) (hy : y < 2 ^ w) (h : toBitsLE w x = toBitsLE w y) :
    x = y := by
  have h1 := congrArg valLE h
  rwa [valLE_toBitsLE, valLE_toBitsLE, Nat.mod_eq_of_lt hx, Nat.mod_eq_of_lt hy] at h1

theorem take_toBitsLE : ∀ {j w : Nat}, j ≤ w → ∀ a : Nat, (toBitsLE w a).take j = toBitsLE j a
  | 0, _, _, _ => by simp [toBitsLE]
  | j + 1, w + 1, h, a => by
    simp only [toBitsLE, List.take_succ_cons]
    rw [take_toBitsLE (by omega)]

/-! ### list surgery, through the digits

`testBit_valLE` says that `valLE l` is the number whose binary digits are `l`; what `take`, `drop`, `zipWith` do to
the list is then what core's `testBit` lemmas say of `%`, `/`, `&&&`. -/

theorem testBit_valLE (l : List Bool) : ∀ i, (valLE l).testBit i = l.getD i false := by
  induction l with
  | nil => intro i; simp [valLE]
  | cons b bs ih =>
    intro i
    cases i with
    | zero =>
      simp only [valLE, Nat.testBit_zero, List.getD_cons_zero]
      cases b <;> simp
    | succ i =>
      rw [Nat.testBit_succ, valLE_cons_div2, ih i]
      simp

theorem testBit_valLE_getElem? (l : List Bool) (i : Nat) : (valLE l).testBit i = l[i]?.getD false := by
  rw [testBit_valLE, List.getD_eq_getElem?_getD]

theorem valLE_take (n : Nat) (l : List Bool) : valLE (l.take n) = valLE l % 2 ^ n := by
  apply Nat.eq_of_testBit_eq; intro i
  rw [Nat.testBit_mod_two_pow, testBit_valLE_getElem?, testBit_valLE_getElem?, List.getElem?_take]
  split <;> simp [*]

theorem valLE_drop (n : Nat) (l : List Bool) : valLE (l.drop n) = valLE l / 2 ^ n := by
  apply Nat.eq_of_testBit_eq; intro i
  rw [Nat.testBit_div_two_pow, testBit_valLE_getElem?, testBit_valLE_getElem?, List.getElem?_drop, Nat.add_comm]

theorem valLE_lt_getD {l : List Bool} {j : Nat} (h : valLE l < 2 ^ j) : l.getD j false = false := by
  rw [← testBit_valLE]; exact Nat.testBit_lt_two_pow h

/-- `&` digit by digit is `&&&` on the values, for any two lengths: where `zipWith` stops, one operand has no digits
left -/
theorem valLE_zipWith_and (A B : List Bool) :
    valLE (List.zipWith (fun a b => a && b) A B) = valLE A &&& valLE B := by
  apply Nat.eq_of_testBit_eq; intro i
  rw [Nat.testBit_and, testBit_valLE_getElem?, testBit_valLE_getElem?, testBit_valLE_getElem?,
    List.getElem?_zipWith]
  cases A[i]? <;> cases B[i]? <;> simp

end QV
