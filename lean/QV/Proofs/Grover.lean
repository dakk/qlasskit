import QV.Model.Grover
import Mathlib.Tactic.Ring
namespace QV.Grover

theorem repeatCopies_pos (q : Quirks) {k : Nat} (hk : 1 ≤ k) : repeatCopies q k = k :=
  if_neg (by omega)

theorem norm_oracleStep (N M : Int) (s : RState) : (oracleStep s).norm N M = s.norm N M := by
  simp only [RState.norm, oracleStep, Amp.sq]; ring

theorem norm_phaseStep (N M : Int) (s : RState) : (phaseStep s).norm N M = s.norm N M := by
  simp only [RState.norm, phaseStep, Amp.sq]; ring

theorem norm_diffuseStep (N M : Int) (s : RState) :
    (diffuseStep N M s).norm N M = N ^ 2 * s.norm N M := by
  simp only [RState.norm, diffuseStep, Amp.sq]; ring

theorem norm_rstep (N M : Int) (s : RState) : (rstep N M s).norm N M = N ^ 2 * s.norm N M := by
  unfold rstep
  rw [norm_diffuseStep, norm_phaseStep, norm_oracleStep]

theorem norm_riter (N M : Int) : ∀ (k : Nat) (s : RState),
    (riter N M k s).norm N M = N ^ (2 * k) * s.norm N M
  | 0, s => by simp [riter]
  | k + 1, s => by
    rw [riter, norm_riter N M k, norm_rstep]
    rw [show 2 * (k + 1) = 2 * k + 2 by ring, pow_add]; ring

theorem norm_init (N M : Int) : RState.init.norm N M = N := by
  simp only [RState.norm, RState.init, Amp.sq]; ring

theorem kSearch_least (p : Nat × Nat) (n M : Nat) : ∀ (fuel start j : Nat),
    start ≤ j → j < kSearch p n M fuel start → kOk p n M j = false
  | 0, start, j, h1, h2 => by simp [kSearch] at h2; omega
  | fuel + 1, start, j, h1, h2 => by
    unfold kSearch at h2
    by_cases hk : kOk p n M start = true
    · simp [hk] at h2; omega
    · simp [hk] at h2
      by_cases hj : j = start
      · subst hj; simpa using hk
      · exact kSearch_least p n M fuel (start + 1) j (by omega) h2

theorem kSearch_ok (p : Nat × Nat) (n M : Nat) : ∀ (fuel start j : Nat),
    start ≤ j → j < start + fuel → kOk p n M j = true →
    kOk p n M (kSearch p n M fuel start) = true
  | 0, start, j, h1, h2, _ => by omega
  | fuel + 1, start, j, h1, h2, h3 => by
    unfold kSearch
    by_cases hk : kOk p n M start = true
    · simp [hk]
    · simp [hk]
      have hj : j ≠ start := by intro e; subst e; exact hk h3
      exact kSearch_ok p n M fuel (start + 1) j (by omega) (by omega) h3

/-- with `p ≤ 4` (true of both bounds on π) `k = 2^n` is always admissible, so the fuel suffices -/
theorem kOk_pow (p : Nat × Nat) (n M : Nat) (hp : p.1 * p.1 ≤ 16 * p.2 * p.2) (hM : 0 < M) :
    kOk p n M (2 ^ n) = true := by
  unfold kOk
  simp only [decide_eq_true_eq]
  have h1 : 1 ≤ 2 ^ n := Nat.one_le_two_pow
  calc p.1 * p.1 * 2 ^ n ≤ (16 * p.2 * p.2) * 2 ^ n := Nat.mul_le_mul_right _ hp
    _ ≤ (16 * p.2 * p.2) * (2 ^ n * 2 ^ n * M) := by
        apply Nat.mul_le_mul_left
        calc 2 ^ n = 2 ^ n * 1 * 1 := by ring
          _ ≤ 2 ^ n * 2 ^ n * M := Nat.mul_le_mul (Nat.mul_le_mul_left _ h1) hM
    _ = 16 * 2 ^ n * 2 ^ n * M * p.2 * p.2 := by ring

end QV.Grover
