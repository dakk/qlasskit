import QV.Proofs.FrontDen
/- A form added to `PExp` needs a case in each induction over expressions: `semT_le`, `semXT_le` (with the equations
`semT_*`, `semWT_*`, `semXT_*`, `semXL_*`), `soundT_all`, `soundT_frag`, `semT_toT`, `wellT_of_semT`, `inFragT_of_inFrag`,
`semW_congr`, `semT_congr`, `wellT_congr`, `A2A.semW_congr'`, `semWT_width`, `semT_good`, `semT_rel`. -/
namespace QV.Sem
open QV.Arith QV.Front

theorem soundT_bin (ρ : QV.Env) (env : Front.Env) (σ : TEnv) (op : String)
    (l r : PExp) (ihl : SoundT ρ env σ l) (ihr : SoundT ρ env σ r) : SoundT ρ env σ (.bin op l r) := by
  intro s t v s' hw h
  rw [tr] at h
  obtain ⟨⟨lt, lv⟩, s1, h1, h'⟩ := bind_inv h
  clear h
  obtain ⟨⟨rt, rv⟩, s2, h2, h3⟩ := bind_inv h'
  clear h'
  simp only [wellT, Bool.and_eq_true] at hw
  obtain ⟨svl, hsl, hdl⟩ := ihl _ _ _ _ hw.1 h1
  obtain ⟨svr, hsr, hdr⟩ := ihr _ _ _ _ hw.2 h2
  clear h1 h2 ihl ihr hw
  cases hdl with
  | char a ha => simp only [run_throw_ok] at h3
  | tup a sa _ _ => simp only [run_throw_ok] at h3
  | bool a =>
    cases hdr with
    | int b => simp only [run_throw_ok] at h3
    | char b hb => simp only [run_throw_ok] at h3
    | tup b sb _ _ => simp only [run_throw_ok] at h3
    | bool b =>
      have hsem : semT σ (.bin op l r) = (boolBin op (a.eval ρ) (b.eval ρ)).map SVal.toT := by
        simp only [semT, hsl, hsr]
      rw [hsem]
      dsimp only at h3
      split at h3
      · rename_i e he
        cases pure_inv h3
        split at he <;> cases he
        · exact ⟨_, rfl, DenT.mk_bool _ _ (by simp [BExp.eval, evalXor])⟩
        · exact ⟨_, rfl, DenT.mk_bool _ _ (by simp [BExp.eval, evalAnd])⟩
        · exact ⟨_, rfl, DenT.mk_bool _ _ (by simp [BExp.eval, evalOr])⟩
      · simp only [run_throw_ok] at h3
  | int a =>
    dsimp only at h3
    split at h3
    · -- `<<` by a literal
      split at h3
      · rename_i k
        split at h3
        · simp only [run_throw_ok] at h3
        · rename_i hk
          obtain ⟨a', _, ha, h4⟩ := bind_inv h3
          obtain ⟨ha, rfl⟩ := lift_inv ha
          rw [bitsOf_ofBits] at ha
          cases ha
          cases pure_inv h4
          refine ⟨.int a.length ((val ρ a * 2 ^ k.toNat) % 2 ^ a.length), by simp [semT, hsl, hk], ?_⟩
          apply DenT.mk_int _ _ _ (shiftLeft_length a k.toNat)
          rw [val_shiftLeft]
      · simp only [run_throw_ok] at h3
      · simp only [run_throw_ok] at h3
    · -- `>>` by a literal
      split at h3
      · rename_i k
        split at h3
        · simp only [run_throw_ok] at h3
        · rename_i hk
          obtain ⟨a', _, ha, h4⟩ := bind_inv h3
          obtain ⟨ha, rfl⟩ := lift_inv ha
          rw [bitsOf_ofBits] at ha
          cases ha
          cases pure_inv h4
          refine ⟨.int a.length (val ρ a / 2 ^ k.toNat), by simp [semT, hsl, hk], ?_⟩
          exact DenT.mk_int _ _ _ (shiftRight_length a k.toNat) (val_shiftRight ρ _ a _)
      · simp only [run_throw_ok] at h3
      · simp only [run_throw_ok] at h3
    · rename_i hnl hnr
      cases hdr with
      | bool b => simp only [run_throw_ok] at h3
      | char b hb => simp only [run_throw_ok] at h3
      | tup b sb _ _ => simp only [run_throw_ok] at h3
      | int b =>
        obtain ⟨a', _, ha, h4⟩ := bind_inv h3
        clear h3
        obtain ⟨b', _, hb, h5⟩ := bind_inv h4
        clear h4
        obtain ⟨ha, rfl⟩ := lift_inv ha
        obtain ⟨hb, rfl⟩ := lift_inv hb
        rw [bitsOf_ofBits] at ha hb
        cases ha; cases hb
        have hsh : (op == "lshift" || op == "rshift") = false := by
          simp only [Bool.or_eq_false_iff, beq_eq_false_iff_ne]
          exact ⟨hnl, hnr⟩
        have hsem : semT σ (.bin op l r)
            = (intBin op a.length b.length (val ρ a) (val ρ b)).map SVal.toT := by
          simp only [semT, hsl, hsr, hsh, Bool.false_eq_true, if_false]
        rw [hsem]
        rw [ite_lt_qint, ite_gt_qint] at h5
        split at h5
        · cases pure_inv h5
          exact ⟨_, rfl, DenT.mk_int _ _ _ (qAdd_length a b) (val_qAdd ρ a b)⟩
        · obtain ⟨_, h5⟩ := event_inv h5
          cases pure_inv h5
          obtain ⟨hv, hl⟩ := qSub_spec ρ a.length a b
          rw [← Nat.max_assoc, Nat.max_self] at hv hl
          exact ⟨_, rfl, DenT.mk_int _ _ _ hl hv⟩
        · -- `*`: the `is_const` outcomes only choose between equivalent circuits
          obtain ⟨⟨cl, cr⟩, _, _, h6⟩ := bind_inv h5
          have h7 : (t, v) = (Ty.qint (qMul Quirks.none cl cr a.length b.length a b).1,
              Val.ofBits (qMul Quirks.none cl cr a.length b.length a b).2) := by
            rcases (run_ite_ok _ _ _ _ _).mp h6 with ⟨_, h6⟩ | ⟨_, h6⟩
            · obtain ⟨_, h6⟩ := event_inv h6
              exact pure_inv h6
            · exact pure_inv h6
          cases h7
          obtain ⟨hv, hl, ht⟩ := qMul_spec ρ cl cr a.length b.length a b
          rw [ht rfl rfl] at hv hl ⊢
          exact ⟨_, rfl, DenT.mk_int _ _ _ hl hv⟩
        · -- `%`: accepted for a literal power of two only
          have hq1 : Quirks.none.modNonPow2 = false := rfl
          have hq2 : Quirks.none.modVarDivisor = false := rfl
          simp only [run_ite_ok, run_bind_ok, run_pure_ok, run_throw_ok, hq1, hq2, Bool.not_false,
            false_and, exists_false, and_false, or_false, not_true_eq_false, Bool.not_eq_true',
            Bool.not_eq_false, false_or] at h5
          obtain ⟨hc, hp, h6, _⟩ := h5
          cases h6
          obtain ⟨k, hk⟩ := isPow2_spec _ hp
          have hvb : val ρ b = 2 ^ k := by rw [litVal_eq_val ρ b hc, hk]
          have h2k := Nat.pow_pos (n := k) (by decide : 0 < 2)
          have hpos : 0 < b.length := by
            rcases Nat.eq_zero_or_pos b.length with h0 | h0
            · have := val_lt ρ b
              rw [h0, hvb] at this
              omega
            · exact h0
          obtain ⟨hv, hl⟩ := qMod_spec ρ b.length a b k hpos hvb
          rw [Nat.max_self] at hl
          have hne : val ρ b ≠ 0 := by omega
          refine ⟨.int (max a.length b.length) (val ρ a % val ρ b), by simp [intBin, hne, SVal.toT], ?_⟩
          rw [hvb]
          exact DenT.mk_int _ _ _ hl hv
        · cases pure_inv h5
          exact ⟨_, rfl, DenT.mk_int _ _ _ (bitwiseGeneric_length _ a b) (val_bitwiseGeneric ρ _ _ (opXor_eval ρ) a b)⟩
        · cases pure_inv h5
          exact ⟨_, rfl, DenT.mk_int _ _ _ (bitwiseGeneric_length _ a b) (val_bitwiseGeneric ρ _ _ (opAnd_eval ρ) a b)⟩
        · cases pure_inv h5
          exact ⟨_, rfl, DenT.mk_int _ _ _ (bitwiseGeneric_length _ a b) (val_bitwiseGeneric ρ _ _ (opOr_eval ρ) a b)⟩
        · simp only [run_throw_ok] at h5

/-- body of the inner `for si in range(BIT_SIZE)` loop -/
def cmpBody (l r : List Val) (idx : Nat) (k : Nat) (s : BExp) : Except String (ForInStep BExp) :=
  match l[idx + k]?, r[idx + k]? with
  | some (.atom a), some (.atom b) => pure (ForInStep.yield (BExp.and [s, bEq a b]))
  | _, _ => throw "tuple comparison on nested values"

/-- number of positions an element type takes in the loop -/
def elemSize (t : Ty) : Except String Nat := match t with | .bool => pure 1 | _ => sizeOf! t

theorem tupleCmpLoop_cons (l r : List Val) (t : Ty) (ts : List Ty) (idx : Nat) (c : BExp) :
    tupleCmpLoop l r (t :: ts) idx c =
      elemSize t >>= fun n =>
        forIn (List.range' 0 n) c (cmpBody l r idx) >>= fun c1 => tupleCmpLoop l r ts (idx + n) c1 := by
  have key : ∀ n, (forIn [:n] c fun k __s =>
              match l[idx + k]?, r[idx + k]? with
              | some (Val.atom a), some (Val.atom b) =>
                (pure (ForInStep.yield (BExp.and [__s, bEq a b])) : Except String _)
              | x, x_1 => do
                throw "tuple comparison on nested values"
                pure (ForInStep.yield __s)) = forIn (List.range' 0 n) c (cmpBody l r idx) := by
    intro n
    rw [Std.Legacy.Range.forIn_eq_forIn_range']
    simp only [Std.Legacy.Range.size, Nat.sub_zero, Nat.add_sub_cancel, Nat.div_one]
    congr 1
  cases t <;> rw [tupleCmpLoop] <;> (try simp only [elemSize]) <;>
    first
    | (intro hh; cases hh)
    | (congr 1; funext n; congr 1; exact key n)

theorem elemSize_ok {t : Ty} {n : Nat} (h : elemSize t = .ok n) : n = t.bits := by
  cases t with
  | bool => simp only [elemSize, pure, Except.pure, Except.ok.injEq] at h; rw [← h]; rfl
  | qint w => simp only [elemSize, sizeOf!, Ty.size?, pure, Except.pure, Except.ok.injEq] at h; rw [← h]; rfl
  | qchar => simp only [elemSize, sizeOf!, Ty.size?, pure, Except.pure, Except.ok.injEq] at h; rw [← h]; rfl
  | tuple ts => simp [elemSize, sizeOf!, Ty.size?, throw, throwThe, MonadExceptOf.throw] at h

theorem decide_cons_eq (x y : Bool) (A B : List Bool) :
    decide (x :: A = y :: B) = ((x == y) && decide (A = B)) := by
  by_cases h1 : x = y <;> by_cases h2 : A = B <;> simp [h1, h2]

theorem cmpInner (ρ : QV.Env) (l r : List Val) (idx : Nat) :
    ∀ (n s : Nat) (c c' : BExp),
      forIn (List.range' s n) c (cmpBody l r idx) = Except.ok c' →
      ∃ as bs : List BExp, as.length = n ∧ bs.length = n ∧
        (l.drop (idx + s)).take n = as.map Val.atom ∧ (r.drop (idx + s)).take n = bs.map Val.atom ∧
        c'.eval ρ = (c.eval ρ && decide (evalBits ρ as = evalBits ρ bs)) := by
  intro n
  induction n with
  | zero =>
    intro s c c' h
    simp only [List.range'_zero, List.forIn_nil, pure, Except.pure, Except.ok.injEq] at h
    subst h
    exact ⟨[], [], rfl, rfl, by simp, by simp, by simp [evalBits]⟩
  | succ n ih =>
    intro s c c' h
    rw [List.range'_succ, List.forIn_cons, SE.bind_ok] at h
    obtain ⟨st, h1, h2⟩ := h
    unfold cmpBody at h1
    split at h1
    · rename_i a b hl hr
      simp only [pure, Except.pure, Except.ok.injEq] at h1
      subst h1
      obtain ⟨as, bs, ha, hb, hla, hrb, hev⟩ := ih (s + 1) _ _ h2
      refine ⟨a :: as, b :: bs, by simp [ha], by simp [hb], ?_, ?_, ?_⟩
      · rw [← Nat.add_assoc] at hla
        rw [List.drop_eq_getElem?_toList_append, hl, Option.toList_some, List.singleton_append,
          List.take_succ_cons, hla]; rfl
      · rw [← Nat.add_assoc] at hrb
        rw [List.drop_eq_getElem?_toList_append, hr, Option.toList_some, List.singleton_append,
          List.take_succ_cons, hrb]; rfl
      · rw [hev]
        simp only [BExp.eval, evalAnd, bEq_eval, Bool.and_true, evalBits, List.map_cons, decide_cons_eq]
        cases c.eval ρ <;> cases a.eval ρ <;> cases b.eval ρ <;> simp <;> congr
    · simp [throw, throwThe, MonadExceptOf.throw] at h1

theorem cmpOuter (ρ : QV.Env) (l r : List Val) :
    ∀ (ts : List Ty) (idx : Nat) (c c' : BExp), tupleCmpLoop l r ts idx c = .ok c' →
      ∃ as bs : List BExp, as.length = Ty.bitsList ts ∧ bs.length = Ty.bitsList ts ∧
        (l.drop idx).take (Ty.bitsList ts) = as.map Val.atom ∧
        (r.drop idx).take (Ty.bitsList ts) = bs.map Val.atom ∧
        c'.eval ρ = (c.eval ρ && decide (evalBits ρ as = evalBits ρ bs)) := by
  intro ts
  induction ts with
  | nil =>
    intro idx c c' h
    simp only [tupleCmpLoop, pure, Except.pure, Except.ok.injEq] at h
    subst h
    exact ⟨[], [], rfl, rfl, by simp [Ty.bitsList], by simp [Ty.bitsList], by simp [evalBits]⟩
  | cons t ts ih =>
    intro idx c c' h
    rw [tupleCmpLoop_cons] at h
    simp only [SE.bind_ok] at h
    obtain ⟨n, hn, c1, h1, h2⟩ := h
    have hnb := elemSize_ok hn
    subst hnb
    obtain ⟨as1, bs1, ha1, hb1, hl1, hr1, he1⟩ := cmpInner ρ l r idx _ 0 c c1 h1
    obtain ⟨as2, bs2, ha2, hb2, hl2, hr2, he2⟩ := ih _ _ _ h2
    simp only [Nat.add_zero] at hl1 hr1
    refine ⟨as1 ++ as2, bs1 ++ bs2, by simp [ha1, ha2, Ty.bitsList], by simp [hb1, hb2, Ty.bitsList], ?_, ?_, ?_⟩
    · rw [Ty.bitsList, List.take_add, hl1, List.drop_drop, hl2, List.map_append]
    · rw [Ty.bitsList, List.take_add, hr1, List.drop_drop, hr2, List.map_append]
    · rw [he2, he1, evalBits_append, evalBits_append]
      have hlen : (evalBits ρ as1).length = (evalBits ρ bs1).length := by simp [evalBits, ha1, hb1]
      have happ : evalBits ρ as1 ++ evalBits ρ as2 = evalBits ρ bs1 ++ evalBits ρ bs2 ↔
          evalBits ρ as1 = evalBits ρ bs1 ∧ evalBits ρ as2 = evalBits ρ bs2 :=
        ⟨fun hh => List.append_inj hh hlen, fun ⟨e1, e2⟩ => by rw [e1, e2]⟩
      simp only [happ, Bool.decide_and, Bool.and_assoc]

theorem flattenList_append (x y : List Val) :
    Val.flattenList (x ++ y) = Val.flattenList x ++ Val.flattenList y := by
  induction x with
  | nil => rfl
  | cons v vs ih => simp [Val.flattenList, ih]

theorem flatten_of_take (l : List Val) (as : List BExp) (h : l.take as.length = as.map Val.atom)
    (hlen : (Val.flattenList l).length = as.length) : Val.flattenList l = as := by
  have e : l = as.map Val.atom ++ l.drop as.length := by rw [← h, List.take_append_drop]
  rw [e, flattenList_append, flattenList_atoms] at hlen ⊢
  simp only [List.length_append] at hlen
  have : (Val.flattenList (List.drop as.length l)).length = 0 := by omega
  rw [List.length_eq_zero_iff.mp this, List.append_nil]


/-- the loop of the tuple comparison, run on two values that denote tuples of one type, decides python's
equality of the two tuples -/
theorem tupleCmp_eval (ρ : QV.Env) (a b : List Val) (sa sb : List TVal)
    (hwa : TVal.wfList sa = true) (hwb : TVal.wfList sb = true)
    (hba : evalBits ρ (Val.flattenList a) = TVal.bitsList sa)
    (hbb : evalBits ρ (Val.flattenList b) = TVal.bitsList sb)
    (htys : TVal.tyList sa = TVal.tyList sb) (c : BExp)
    (hloop : tupleCmpLoop a b (TVal.tyList sa) 0 .tt = .ok c) : c.eval ρ = TVal.beqList sa sb := by
  obtain ⟨as, bs, hla, hlb, hta, htb, hev⟩ := cmpOuter ρ a b _ 0 .tt c hloop
  simp only [List.drop_zero] at hta htb
  have hna : (Val.flattenList a).length = as.length := by rw [length_of_evalBits_eq hba, hla]
  have hnb : (Val.flattenList b).length = bs.length := by rw [length_of_evalBits_eq hbb, ← htys, hlb]
  rw [← hla] at hta
  rw [← hlb] at htb
  have hfa := flatten_of_take a as hta hna
  have hfb := flatten_of_take b bs htb hnb
  rw [hfa] at hba
  rw [hfb] at hbb
  rw [hev, hba, hbb]
  simp only [BExp.eval, Bool.true_and, ← TVal.beqList_iff_bits sa sb htys hwa hwb, Bool.decide_eq_true]

theorem comparators_find {op : String} (hop : cmpOps.contains op = true) :
    ∃ nm, Gen.comparators.find? (·.1 == op) = some (op, nm) ∧ (op, nm) ∈ Gen.comparators := by
  simp only [cmpOps, List.contains_eq_mem, List.mem_cons, List.mem_nil_iff, or_false, decide_eq_true_eq] at hop
  rcases hop with rfl | rfl | rfl | rfl | rfl | rfl <;> exact ⟨_, rfl, by decide⟩

theorem cmpT_tuple_eq (xs ys : List TVal) (hty : Ty.beqList (TVal.tyList xs) (TVal.tyList ys) = true)
    (hne : xs.isEmpty = false) : cmpT "Eq" (.tuple xs) (.tuple ys) = some (.bool (TVal.beqList xs ys)) := by
  simp [cmpT, hty, hne]

theorem cmpT_tuple_ne (xs ys : List TVal) (hty : Ty.beqList (TVal.tyList xs) (TVal.tyList ys) = true)
    (hne : xs.isEmpty = false) : cmpT "NotEq" (.tuple xs) (.tuple ys) = some (.bool (!TVal.beqList xs ys)) := by
  simp [cmpT, hty, hne]

theorem soundT_cmp (ρ : QV.Env) (env : Front.Env) (σ : TEnv) (op : String) (hop : cmpOps.contains op = true)
    (l r : PExp) (ihl : SoundT ρ env σ l) (ihr : SoundT ρ env σ r) : SoundT ρ env σ (.cmp op l r) := by
  intro s t v s' hw h
  rw [tr] at h
  obtain ⟨⟨lt, lv⟩, s1, h1, h'⟩ := bind_inv h
  clear h
  obtain ⟨⟨rt, rv⟩, s2, h2, h3⟩ := bind_inv h'
  clear h'
  simp only [wellT, Bool.and_eq_true] at hw
  obtain ⟨svl, hsl, hdl⟩ := ihl _ _ _ _ hw.1 h1
  obtain ⟨svr, hsr, hdr⟩ := ihr _ _ _ _ hw.2 h2
  clear h1 h2 ihl ihr hw
  have hsem : semT σ (.cmp op l r) = cmpT op svl svr := by simp only [semT, hsl, hsr]
  rw [hsem]
  obtain ⟨nm, hnm, hpair⟩ := comparators_find hop
  simp only [Gen.comparators, List.mem_cons, Prod.mk.injEq, List.mem_nil_iff, or_false] at hpair
  cases hdl with
  | bool a =>
    cases hdr with
    | int b => simp only [Ty.size?, run_throw_ok] at h3
    | char b hb => simp only [Ty.size?, run_throw_ok] at h3
    | tup b sb _ _ => simp only [Ty.size?, run_throw_ok] at h3
    | bool b =>
      simp only [hnm] at h3
      obtain ⟨_, _, ha', h4⟩ := bind_inv h3
      obtain ⟨_, _, hb', h5⟩ := bind_inv h4
      cases (lift_inv ha').1
      cases (lift_inv hb').1
      rcases hpair with ⟨rfl, rfl⟩ | ⟨rfl, rfl⟩ | ⟨rfl, rfl⟩ | ⟨rfl, rfl⟩ | ⟨rfl, rfl⟩ | ⟨rfl, rfl⟩
      · cases pure_inv h5
        exact ⟨_, rfl, DenT.mk_bool _ _ (bEq_eval ρ a b)⟩
      · cases pure_inv h5
        exact ⟨_, rfl, DenT.mk_bool _ _ (bNeq_eval ρ a b)⟩
      all_goals exact ((run_throw_ok _ _ _).mp h5).elim
  | int a =>
    cases hdr with
    | bool b => simp only [Ty.size?, run_throw_ok] at h3
    | tup b sb _ _ => simp only [Ty.size?, run_throw_ok] at h3
    | char b hb =>
      -- `Qint.comparable` refuses a `Qchar`
      obtain ⟨_, _, _, h4⟩ := bind_inv h3
      obtain ⟨_, _, _, h5⟩ := bind_inv h4
      rcases (run_ite_ok _ _ _ _ _).mp h5 with ⟨_, h6⟩ | ⟨hc, _⟩
      · obtain ⟨_, _, h7, _⟩ := bind_inv h6
        exact ((run_throw_ok _ _ _).mp h7).elim
      · exact absurd rfl hc
    | int b =>
      obtain ⟨_, _, ha', h4⟩ := bind_inv h3
      obtain ⟨_, _, hb', h5⟩ := bind_inv h4
      obtain ⟨ha', rfl⟩ := lift_inv ha'
      obtain ⟨hb', rfl⟩ := lift_inv hb'
      rw [bitsOf_ofBits] at ha' hb'
      cases ha'; cases hb'
      rcases (run_ite_ok _ _ _ _ _).mp h5 with ⟨hc, _⟩ | ⟨_, h6⟩
      · cases hc
      obtain ⟨_, h7⟩ := event_inv h6
      rcases hpair with ⟨rfl, rfl⟩ | ⟨rfl, rfl⟩ | ⟨rfl, rfl⟩ | ⟨rfl, rfl⟩ | ⟨rfl, rfl⟩ | ⟨rfl, rfl⟩ <;>
        obtain ⟨_, _, he, h8⟩ := bind_inv h7 <;> cases pure_inv he <;> cases pure_inv h8
      · exact ⟨_, rfl, DenT.mk_bool _ _ (qEq_eval ρ a b)⟩
      · exact ⟨_, rfl, DenT.mk_bool _ _ (qNeq_eval ρ a b)⟩
      · exact ⟨_, rfl, DenT.mk_bool _ _ (qLt_eval ρ a b)⟩
      · exact ⟨_, rfl, DenT.mk_bool _ _ (qLte_eval ρ a b)⟩
      · exact ⟨_, rfl, DenT.mk_bool _ _ (qGt_eval ρ a b)⟩
      · exact ⟨_, rfl, DenT.mk_bool _ _ (qGte_eval ρ a b)⟩
  | char a ha =>
    cases hdr with
    | bool b => simp only [Ty.size?, run_throw_ok] at h3
    | tup b sb _ _ => simp only [Ty.size?, run_throw_ok] at h3
    | int b | char b hb =>
      -- `==` / `!=` through `QintImp.eq / neq` on the bit lists; the orderings are abstract
      obtain ⟨_, _, ha', h4⟩ := bind_inv h3
      obtain ⟨_, _, hb', h5⟩ := bind_inv h4
      obtain ⟨ha', rfl⟩ := lift_inv ha'
      obtain ⟨hb', rfl⟩ := lift_inv hb'
      rw [bitsOf_ofBits] at ha' hb'
      cases ha'; cases hb'
      obtain ⟨_, h6⟩ := event_inv h5
      rcases hpair with ⟨rfl, rfl⟩ | ⟨rfl, rfl⟩ | ⟨rfl, rfl⟩ | ⟨rfl, rfl⟩ | ⟨rfl, rfl⟩ | ⟨rfl, rfl⟩
      · cases pure_inv h6
        exact ⟨_, rfl, DenT.mk_bool _ _ (qEq_eval ρ a b)⟩
      · cases pure_inv h6
        exact ⟨_, rfl, DenT.mk_bool _ _ (qNeq_eval ρ a b)⟩
      all_goals exact ((run_throw_ok _ _ _).mp h6).elim
  | tup a sa hwa hba =>
    cases hdr with
    | bool b => simp only [Ty.size?, run_throw_ok] at h3
    | int b => simp only [Ty.size?, run_throw_ok] at h3
    | char b hb => simp only [Ty.size?, run_throw_ok] at h3
    | tup b sb hwb hbb =>
      simp only [] at h3
      rcases (run_ite_ok _ _ _ _ _).mp h3 with ⟨_, h4⟩ | ⟨hne, h4⟩
      · exact ((run_throw_ok _ _ _).mp h4).elim
      rcases (run_ite_ok _ _ _ _ _).mp h4 with ⟨_, h5⟩ | ⟨hty, h5⟩
      · exact ((run_throw_ok _ _ _).mp h5).elim
      simp only [Bool.not_eq_true, Bool.or_eq_false_iff, Bool.not_eq_false'] at hne hty
      have hne' : sa.isEmpty = false := by
        cases sa with
        | nil => simp [TVal.tyList] at hne
        | cons _ _ => rfl
      have hloop : ∀ {neq : Bool} {s3 : St}, (do
            let c ← (liftM (tupleCmpLoop a b (TVal.tyList sa) 0 .tt) : M BExp)
            pure (Ty.bool, Val.atom (if neq then c.not else c)) : M (Ty × Val)).run s3 = .ok ((t, v), s') →
          t = .bool ∧ ∃ c, v = .atom (if neq then c.not else c) ∧ c.eval ρ = TVal.beqList sa sb := by
        intro neq s3 h
        obtain ⟨c, _, hc, h'⟩ := bind_inv h
        cases pure_inv h'
        exact ⟨rfl, c, rfl, tupleCmp_eval ρ a b sa sb hwa hwb hba hbb (Ty.eq_of_beqList _ _ hty) c (lift_inv hc).1⟩
      split at h5
      · obtain ⟨_, _, hq, h6⟩ := bind_inv h5
        cases pure_inv hq
        obtain ⟨rfl, c, rfl, hc⟩ := hloop h6
        exact ⟨_, cmpT_tuple_eq sa sb hty hne', DenT.mk_bool _ _ hc⟩
      · obtain ⟨_, _, hq, h6⟩ := bind_inv h5
        cases pure_inv hq
        obtain ⟨rfl, c, rfl, hc⟩ := hloop h6
        exact ⟨_, cmpT_tuple_ne sa sb hty hne', DenT.mk_bool _ _ (by simp only [if_true, BExp.eval, hc])⟩
      · obtain ⟨_, _, hq, _⟩ := bind_inv h5
        exact ((run_throw_ok _ _ _).mp hq).elim

-- these nine: kept, not used below; type dispatch goes through `cases` on `DenT` and `Ty.bne_iff`
theorem bne_bool_qchar : (Ty.bool != Ty.qchar) = true := rfl
theorem bne_bool_tuple (ts : List Ty) : (Ty.bool != Ty.tuple ts) = true := rfl
theorem bne_qint_qchar (w : Nat) : (Ty.qint w != Ty.qchar) = true := rfl
theorem bne_qint_tuple (w : Nat) (ts : List Ty) : (Ty.qint w != Ty.tuple ts) = true := rfl
theorem bne_qchar_qint (w : Nat) : (Ty.qchar != Ty.qint w) = true := rfl
theorem bne_qchar_tuple (ts : List Ty) : (Ty.qchar != Ty.tuple ts) = true := rfl
theorem bne_tuple_qint (w : Nat) (ts : List Ty) : (Ty.tuple ts != Ty.qint w) = true := rfl
theorem bne_tuple_qchar (ts : List Ty) : (Ty.tuple ts != Ty.qchar) = true := rfl
theorem bne_qchar_qchar : (Ty.qchar != Ty.qchar) = false := rfl

/-- the element-wise `ITE` of two list values: it stops at the shorter one and wants expressions up to there -/
theorem iteZip_ok (c : BExp) : ∀ (x y r : List Val), iteZip c x y = .ok r →
    ∃ as bs : List BExp, as.length = bs.length ∧ r = (List.zipWith (BExp.ite c) as bs).map Val.atom ∧
      ((x = as.map Val.atom ∧ y.take as.length = bs.map Val.atom) ∨
       (y = bs.map Val.atom ∧ x.take bs.length = as.map Val.atom)) := by
  intro x
  induction x with
  | nil =>
    intro y r h
    simp only [iteZip, pure, Except.pure, Except.ok.injEq] at h
    subst h
    exact ⟨[], [], rfl, rfl, Or.inl ⟨rfl, by simp⟩⟩
  | cons v ts ih =>
    intro y r h
    cases y with
    | nil =>
      have : r = [] := by
        cases v <;> simp only [iteZip, pure, Except.pure, Except.ok.injEq] at h <;> exact h.symm
      subst this
      exact ⟨[], [], rfl, rfl, Or.inr ⟨rfl, by simp⟩⟩
    | cons w fs =>
      cases v with
      | list _ => simp [iteZip, throw, throwThe, MonadExceptOf.throw] at h
      | atom t =>
        cases w with
        | list _ => simp [iteZip, throw, throwThe, MonadExceptOf.throw] at h
        | atom f =>
          simp only [iteZip, SE.bind_ok, pure, Except.pure, Except.ok.injEq] at h
          obtain ⟨r', hr', rfl⟩ := h
          obtain ⟨as, bs, hl, rfl, hor⟩ := ih fs r' hr'
          refine ⟨t :: as, f :: bs, by simp [hl], by simp, ?_⟩
          rcases hor with ⟨h1, h2⟩ | ⟨h1, h2⟩
          · exact Or.inl ⟨by simp [h1], by simp [h2]⟩
          · exact Or.inr ⟨by simp [h1], by simp [h2]⟩

/-- what `IfExp` returns, from the code alone: the test is one expression of type bool; of two branches of
different sized types the narrower is filled to the width of the other; then one `ITE` for bools, one per
element otherwise -/
theorem tr_ite_inv {env : Front.Env} {c l r : PExp} {s s' : St} {t : Ty} {v : Val}
    (h : (tr Quirks.none env (.ite c l r)).run s = .ok ((t, v), s')) :
    ∃ cb lt lv rt rv s0 s1 s2,
      (tr Quirks.none env c).run s = .ok ((.bool, .atom cb), s0) ∧
      (tr Quirks.none env l).run s0 = .ok ((lt, lv), s1) ∧
      (tr Quirks.none env r).run s1 = .ok ((rt, rv), s2) ∧
      ∃ tv ev,
        ((lt = rt ∧ t = lt ∧ tv = lv ∧ ev = rv) ∨
         (∃ a b, lt ≠ rt ∧ lt.size? = some a ∧ rt.size? = some b ∧
            ((b < a ∧ t = lt ∧ tv = lv ∧ ∃ bits, bitsOf rv = .ok bits ∧ ev = Val.ofBits (fill a bits)) ∨
             (a < b ∧ t = rt ∧ ev = rv ∧ ∃ bits, bitsOf lv = .ok bits ∧ tv = Val.ofBits (fill b bits)) ∨
             (a = b ∧ t = lt ∧ tv = lv ∧ ev = rv)))) ∧
        ((t = .bool ∧ ∃ x y, tv = .atom x ∧ ev = .atom y ∧ v = .atom (.ite cb x y)) ∨
         (t ≠ .bool ∧ ∃ ts fs zs, tv = .list ts ∧ ev = .list fs ∧ iteZip cb ts fs = .ok zs ∧ v = .list zs)) := by
  rw [tr] at h
  obtain ⟨⟨ct, cv⟩, s0, h0, h'⟩ := bind_inv h
  clear h
  obtain ⟨⟨lt, lv⟩, s1, h1, h''⟩ := bind_inv h'
  clear h'
  obtain ⟨⟨rt, rv⟩, s2, h2, h3⟩ := bind_inv h''
  clear h''
  rcases (run_ite_ok _ _ _ _ _).mp h3 with ⟨_, h4⟩ | ⟨hct, h4⟩
  · obtain ⟨_, _, h5, _⟩ := bind_inv h4
    exact (throw_inv h5).elim
  clear h3
  obtain ⟨cb, _, hcb, h3⟩ := bind_inv h4
  clear h4
  obtain rfl : ct = .bool := Classical.not_not.mp ((Ty.bne_iff ct .bool).not.mp hct)
  obtain rfl := atomOf_ok (lift_inv hcb).1
  refine ⟨cb, lt, lv, rt, rv, s0, s1, s2, h0, h1, h2, ?_⟩
  clear h0 h1 h2 hcb hct
  extract_lets tt tv ev jp tt2 at h3
  have hjp : ∀ u tt' tv' ev' s3, (jp u tt' tv' ev').run s3 = .ok ((t, v), s') → t = tt' ∧
      ((t = .bool ∧ ∃ x y, tv' = .atom x ∧ ev' = .atom y ∧ v = .atom (.ite cb x y)) ∨
       (t ≠ .bool ∧ ∃ ts fs zs, tv' = .list ts ∧ ev' = .list fs ∧ iteZip cb ts fs = .ok zs ∧ v = .list zs)) := by
    intro u tt' tv' ev' s3 hj
    rcases (run_ite_ok _ _ _ _ _).mp hj with ⟨hb, h5⟩ | ⟨hb, h5⟩
    · obtain ⟨x, _, hx, h6⟩ := bind_inv h5
      obtain ⟨y, _, hy, h7⟩ := bind_inv h6
      cases pure_inv h7
      exact ⟨((Ty.beq_iff _ _).mp hb).symm, .inl ⟨rfl, x, y, atomOf_ok (lift_inv hx).1, atomOf_ok (lift_inv hy).1, rfl⟩⟩
    · split at h5
      · obtain ⟨zs, _, hz, h6⟩ := bind_inv h5
        cases pure_inv h6
        exact ⟨rfl, .inr ⟨fun e => hb ((Ty.beq_iff _ _).mpr e), _, _, zs, rfl, rfl, (lift_inv hz).1, rfl⟩⟩
      · exact (throw_inv h5).elim
  clear_value jp
  rcases (run_ite_ok _ _ _ _ _).mp h3 with ⟨hne, h4⟩ | ⟨heq, h4⟩
  · have hne' : lt ≠ rt := (Ty.bne_iff lt rt).mp hne
    split at h4
    · rename_i a b ha hb
      rcases (run_ite_ok _ _ _ _ _).mp h4 with ⟨hab, h5⟩ | ⟨hab, h5⟩
      · obtain ⟨bits, _, hbits, h6⟩ := bind_inv h5
        obtain ⟨rfl, hj⟩ := hjp _ _ _ _ _ h6
        exact ⟨lv, _, .inr ⟨a, b, hne', ha, hb, .inl ⟨hab, rfl, rfl, bits, (lift_inv hbits).1, rfl⟩⟩, hj⟩
      · rcases (run_ite_ok _ _ _ _ _).mp h5 with ⟨hab2, h6⟩ | ⟨hab2, h6⟩
        · obtain ⟨bits, _, hbits, h7⟩ := bind_inv h6
          obtain ⟨rfl, hj⟩ := hjp _ _ _ _ _ h7
          exact ⟨_, rv, .inr ⟨a, b, hne', ha, hb, .inr (.inl ⟨hab2, rfl, rfl, bits, (lift_inv hbits).1, rfl⟩)⟩, hj⟩
        · obtain ⟨rfl, hj⟩ := hjp _ _ _ _ _ h6
          exact ⟨lv, rv, .inr ⟨a, b, hne', ha, hb, .inr (.inr ⟨by omega, rfl, rfl, rfl⟩)⟩, hj⟩
    · obtain ⟨_, _, h5, _⟩ := bind_inv h4
      exact (throw_inv h5).elim
  · have hlr : lt = rt := Classical.not_not.mp ((Ty.bne_iff lt rt).not.mp heq)
    obtain ⟨rfl, hj⟩ := hjp _ _ _ _ _ h4
    exact ⟨lv, rv, .inl ⟨hlr, rfl, rfl, rfl⟩, hj⟩

theorem ite_bits {cb : BExp} {x y : List BExp} {ts fs zs : List Val} (hx : Val.ofBits x = .list ts)
    (hy : Val.ofBits y = .list fs) (hz : iteZip cb ts fs = .ok zs) :
    Val.list zs = Val.list ((List.zipWith (BExp.ite cb) x y).map .atom) := by
  cases hx; cases hy
  rw [iteZip_atoms] at hz
  cases hz
  rfl

/-- the branches of an `IfExp` as they reach the `ITE`: unchanged when they have one type; two `Qint`s are both filled
to the wider width (which leaves the wider one as it is); a `Qchar` against a `Qint` is excluded by `wellT` -/
theorem ite_branches {ρ : QV.Env} {lt rt t : Ty} {lv rv tv ev : Val} {svl svr : TVal}
    (hdl : DenT ρ lt lv svl) (hdr : DenT ρ rt rv svr)
    (hmix1 : isCharO (some svl) = false ∨ isIntO (some svr) = false)
    (hmix2 : isIntO (some svl) = false ∨ isCharO (some svr) = false)
    (hco : (lt = rt ∧ t = lt ∧ tv = lv ∧ ev = rv) ∨
      (∃ a b, lt ≠ rt ∧ lt.size? = some a ∧ rt.size? = some b ∧
        ((b < a ∧ t = lt ∧ tv = lv ∧ ∃ bits, bitsOf rv = .ok bits ∧ ev = Val.ofBits (fill a bits)) ∨
         (a < b ∧ t = rt ∧ ev = rv ∧ ∃ bits, bitsOf lv = .ok bits ∧ tv = Val.ofBits (fill b bits)) ∨
         (a = b ∧ t = lt ∧ tv = lv ∧ ev = rv)))) :
    (isIntO (some svl) = false ∧ lt = rt ∧ t = lt ∧ tv = lv ∧ ev = rv) ∨
    (∃ x y, lt = .qint x.length ∧ lv = Val.ofBits x ∧ svl = .int x.length (val ρ x) ∧
      rt = .qint y.length ∧ rv = Val.ofBits y ∧ svr = .int y.length (val ρ y) ∧
      t = .qint (max x.length y.length) ∧ tv = Val.ofBits (fill (max x.length y.length) x) ∧
      ev = Val.ofBits (fill (max x.length y.length) y)) := by
  rcases hco with ⟨rfl, rfl, rfl, rfl⟩ | ⟨a, b, hne, ha, hb, hcase⟩
  · cases hdl with
    | int x =>
      obtain ⟨y, rfl, hlen, rfl⟩ := denT_qint_inv hdr
      refine .inr ⟨x, y, rfl, rfl, rfl, by rw [hlen], rfl, by rw [hlen], ?_⟩
      rw [hlen, Nat.max_self, fill_of_le (Nat.le_of_eq hlen.symm), fill_of_le (Nat.le_refl _)]
      exact ⟨rfl, rfl, rfl⟩
    | _ => exact .inl ⟨rfl, rfl, rfl, rfl, rfl⟩
  · cases hdl with
    | bool x => cases ha
    | tup _ _ _ _ => cases ha
    | char x hx8 =>
      cases hdr with
      | bool y => cases hb
      | tup _ _ _ _ => cases hb
      | char y hy8 => exact absurd rfl hne
      | int y => simp [isIntO, isCharO] at hmix1
    | int x =>
      cases hdr with
      | bool y => cases hb
      | tup _ _ _ _ => cases hb
      | char y hy8 => simp [isIntO, isCharO] at hmix2
      | int y =>
        cases ha; cases hb
        refine .inr ⟨x, y, rfl, rfl, rfl, rfl, rfl, rfl, ?_⟩
        rcases hcase with ⟨hab, rfl, rfl, bits, hbits, rfl⟩ | ⟨hab, rfl, rfl, bits, hbits, rfl⟩ | ⟨hab, _⟩
        · cases (bitsOf_ofBits y).symm.trans hbits
          rw [Nat.max_eq_left (Nat.le_of_lt hab), fill_of_le (Nat.le_refl _)]
          exact ⟨rfl, rfl, rfl⟩
        · cases (bitsOf_ofBits x).symm.trans hbits
          rw [Nat.max_eq_right (Nat.le_of_lt hab), fill_of_le (Nat.le_refl _)]
          exact ⟨rfl, rfl, rfl⟩
        · exact absurd (by rw [hab]) hne

theorem iteZip_flat {cb : BExp} {ts fs zs : List Val}
    (hlen : (Val.flattenList ts).length = (Val.flattenList fs).length) (hz : iteZip cb ts fs = .ok zs) :
    Val.flattenList zs = List.zipWith (BExp.ite cb) (Val.flattenList ts) (Val.flattenList fs) := by
  obtain ⟨as, bs, hl, rfl, hor⟩ := iteZip_ok cb ts fs zs hz
  rw [flattenList_atoms]
  rcases hor with ⟨h1, h2⟩ | ⟨h1, h2⟩
  · have e1 : Val.flattenList ts = as := by rw [h1, flattenList_atoms]
    rw [hl] at h2
    rw [e1, flatten_of_take fs bs h2 (by rw [← hlen, e1, hl])]
  · have e1 : Val.flattenList fs = bs := by rw [h1, flattenList_atoms]
    rw [← hl] at h2
    rw [e1, flatten_of_take ts as h2 (by rw [hlen, e1, hl])]

theorem soundT_ite (ρ : QV.Env) (env : Front.Env) (σ : TEnv) (c l r : PExp)
    (ihc : SoundT ρ env σ c) (ihl : SoundT ρ env σ l) (ihr : SoundT ρ env σ r) :
    SoundT ρ env σ (.ite c l r) := by
  intro s t v s' hw h
  obtain ⟨cb, lt, lv, rt, rv, s0, s1, s2, h0, h1, h2, tv, ev, hco, hjoin⟩ := tr_ite_inv h
  simp only [wellT, Bool.and_eq_true, Bool.not_eq_true', Bool.or_eq_false_iff, Bool.and_eq_false_iff] at hw
  obtain ⟨⟨⟨hwc, hwl⟩, hwr⟩, hmix1, hmix2⟩ := hw
  obtain ⟨svc, hsc, hdc⟩ := ihc _ _ _ _ hwc h0
  obtain ⟨svl, hsl, hdl⟩ := ihl _ _ _ _ hwl h1
  obtain ⟨svr, hsr, hdr⟩ := ihr _ _ _ _ hwr h2
  obtain ⟨_, hcb, rfl⟩ := denT_bool_inv hdc
  cases hcb
  have hsem : semT σ (.ite c l r) = iteT (.bool (cb.eval ρ)) svl svr := by simp only [semT, hsc, hsl, hsr]
  rw [hsem]
  clear hsem h0 h1 h2 hdc ihc ihl ihr
  rw [hsl, hsr] at hmix1 hmix2
  rcases ite_branches hdl hdr hmix1 hmix2 hco with ⟨hni, rfl, rfl, rfl, rfl⟩ |
      ⟨x, y, rfl, rfl, rfl, rfl, rfl, rfl, rfl, rfl, rfl⟩
  · cases hdl with
    | bool x =>
      obtain ⟨y, rfl, rfl⟩ := denT_bool_inv hdr
      rcases hjoin with ⟨_, _, _, hx, hy, rfl⟩ | ⟨hnb, _⟩
      · cases hx; cases hy
        exact ⟨_, rfl, DenT.mk_bool _ _ (by simp [BExp.eval])⟩
      · exact absurd rfl hnb
    | int x => cases hni
    | char x hx8 =>
      obtain ⟨y, rfl, hy8, rfl⟩ := denT_qchar_inv hdr
      rcases hjoin with ⟨hb, _⟩ | ⟨_, ts, fs, zs, hx, hy, hz, rfl⟩
      · cases hb
      · rw [ite_bits hx hy hz]
        exact ⟨_, rfl, DenT.mk_char (ρ := ρ) (List.zipWith (BExp.ite cb) x y) _
          (by rw [List.length_zipWith, hx8, hy8]; rfl) (val_zipWith_ite ρ cb x y (by omega))⟩
    | tup a sa hwa hba =>
      obtain ⟨b, sb, rfl, rfl, hty, hwb, hbb⟩ := denT_tuple_inv hdr
      rcases hjoin with ⟨hb, _⟩ | ⟨_, ts, fs, zs, hx, hy, hz, rfl⟩
      · cases hb
      cases hx; cases hy
      have hlen : (Val.flattenList a).length = (Val.flattenList b).length :=
        (length_of_evalBits_eq hba).trans (hty ▸ length_of_evalBits_eq hbb).symm
      have hbeq : Ty.beqList (TVal.tyList sa) (TVal.tyList sb) = true := (Ty.beqList_iff _ _).mpr hty.symm
      refine ⟨.tuple (if cb.eval ρ then sa else sb), by simp only [iteT, hbeq, if_true], ?_⟩
      apply DenT.mk_tup
      · cases cb.eval ρ <;> simp [hty]
      · cases cb.eval ρ <;> simp [hwa, hwb]
      · rw [iteZip_flat hlen hz, evalBits_zipWith_ite ρ cb _ _ hlen, hba, hbb]
        cases cb.eval ρ <;> simp
  · obtain ⟨_, ts, fs, zs, hx, hy, hz, rfl⟩ := hjoin.resolve_left fun hbool => by cases hbool.1
    rw [ite_bits hx hy hz]
    exact ⟨_, rfl, DenT.mk_int _ _ _ (by rw [List.length_zipWith, fill_length, fill_length]; omega)
      (by rw [val_zipWith_ite ρ cb _ _ (by rw [fill_length, fill_length]; omega), val_fill, val_fill])⟩

abbrev DenListT (ρ : QV.Env) : List (Ty × Val) → List TVal → Prop :=
  List.Forall₂ fun x sv => DenT ρ x.1 x.2 sv

theorem soundT_list (ρ : QV.Env) (env : Front.Env) (σ : TEnv) (es : List PExp)
    (ih : ∀ e ∈ es, SoundT ρ env σ e) :
    ∀ (s : St) (xs : List (Ty × Val)) (s' : St), wellTList σ es = true →
      (trList Quirks.none env es).run s = .ok (xs, s') →
      ∃ svs, semTList σ es = some svs ∧ DenListT ρ xs svs := by
  induction es with
  | nil =>
    intro s xs s' _ h
    rw [trList, run_pure_ok] at h
    obtain ⟨rfl, _⟩ := h
    exact ⟨[], by simp [semTList], .nil⟩
  | cons e es ihes =>
    intro s xs s' hw h
    rw [trList] at h
    simp only [run_bind_ok, run_pure_ok] at h
    obtain ⟨⟨t1, v1⟩, s1, h1, xs', s2, h2, rfl, _⟩ := h
    simp only [wellTList, Bool.and_eq_true] at hw
    obtain ⟨sv, hs, hd⟩ := ih e (by simp) _ _ _ _ hw.1 h1
    obtain ⟨svs, hss, hds⟩ := ihes (fun e' he' => ih e' (by simp [he'])) _ _ _ hw.2 h2
    exact ⟨sv :: svs, by simp [semTList, hs, hss], .cons hd hds⟩

theorem denListT_atoms {ρ : QV.Env} {xs : List (Ty × Val)} {svs : List TVal} (h : DenListT ρ xs svs) :
    ∀ {as : List BExp}, xs.map (·.2) = as.map Val.atom → svs = as.map fun a => TVal.bool (a.eval ρ) := by
  induction h with
  | nil => intro as hm; cases as <;> simp_all
  | @cons x sv xs svs hd _ ih =>
    intro as hm
    cases as with
    | nil => simp at hm
    | cons a as =>
      simp only [List.map_cons, List.cons.injEq] at hm
      obtain ⟨t, v⟩ := x
      cases hm.1
      cases hd
      rw [List.map_cons, ih hm.2]

theorem boolFoldT_bools (ρ : QV.Env) (isAnd : Bool) : ∀ as : List BExp, as ≠ [] →
    boolFoldT isAnd (as.map fun a => TVal.bool (a.eval ρ)) = some ((unfoldBool isAnd as).eval ρ)
  | [], h => absurd rfl h
  | [a], _ => rfl
  | a :: b :: as, _ => by
    have ih := boolFoldT_bools ρ isAnd (b :: as) (by simp)
    simp only [List.map_cons] at ih ⊢
    rw [boolFoldT, ih]
    · cases isAnd <;> simp [unfoldBool, BExp.eval, evalAnd, evalOr]
    · intro h; cases h

theorem soundT_boolop (ρ : QV.Env) (env : Front.Env) (σ : TEnv) (isAnd : Bool) (vs : List PExp)
    (ih : ∀ e ∈ vs, SoundT ρ env σ e) : SoundT ρ env σ (.boolop isAnd vs) := by
  intro s t v s' hw h
  rw [tr] at h
  simp only [run_bind_ok] at h
  obtain ⟨xs, s1, h1, es, s2, h2, _, s3, _, h4⟩ := h
  obtain ⟨svs, hss, hds⟩ := soundT_list ρ env σ vs ih _ _ _ (by simpa [wellT] using hw) h1
  obtain ⟨as, h5, h6⟩ := atoms_loop xs [] s1 es s2 h2
  simp only [List.nil_append] at h6
  rw [h6] at h4
  simp only [run_ite_ok, run_bind_ok, run_throw_ok, false_and, exists_false, and_false, false_or,
    run_pure_ok] at h4
  obtain ⟨hne, h7, _⟩ := h4
  cases h7
  have hne' : as ≠ [] := by
    intro h0; subst h0; simp at hne
  cases denListT_atoms hds h5
  have := boolFoldT_bools ρ isAnd as hne'
  exact ⟨.bool ((unfoldBool isAnd as).eval ρ), by simp [semT, hss, this], DenT.mk_bool _ _ rfl⟩

theorem denListT_tup {ρ : QV.Env} {xs : List (Ty × Val)} {svs : List TVal} (h : DenListT ρ xs svs) :
    TVal.tyList svs = xs.map (·.1) ∧ TVal.wfList svs = true ∧
      evalBits ρ (Val.flattenList (xs.map (·.2))) = TVal.bitsList svs := by
  induction h with
  | nil => exact ⟨rfl, rfl, rfl⟩
  | cons h1 _ ih =>
    obtain ⟨i1, i2, i3⟩ := ih
    refine ⟨by simp [TVal.tyList, den_ty h1, i1], by simp [TVal.wfList, den_wf h1, i2], ?_⟩
    simp only [List.map_cons, Val.flattenList, evalBits_append, TVal.bitsList, den_bits h1, i3]

theorem soundT_tuple (ρ : QV.Env) (env : Front.Env) (σ : TEnv) (es : List PExp)
    (ih : ∀ e ∈ es, SoundT ρ env σ e) : SoundT ρ env σ (.tuple es) := by
  intro s t v s' hw h
  rw [tr] at h
  simp only [run_bind_ok, run_pure_ok] at h
  obtain ⟨xs, s1, h1, h2, _⟩ := h
  cases h2
  obtain ⟨svs, hss, hds⟩ := soundT_list ρ env σ es ih _ _ _ (by simpa [wellT] using hw) h1
  obtain ⟨i1, i2, i3⟩ := denListT_tup hds
  exact ⟨.tuple svs, by simp [semT, hss], DenT.mk_tup _ _ _ i1 i2 i3⟩


/-! ### tactic abbreviations for a single operator form

Scripts that prove one operator of `BinOp` / `Compare` at a time: for a goal `Sound ρ env σ (.bin op l r)` (the plain
names, over `Den` and `semW`) or `SoundT ρ env σ (.bin op l r)` (the names in `T`, over `DenT` and `semT`), with the
operands' hypotheses `ihl`, `ihr` in the context.  The arguments are the library function, its specification and
the semantic result of the `bool × bool` / `Qint × Qint` / `Qchar` branch.  Nothing calls them: `soundT_bin` and
`soundT_cmp` above treat all operators of a form at once. -/

set_option hygiene false in
/-- common prefix of the `BinOp` cases: both operands translated, both denote -/
macro "bin_start" : tactic => `(tactic| (
  intro s t v s' h
  rw [tr] at h
  simp only [run_bind_ok] at h
  obtain ⟨⟨lt, lv⟩, s1, h1, ⟨rt, rv⟩, s2, h2, h3⟩ := h
  obtain ⟨svl, hsl, hdl⟩ := ihl _ _ _ _ h1
  obtain ⟨svr, hsr, hdr⟩ := ihr _ _ _ _ h2))

set_option hygiene false in
/-- discharges the operand-type combinations in which the translator raises -/
macro "bin_throw" : tactic => `(tactic|
  (simp only [String.reduceEq, imp_self, not_false_eq_true, run_throw_ok] at h3))

set_option hygiene false in
macro "bitwise_case" f:term:max hop:term:max ev:term:max : tactic => `(tactic| (
  bin_start
  cases hdl with
  | bool a =>
    cases hdr with
    | bool b =>
      simp only [String.reduceEq, imp_self, run_pure_ok] at h3
      obtain ⟨h4, _⟩ := h3
      cases h4
      exact ⟨.bool ($f (a.eval ρ) (b.eval ρ)), by simp [semW, hsl, hsr, boolBin],
        Den.mk_bool _ _ (by simp [BExp.eval, $ev:term])⟩
    | int b => bin_throw
  | int a =>
    cases hdr with
    | bool b => bin_throw
    | int b =>
      simp only [String.reduceEq, imp_self, run_bind_ok, run_lift_ok, run_pure_ok, bitsOf_ofBits,
        Except.ok.injEq] at h3
      obtain ⟨_, _, ⟨rfl, rfl⟩, _, _, ⟨rfl, rfl⟩, h4, rfl⟩ := h3
      cases h4
      refine ⟨.int (max a.length b.length) (natBitwise $f (max a.length b.length) (val ρ a) (val ρ b)),
        by simp [semW, hsl, hsr, intBin], ?_⟩
      rw [ite_gt_qint]
      exact Den.mk_int _ _ _ (bitwiseGeneric_length _ a b) (val_bitwiseGeneric ρ _ _ ($hop ρ) a b)))

set_option hygiene false in
/-- the `Qint × Qint` branch of `Compare`: whatever events are logged, the result is the library
comparator `qf` on the two bit lists -/
macro "cmp_int" qf:term:max spec:term:max res:term:max : tactic => `(tactic| (
  simp only [String.reduceEq, imp_self, Ty.size?, run_bind_ok, run_lift_ok, bitsOf_ofBits,
    Except.ok.injEq] at h3
  obtain ⟨_, _, ⟨rfl, rfl⟩, _, _, ⟨rfl, rfl⟩, h4⟩ := h3
  simp only [isQint, Bool.not_true, Bool.false_eq_true, if_false] at h4
  have h5 : (t, v) = (Ty.bool, Val.atom ($qf a b)) := by
    split at h4
    · simp only [run_bind_ok, run_pure_ok] at h4
      obtain ⟨_, _, _, _, _, ⟨rfl, _⟩, h6, _⟩ := h4
      exact h6
    · simp only [run_bind_ok, run_pure_ok] at h4
      obtain ⟨_, _, ⟨rfl, _⟩, h6, _⟩ := h4
      exact h6
  cases h5
  exact ⟨.bool $res, by simp [semW, hsl, hsr, cmpNat], Den.mk_bool _ _ ($spec ρ a b)⟩))

set_option hygiene false in
/-- common prefix of the `BinOp` cases: both operands translated, both denote -/
macro "bin_startT" : tactic => `(tactic| (
  intro s t v s' hw h
  rw [tr] at h
  simp only [run_bind_ok] at h
  obtain ⟨⟨lt, lv⟩, s1, h1, ⟨rt, rv⟩, s2, h2, h3⟩ := h
  simp only [wellT, Bool.and_eq_true] at hw
  obtain ⟨svl, hsl, hdl⟩ := ihl _ _ _ _ hw.1 h1
  obtain ⟨svr, hsr, hdr⟩ := ihr _ _ _ _ hw.2 h2))

set_option hygiene false in
/-- discharges the operand-type combinations in which the translator raises -/
macro "bin_throwT" : tactic => `(tactic|
  (simp only [String.reduceEq, imp_self, not_false_eq_true, run_throw_ok] at h3))

set_option hygiene false in
macro "bitwise_caseT" f:term:max hop:term:max ev:term:max : tactic => `(tactic| (
  bin_startT
  cases hdl with
  | bool a =>
    cases hdr with
    | bool b =>
      simp only [String.reduceEq, imp_self, run_pure_ok] at h3
      obtain ⟨h4, _⟩ := h3
      cases h4
      exact ⟨.bool ($f (a.eval ρ) (b.eval ρ)), by simp [semT, hsl, hsr, boolBin, SVal.toT],
        DenT.mk_bool _ _ (by simp [BExp.eval, $ev:term])⟩
    | int b => bin_throwT
    | char b hb => bin_throwT
    | tup b sb _ _ => bin_throwT
  | char a ha => cases hdr <;> bin_throwT
  | tup a sa _ _ => cases hdr <;> bin_throwT
  | int a =>
    cases hdr with
    | bool b => bin_throwT
    | char b hb => bin_throwT
    | tup b sb _ _ => bin_throwT
    | int b =>
      simp only [String.reduceEq, imp_self, run_bind_ok, run_lift_ok, run_pure_ok, bitsOf_ofBits,
        Except.ok.injEq] at h3
      obtain ⟨_, _, ⟨rfl, rfl⟩, _, _, ⟨rfl, rfl⟩, h4, rfl⟩ := h3
      cases h4
      refine ⟨.int (max a.length b.length) (natBitwise $f (max a.length b.length) (val ρ a) (val ρ b)),
        by simp [semT, hsl, hsr, intBin, SVal.toT], ?_⟩
      rw [ite_gt_qint]
      exact DenT.mk_int _ _ _ (bitwiseGeneric_length _ a b) (val_bitwiseGeneric ρ _ _ ($hop ρ) a b)))

set_option hygiene false in
/-- the `Qint × Qint` branch of `Compare` -/
macro "cmp_intT" qf:term:max spec:term:max res:term:max : tactic => `(tactic| (
  simp only [String.reduceEq, imp_self, Ty.size?, run_bind_ok, run_lift_ok, bitsOf_ofBits,
    Except.ok.injEq] at h3
  obtain ⟨_, _, ⟨rfl, rfl⟩, _, _, ⟨rfl, rfl⟩, h4⟩ := h3
  simp only [isQint, Bool.not_true, Bool.false_eq_true, if_false] at h4
  have h5 : (t, v) = (Ty.bool, Val.atom ($qf a b)) := by
    split at h4
    · simp only [run_bind_ok, run_pure_ok] at h4
      obtain ⟨_, _, _, _, _, ⟨rfl, _⟩, h6, _⟩ := h4
      exact h6
    · simp only [run_bind_ok, run_pure_ok] at h4
      obtain ⟨_, _, ⟨rfl, _⟩, h6, _⟩ := h4
      exact h6
  cases h5
  exact ⟨.bool $res, by simp [semT, hsl, hsr, cmpT, cmpNat], DenT.mk_bool _ _ ($spec ρ a b)⟩))

set_option hygiene false in
/-- `Qchar` on the left (`Qchar` or `Qint` on the right), `==` / `!=`: `QintImp.eq / neq` on the bit lists -/
macro "char_eqT" qf:term:max spec:term:max res:term:max : tactic => `(tactic| (
  simp only [String.reduceEq, imp_self, Ty.size?, run_bind_ok, run_lift_ok, bitsOf_ofBits,
    Except.ok.injEq] at h3
  obtain ⟨_, _, ⟨rfl, rfl⟩, _, _, ⟨rfl, rfl⟩, h4⟩ := h3
  have hq : Quirks.none.charEqZip = false := rfl
  have h5 : (t, v) = (Ty.bool, Val.atom ($qf a b)) := by
    simp only [hq, Bool.false_eq_true, if_false] at h4
    split at h4
    · simp only [run_bind_ok, run_pure_ok] at h4
      obtain ⟨_, _, _, h6, _⟩ := h4
      exact h6
    · simp only [run_pure_ok] at h4
      exact h4.1
  cases h5
  exact ⟨.bool $res, by simp [semT, hsl, hsr, cmpT, cmpEqNat], DenT.mk_bool _ _ ($spec ρ a b)⟩))

end QV.Sem
