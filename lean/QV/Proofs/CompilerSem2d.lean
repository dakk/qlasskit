import QV.Proofs.CompilerSem2c
import QV.Model.CompilerClass
namespace QV.Compiler
open QV

variable {Kn : String → Prop} {kv : String → Bool} {scope : List String} {ρ : Env} {σ0 : FState} {wo : Bool}

/-- the gates of `compile_or`: `d ^= ⋁ es`, with the condition on the controls that is known before the marks
are set (see `node_fin`) -/
theorem orGates_semK {erets es : List Nat} {d : Nat} {u : Unit} {s t : CState}
    (h : (orGatesM d erets es).run s = .ok (u, t))
    (hp : PreK Kn kv σ0 s) (hd : d ∉ es) (hpd : PrivK Kn s d) (hes : ∀ c ∈ es, ¬ Avail s c) :
    PreK Kn kv σ0 t ∧
      SemK Kn σ0 wo (fun f c => c ∈ t.qc.marked ∨ (c ∈ es ∧ f c = cur σ0 s c)) (· = d) NoK
        (fun m => Avail s m ∧ ¬ Avail t m ∧ m ≠ d) s t ∧
      cur σ0 t d = Bool.xor (cur σ0 s d) (es.any (cur σ0 s)) ∧ (wo = false → es ≠ [] → Tgt t d) := by
  unfold orGatesM at h
  rcases run_ite_ok.mp h with ⟨hle, h⟩ | ⟨hnle, h⟩
  · obtain ⟨u1, s1, hcx, h1⟩ := run_bind_ok.mp h
    rcases es with _ | ⟨q1, _ | ⟨q2, _ | ⟨q3, es⟩⟩⟩
    · unfold cxAll at hcx
      obtain ⟨_, rfl⟩ := run_pure_ok.mp hcx
      rcases run_ite_ok.mp h1 with ⟨hc, _⟩ | ⟨_, h1⟩
      · simp at hc
      · obtain ⟨_, rfl⟩ := run_pure_ok.mp h1
        exact ⟨hp, SemK.refl _, by simp, fun _ hne => absurd rfl hne⟩
    · unfold cxAll at hcx
      obtain ⟨u2, s2, hc1, hc2⟩ := run_bind_ok.mp hcx
      unfold cxAll at hc2
      obtain ⟨_, rfl⟩ := run_pure_ok.mp hc2
      rcases run_ite_ok.mp h1 with ⟨hc, _⟩ | ⟨_, h1⟩
      · simp at hc
      · obtain ⟨_, rfl⟩ := run_pure_ok.mp h1
        obtain ⟨hp1, a1, sem, tg⟩ := cx_own (wo := wo)
          (Q := fun f c => c ∈ t.qc.marked ∨ (c ∈ [q1] ∧ f c = cur σ0 s c)) hc1 hp hpd
          (hes q1 List.mem_cons_self) (fun _ => Or.inr ⟨List.mem_cons_self, rfl⟩)
        exact ⟨hp1, sem.mono (fun _ _ h' => h') (fun _ h' => h') (fun _ h' => h'.elim),
          by rw [a1.cur_eq rfl σ0]; simp, fun _ _ => tg⟩
    · unfold cxAll at hcx
      obtain ⟨u2, s2, hc1, hc2⟩ := run_bind_ok.mp hcx
      unfold cxAll at hc2
      obtain ⟨u3, s3, hc3, hc4⟩ := run_bind_ok.mp hc2
      unfold cxAll at hc4
      obtain ⟨_, rfl⟩ := run_pure_ok.mp hc4
      rw [if_pos (by simp)] at h1
      have hblock : StateT.run (do cx q1 d; cx q2 d; mcx [q1, q2] d : M Unit) s = .ok (u, t) :=
        run_bind_ok.mpr ⟨u2, s2, hc1, run_bind_ok.mpr ⟨u3, s1, hc3, h1⟩⟩
      obtain ⟨hpt, sem, tg, hv⟩ := orGate_semK (wo := wo)
        (Q := fun f c => c ∈ t.qc.marked ∨ (c ∈ [q1, q2] ∧ f c = cur σ0 s c)) hblock hp hpd
        (fun e => hd (e ▸ List.mem_cons_self)) (fun e => hd (e ▸ List.mem_cons_of_mem _ List.mem_cons_self))
        (hes q1 List.mem_cons_self) (hes q2 (List.mem_cons_of_mem _ List.mem_cons_self))
        (fun _ f hf1 hf2 => ⟨Or.inr ⟨List.mem_cons_self, hf1⟩,
          Or.inr ⟨List.mem_cons_of_mem _ List.mem_cons_self, hf2⟩⟩)
      exact ⟨hpt, sem.mono (fun _ _ h' => h') (fun _ h' => h') (fun _ h' => h'.elim),
        by rw [hv]; simp, fun _ _ => tg⟩
    · simp at hle
  · obtain ⟨hpt, sem, hv, tg⟩ := orWide_semK (wo := wo)
      (Q := fun f c => c ∈ t.qc.marked ∨ (c ∈ es ∧ f c = cur σ0 s c)) h (by omega) hd hp hpd hes
      (fun _ _ c hc => Or.inl hc) (fun _ c hc _ hf => Or.inr ⟨hc, hf⟩)
    exact ⟨hpt, sem, hv, fun _ _ => tg⟩

theorem exprSemK_or {args : List BExp} (ih : ArgsSemK Kn kv ρ σ0 wo args) (hne : wo = false → args ≠ []) :
    ExprSemK Kn kv scope ρ σ0 wo (.or args) := by
  intro dest sym a s s' h hp hcache hd _ _
  rw [compileExpr_or] at h
  obtain ⟨erets, s2, hargs, h2⟩ := run_bind_ok.mp (cachedM_miss h (fun p hp' => hcache p hp' _ List.mem_cons_self))
  obtain ⟨hp2, sem1, hvals, hb, _⟩ := ih hargs hp (fun p hp' c hc => hcache p hp' c (List.mem_cons_of_mem _ hc))
  obtain ⟨d, s3, hdest, h3⟩ := run_bind_ok.mp h2
  have D := dest_semK hp2 hd sem1 hb hdest
  rw [if_neg (by simpa using D.notArg), argQubits_of_notMem D.notArg, argList_of_notMem D.notArg] at h3
  obtain ⟨u1, t, hg, k1⟩ := run_bind_ok.mp h3
  obtain ⟨hpt, semg, hv, htd⟩ := orGates_semK (wo := wo) hg D.pre (fun h' => D.notArg (mem_sortDedup.mp h'))
    D.priv (fun c hc => D.args c (mem_sortDedup.mp hc))
  refine node_fin hp hd hp2 sem1 (hW1 := fun _ h => h) (hK1 := fun c hc => List.mem_cons_of_mem _ hc)
    (hself := List.mem_cons_self) (hMk1 := fun _ h => h) (hb := hb) (hes := fun c hc => mem_sortDedup.mp hc) D hpt
    semg (hv := ?_) (htd := fun hwo => htd hwo ?_) k1
  · rw [hv, any_sortDedup, D.vals, any_of_map hvals]
    rfl
  · -- with `wo = false` there is an argument, hence an argument qubit
    exact sortDedup_ne_nil hvals (hne hwo)

/-! `wfExp scope lax` (`QV/Model/Compiler.lean`) carries, for `lax = false`, the restriction the unrepaired compiler
needed: an `Or` has one or two arguments or only compound ones (De Morgan's `X` gates on a symbol's qubit were
not undone by the inline `uncompute`).  The or-chain of the repaired compiler writes no argument qubit, so the
proofs go through on `wfExpW`, the same class without that restriction. -/

mutual
def wfExpW (scope : List String) (lax : Bool) : BExp → Bool
  | .sym n => scope.contains n
  | .tt => true
  | .ff => true
  | .not a => wfExpW scope lax a
  | .and l => wfExpListW scope lax l
  | .or l => wfExpListW scope lax l && (lax || !l.isEmpty)
  | .xor l => wfExpListW scope lax l && l.all (fun a => !xorArgBad a) && (lax || !l.isEmpty)
  | _ => false
def wfExpListW (scope : List String) (lax : Bool) : List BExp → Bool
  | [] => true
  | a :: as => wfExpW scope lax a && wfExpListW scope lax as
end

mutual
theorem wfExpW_of_wfExp {lax : Bool} : ∀ e : BExp, wfExp scope lax e = true → wfExpW scope lax e = true
  | .sym _, h => h
  | .tt, _ => rfl
  | .ff, _ => rfl
  | .not a, h => wfExpW_of_wfExp a h
  | .and l, h => wfExpListW_of_wfExpList l h
  | .or l, h => by
    obtain ⟨h1, h2⟩ := Bool.and_eq_true_iff.mp h
    refine Bool.and_eq_true_iff.mpr ⟨wfExpListW_of_wfExpList l h1, ?_⟩
    cases lax with
    | true => rfl
    | false => exact (Bool.and_eq_true_iff.mp h2).1
  | .xor l, h => by
    obtain ⟨h12, h3⟩ := Bool.and_eq_true_iff.mp h
    obtain ⟨h1, h2⟩ := Bool.and_eq_true_iff.mp h12
    exact Bool.and_eq_true_iff.mpr ⟨Bool.and_eq_true_iff.mpr ⟨wfExpListW_of_wfExpList l h1, h2⟩, h3⟩
  | .ite _ _ _, h => nomatch h
  | .imp _ _, h => nomatch h
theorem wfExpListW_of_wfExpList {lax : Bool} : ∀ l : List BExp, wfExpList scope lax l = true →
    wfExpListW scope lax l = true
  | [], _ => rfl
  | a :: as, h => by
    obtain ⟨h1, h2⟩ := Bool.and_eq_true_iff.mp h
    exact Bool.and_eq_true_iff.mpr ⟨wfExpW_of_wfExp a h1, wfExpListW_of_wfExpList as h2⟩
end

theorem xorSemK_nil : XorSemK Kn kv ρ σ0 wo [] := by
  intro d a s s' h hp _ _
  unfold compileXorArgs at h
  obtain ⟨rfl, rfl⟩ := run_pure_ok.mp h
  exact ⟨rfl, hp, SemK.refl _, by simp [evalXor], fun _ h => absurd rfl h⟩

theorem xorRest_semK {a : BExp} {as : List BExp} {d q : Nat} {v : Bool} {s s1 s' : CState} {W1 : Nat → Prop}
    {K1 : BExp → Prop} {Mk1 : Nat → Prop} (ihs : XorSemK Kn kv ρ σ0 wo as)
    (hdis : ∀ x ∈ compKeys a, ∀ y ∈ compKeysList as, (x == y) = false)
    (hcache : ∀ p ∈ s.expq, ∀ c ∈ compKeysList (a :: as), (p.1 == c) = false)
    (hpd : PrivK Kn s d) (hp1 : PreK Kn kv σ0 s1) (sem1 : SemK Kn σ0 wo (CtlK Kn kv s1) W1 K1 Mk1 s s1)
    (hW1 : ∀ q, W1 q → q = d) (hK1 : ∀ c, K1 c → c ∈ compKeys a) (hMk1 : ∀ m, Mk1 m → Avail s m ∧ ¬ Avail s1 m)
    (hv1 : cur σ0 s1 d = Bool.xor (cur σ0 s d) v) (hva : Bool.xor v (evalXor ρ as) = evalXor ρ (a :: as))
    (htg : wo = false → Tgt s1 d) (h : (compileXorArgs as d).run s1 = .ok (q, s')) :
    q = d ∧ PreK Kn kv σ0 s' ∧
      SemK Kn σ0 wo (CtlK Kn kv s') (· = d) (· ∈ compKeysList (a :: as))
        (fun m => Avail s m ∧ ¬ Avail s' m) s s' ∧
      cur σ0 s' d = Bool.xor (cur σ0 s d) (evalXor ρ (a :: as)) ∧ (wo = false → a :: as ≠ [] → Tgt s' d) := by
  obtain ⟨rfl, hp2, sem2, hv2, _⟩ := ihs d h hp1 (cache_step hcache sem1.keys hK1 hdis) (hpd.next sem1)
  exact ⟨rfl, hp2, sem1.seq sem2 (fun q h => h.elim (hW1 q) id)
    (fun c h => h.elim (fun h => List.mem_append_left _ (hK1 c h)) (List.mem_append_right _)) hMk1 (fun _ h => h),
    by rw [hv2, hv1, Bool.xor_assoc, hva], fun hwo _ => (htg hwo).of_sem sem2⟩

theorem xorSemK_cons {a : BExp} {as : List BExp} (hsc : ∀ n ∈ scope, Kn n ∧ kv n = ρ n)
    (hwf : wfExpW scope wo a = true) (hbad : xorArgBad a = false)
    (iha : ExprSemK Kn kv scope ρ σ0 wo a) (ihi : ExprSemK Kn kv scope ρ σ0 wo (stripNot a))
    (ihs : XorSemK Kn kv ρ σ0 wo as)
    (hdis : ∀ x ∈ compKeys a, ∀ y ∈ compKeysList as, (x == y) = false) :
    XorSemK Kn kv ρ σ0 wo (a :: as) := by
  intro d q s s' h hp hcache hpd
  -- a compound `b` (`a` itself, or the argument of the `Not` that `a` is) accumulated into `d`
  have acc : ∀ {b : BExp}, ExprSemK Kn kv scope ρ σ0 wo b → isLeaf b = false → (∀ c ∈ compKeys b, c ∈ compKeys a) →
      ∀ {d' : Nat} {s1 : CState}, (compileExpr b (some d) none).run s = .ok (d', s1) →
      ExprPostK Kn kv ρ σ0 wo b (some d) s s1 d' := fun ihb hns hsub _ _ h1 =>
    ihb (some d) none h1 hp (fun p hp' c hc => hcache p hp' c (List.mem_append_left _ (hsub c hc)))
      (fun _ h0 => Option.some.inj h0 ▸ hpd) (fun _ hy => nomatch hy) (fun hs => by rw [hns] at hs; cases hs)
  have step : isLeaf a = false → (xorStepM a as d).run s = .ok (q, s') →
      q = d ∧ PreK Kn kv σ0 s' ∧
        SemK Kn σ0 wo (CtlK Kn kv s') (· = d) (· ∈ compKeysList (a :: as))
          (fun m => Avail s m ∧ ¬ Avail s' m) s s' ∧
        cur σ0 s' d = Bool.xor (cur σ0 s d) (evalXor ρ (a :: as)) ∧ (wo = false → a :: as ≠ [] → Tgt s' d) := by
    intro hns h
    obtain ⟨d', s1, h1, h2⟩ := run_bind_ok.mp h
    obtain ⟨hp1, sem1, _, hv1⟩ := acc iha hns (fun _ hc => hc) h1
    obtain ⟨rfl, hval, htg⟩ := hv1 d rfl
    dsimp only at h2
    rw [if_neg (by simp)] at h2
    exact xorRest_semK ihs hdis hcache hpd hp1 sem1 (fun _ h => (Option.some.inj h).symm) (fun _ h => h)
      (fun _ h => ⟨h.1, h.2.1⟩) hval rfl htg h2
  rw [compileXorArgs_cons] at h
  split at h
  · next n =>
    obtain ⟨q0, s1, hl, h1⟩ := run_bind_ok.mp h
    obtain ⟨rfl, hq0, _⟩ := lookup_ok hl hp.good
    have hn : n ∈ scope := List.contains_iff_mem.mp hwf
    have hk : Kn n := (hsc n hn).1
    have hv0 := (hp.tbl n q0 hk hq0).2.2
    rw [if_neg (by simpa using fun e : q0 = d => hpd.2 n hk (e ▸ hq0))] at h1
    obtain ⟨u, s2, hcx, h2⟩ := run_bind_ok.mp h1
    obtain ⟨hp2, ac, semc, tgc⟩ := cx_own (wo := wo) (Q := CtlK Kn kv s2) hcx hp hpd (hp.sym_notAvail hk hq0)
      (fun _ => Or.inr ⟨n, hk, by rw [(cx_run hcx).qmap]; exact hq0, hv0⟩)
    refine xorRest_semK ihs hdis hcache hpd hp2 semc (fun _ h => h) (fun _ h => h.elim) (fun _ h => h.elim)
      (v := ρ n) ?_ rfl (fun _ => tgc) h2
    rw [ac.cur_eq rfl σ0]
    simp only [List.all_cons, List.all_nil, Bool.and_true]
    rw [hv0, (hsc n hn).2]
  · next inner =>
    split at h
    · exact step rfl h
    · next hs =>
      -- `Not` of a compound argument: accumulate the argument, then `X`
      have hns : isLeaf inner = false := by
        cases inner with
        | tt | ff => exact nomatch hbad
        | sym n => exact absurd rfl hs
        | _ => rfl
      obtain ⟨d', s1, h1, h2⟩ := run_bind_ok.mp h
      obtain ⟨hp1, sem1, _, hv1⟩ := acc ihi hns (fun c hc => List.mem_cons_of_mem _ hc) h1
      obtain ⟨rfl, hval, htg⟩ := hv1 d rfl
      dsimp only at h2
      rw [if_neg (by simp)] at h2
      obtain ⟨u, s2, hx, h3⟩ := run_bind_ok.mp h2
      obtain ⟨hp2, ax, semx, _⟩ := xGate_own (wo := wo) (Q := CtlK Kn kv s2) hx hp1 (hpd.next sem1)
      refine xorRest_semK ihs hdis hcache hpd hp2 ((sem1.monoQ (CtlK.of_sem semx)).trans' semx)
        (fun _ h => h.elim (fun h => (Option.some.inj h).symm) id)
        (fun c h => h.elim (List.mem_cons_of_mem _) False.elim)
        (fun m h => h.elim (fun h => ⟨h.1, fun hm => h.2.1 (semx.avail m hm)⟩) False.elim)
        (v := !inner.eval ρ) ?_ (by simp [evalXor, BExp.eval]) (fun hwo => (htg hwo).of_sem semx) h3
      rw [ax.cur_eq rfl σ0, hval]
      simp only [List.all_nil, Bool.xor_true]
      rw [bnot_xor]
      rfl
  · next hsym _ =>
    refine step ?_ h
    cases a with
    | tt | ff => exact nomatch hbad
    | sym n => exact absurd rfl (hsym n)
    | _ => rfl

theorem exprSemK_xor {args : List BExp} (ih : XorSemK Kn kv ρ σ0 wo args) (hne : wo = false → args ≠ []) :
    ExprSemK Kn kv scope ρ σ0 wo (.xor args) := by
  intro dest sym a s s' h hp hcache hd _ _
  rw [compileExpr_xor] at h
  obtain ⟨d, s2, hdest, h1⟩ := run_bind_ok.mp (cachedM_miss h (fun p hp' => hcache p hp' _ List.mem_cons_self))
  have D := dest_semK (wo := wo) (erets := []) hp hd (SemK.refl (Q := CtlK Kn kv s) (W := NoQ) (K := NoK)
    (Mk := NoQ) s) (fun _ hq => nomatch hq) hdest
  obtain ⟨d', s3, hx, h2⟩ := run_bind_ok.mp h1
  obtain ⟨rfl, hp3, sem1, hv, htg⟩ := ih d hx D.pre (fun p hp' c hc =>
    ((D.sem (CtlK Kn kv s2)).keys p hp').elim
      (fun ⟨p0, hp0, e0⟩ => e0 ▸ hcache p0 hp0 c (List.mem_cons_of_mem _ hc)) False.elim) D.priv
  obtain ⟨rfl, hp4, sem4, hc4⟩ := cacheResult_semK (wo := wo) (Q := CtlK Kn kv s') h2 hp3
    (notAvail_lt (fun h' => D.priv.1 (sem1.avail _ h')))
  have tail := ((D.sem (CtlK Kn kv s')).trans' (sem1.monoQ (CtlK.of_sem sem4))).trans' sem4
  refine ExprPostK.of_tail hp4 (SemK.refl (Q := CtlK Kn kv s) (W := NoQ) (K := NoK) (Mk := NoQ) s) tail
    (hW1 := fun _ h => h) (hW2 := fun _ h => h.elim (·.elim False.elim id) False.elim) (hK := ?_)
    (hMk1 := fun _ h => h.elim) (hMk2 := ?_)
    (hnav := fun h' => D.priv.1 ((sem1.monoQ (CtlK.of_sem sem4)).trans' sem4 |>.avail a h'))
    (htg := fun hwo => (htg hwo (hne hwo)).of_sem sem4) (hcase := ?_)
  · rintro c (h' | ((h' | h') | rfl))
    · exact h'.elim
    · exact h'.elim
    · exact List.mem_cons_of_mem _ h'
    · exact List.mem_cons_self
  · rintro m ((h' | ⟨hav2, hnav⟩) | h')
    · exact h'.elim
    · exact ⟨(D.sem (CtlK Kn kv s')).avail m hav2, fun hm => hnav (sem4.avail m hm),
        fun e => D.priv.1 (e ▸ hav2)⟩
    · exact h'.elim
  · have hval : cur σ0 s' a = Bool.xor (cur σ0 s a) ((BExp.xor args).eval ρ) := by rw [hc4, hv, D.vals]; rfl
    rcases D.case with hsome | ⟨hnone, hava, hanc, hz⟩
    · exact Or.inl ⟨hsome, hval⟩
    · exact Or.inr ⟨hnone, hava, sem4.akeep a (sem1.akeep a hanc), by rw [hval, hz, Bool.false_xor]⟩

theorem wf_or_cond {l : List BExp} (h : wfExpW scope wo (.or l) = true) :
    wfExpListW scope wo l = true ∧ (wo = false → l ≠ []) := by
  obtain ⟨h1, h2⟩ := Bool.and_eq_true_iff.mp h
  refine ⟨h1, fun hwo hl => ?_⟩
  rw [hwo, hl] at h2
  cases h2

theorem wf_xor_cond {l : List BExp} (h : wfExpW scope wo (.xor l) = true) :
    wfExpListW scope wo l = true ∧ (∀ a ∈ l, xorArgBad a = false) ∧ (wo = false → l ≠ []) := by
  obtain ⟨h12, h3⟩ := Bool.and_eq_true_iff.mp h
  obtain ⟨h1, h2⟩ := Bool.and_eq_true_iff.mp h12
  refine ⟨h1, fun a ha => by simpa using List.all_eq_true.mp h2 a ha, fun hwo hl => ?_⟩
  rw [hwo, hl] at h3
  cases h3

theorem wf_cons {a : BExp} {as : List BExp} (h : wfExpListW scope wo (a :: as) = true) :
    wfExpW scope wo a = true ∧ wfExpListW scope wo as = true :=
  Bool.and_eq_true_iff.mp h

theorem wfExp_strip {a : BExp} (h : wfExpW scope wo a = true) : wfExpW scope wo (stripNot a) = true := by
  cases a <;> exact h

theorem distinct_strip2 {a : BExp} (h : Distinct (compKeys a)) : Distinct (compKeys (stripNot a)) := by
  cases a with
  | not i => exact distinct_tail (e := .not i) h
  | _ => exact h

def KConst (Kn : String → Prop) (kv : String → Bool) : Prop :=
  (Kn "TRUE" ∧ kv "TRUE" = true) ∧ (Kn "FALSE" ∧ kv "FALSE" = false)

theorem hasConst_strip {a : BExp} (h : hasConst (stripNot a) = true) : hasConst a = true := by
  cases a <;> exact h

/-- `scope`: the names an expression may read, all known with the value `ρ` gives them; the constants have to be
known only where they occur -/
theorem compileSemK (hsc : ∀ n ∈ scope, Kn n ∧ kv n = ρ n) :
    (∀ e : BExp, wfExpW scope wo e = true → (hasConst e = true → KConst Kn kv) → Distinct (compKeys e) →
      ExprSemK Kn kv scope ρ σ0 wo e) ∧
    (∀ as : List BExp, wfExpListW scope wo as = true → (hasConstList as = true → KConst Kn kv) →
      Distinct (compKeysList as) → ArgsSemK Kn kv ρ σ0 wo as) ∧
    (∀ as : List BExp, wfExpListW scope wo as = true → (hasConstList as = true → KConst Kn kv) →
      (∀ x ∈ as, xorArgBad x = false) → Distinct (compKeysList as) → XorSemK Kn kv ρ σ0 wo as) :=
  compile_induction (fun _ hc _ => exprSemK_ff (hc rfl).2) (fun _ hc _ => exprSemK_tt (hc rfl).1)
    (fun n hwf _ _ => exprSemK_sym n (hsc n (List.contains_iff_mem.mp hwf)))
    (fun _ _ _ hwf _ _ => nomatch hwf) (fun _ _ hwf _ _ => nomatch hwf)
    (fun x ih hwf hc hd =>
      have hwf' : wfExpW scope wo x = true := hwf
      exprSemK_not (fun n hn => by subst hn; exact List.contains_iff_mem.mp hwf') (ih hwf' hc (distinct_tail hd)))
    (fun l ih hwf hc hd => exprSemK_and (ih hwf hc (distinct_tail hd)))
    (fun l ih hwf hc hd => exprSemK_or (ih (wf_or_cond hwf).1 hc (distinct_tail hd)) (wf_or_cond hwf).2)
    (fun l ih hwf hc hd =>
      exprSemK_xor (ih (wf_xor_cond hwf).1 hc (wf_xor_cond hwf).2.1 (distinct_tail hd)) (wf_xor_cond hwf).2.2)
    (fun _ _ _ => argsSemK_nil)
    (fun a l iha ihs hwf hc hd =>
      have hs := distinct_append.mp hd
      argsSemK_cons (iha (wf_cons hwf).1 (fun h => hc (by simp [hasConstList, h])) hs.1)
        (ihs (wf_cons hwf).2 (fun h => hc (by simp [hasConstList, h])) hs.2.1) hs.2.2)
    (fun _ _ _ _ => xorSemK_nil)
    (fun a l iha ihi ihs hwf hc hb hd =>
      have hs := distinct_append.mp hd
      have hca : hasConst a = true → KConst Kn kv := fun h => hc (by simp [hasConstList, h])
      xorSemK_cons hsc (wf_cons hwf).1 (hb _ List.mem_cons_self) (iha (wf_cons hwf).1 hca hs.1)
        (ihi (wfExp_strip (wf_cons hwf).1) (fun h => hca (hasConst_strip h)) (distinct_strip2 hs.1))
        (ihs (wf_cons hwf).2 (fun h => hc (by simp [hasConstList, h]))
          (fun x hx => hb x (List.mem_cons_of_mem _ hx)) hs.2.1) hs.2.2)

theorem exprSemK (hsc : ∀ n ∈ scope, Kn n ∧ kv n = ρ n) : ∀ e : BExp, wfExpW scope wo e = true →
    (hasConst e = true → KConst Kn kv) → Distinct (compKeys e) → ExprSemK Kn kv scope ρ σ0 wo e :=
  (compileSemK hsc).1
theorem argsSemK (hsc : ∀ n ∈ scope, Kn n ∧ kv n = ρ n) : ∀ as : List BExp, wfExpListW scope wo as = true →
    (hasConstList as = true → KConst Kn kv) → Distinct (compKeysList as) → ArgsSemK Kn kv ρ σ0 wo as :=
  (compileSemK hsc).2.1
theorem xorSemK (hsc : ∀ n ∈ scope, Kn n ∧ kv n = ρ n) : ∀ as : List BExp, wfExpListW scope wo as = true →
    (hasConstList as = true → KConst Kn kv) → (∀ x ∈ as, xorArgBad x = false) →
    Distinct (compKeysList as) → XorSemK Kn kv ρ σ0 wo as :=
  (compileSemK hsc).2.2

theorem known_sc (hs : ∀ m ∈ scope, reservedName m = false) : ∀ n ∈ scope, Known scope n ∧ kval ρ n = ρ n :=
  fun _ hn => ⟨Or.inl hn, kval_scope hs hn⟩

theorem known_const : KConst (Known scope) (kval ρ) :=
  ⟨⟨Or.inr (Or.inl rfl), kval_TRUE⟩, ⟨Or.inr (Or.inr rfl), kval_FALSE⟩⟩

theorem argsSem2 : ∀ as : List BExp, wfExpListW scope wo as = true → Distinct (compKeysList as) →
      ArgsSem2 scope ρ σ0 wo as := by
  intro as hwf hd rs s s' hr hp hc
  exact ArgsSem2.ofK (argsSemK (known_sc hp.scopeOK) as hwf (fun _ => known_const) hd) hr hp hc
theorem xorSem2 : ∀ as : List BExp, wfExpListW scope wo as = true → (∀ x ∈ as, xorArgBad x = false) →
      Distinct (compKeysList as) → XorSem2 scope ρ σ0 wo as := by
  intro as hwf hb hd d a s s' hr hp hc hpd
  exact XorSem2.ofK (xorSemK (known_sc hp.scopeOK) as hwf (fun _ => known_const) hb hd) d hr hp hc hpd

end QV.Compiler
