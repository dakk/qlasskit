import QV.Model.Tools
import QV.Proofs.BExp
import QV.Proofs.ListAux
namespace QV.Tools

/-! ### `QV.Proofs.BExp` restated for `extend`; only `subst_eval` is used below -/

/-- the environment in which `e` evaluates as `e.subst σ` does in `ρ`: a substituted symbol is overridden by the value
of its term (nothing is extended).  Definitionally `BExp.substEnv`. -/
def extend (σ : String → Option BExp) (ρ : Env) : Env := fun x =>
  match σ x with
  | some t => t.eval ρ
  | none => ρ x

theorem subst_eval (σ : String → Option BExp) (ρ : Env) (e : BExp) :
    (e.subst σ).eval ρ = e.eval (extend σ ρ) := BExp.eval_subst σ ρ e
theorem substList_and (σ : String → Option BExp) (ρ : Env) :
    ∀ l : List BExp, evalAnd ρ (substList σ l) = evalAnd (extend σ ρ) l := BExp.evalAnd_subst σ ρ
theorem substList_or (σ : String → Option BExp) (ρ : Env) :
    ∀ l : List BExp, evalOr ρ (substList σ l) = evalOr (extend σ ρ) l := BExp.evalOr_subst σ ρ
theorem substList_xor (σ : String → Option BExp) (ρ : Env) :
    ∀ l : List BExp, evalXor ρ (substList σ l) = evalXor (extend σ ρ) l := BExp.evalXor_subst σ ρ

theorem evalAnd_congr (ρ ρ' : Env) :
    ∀ l : List BExp, (∀ s ∈ symsList l, ρ s = ρ' s) → evalAnd ρ l = evalAnd ρ' l := BExp.evalAnd_congr ρ ρ'
theorem evalOr_congr (ρ ρ' : Env) :
    ∀ l : List BExp, (∀ s ∈ symsList l, ρ s = ρ' s) → evalOr ρ l = evalOr ρ' l := BExp.evalOr_congr ρ ρ'
theorem evalXor_congr (ρ ρ' : Env) :
    ∀ l : List BExp, (∀ s ∈ symsList l, ρ s = ρ' s) → evalXor ρ l = evalXor ρ' l := BExp.evalXor_congr ρ ρ'

/-- invariant of `inlineDefs`: the running environment is `ρ₀` read through the substitutions accumulated in `acc` -/
theorem runDefs_inline (ρ₀ : Env) :
    ∀ (ds : Defs) (acc : List (String × BExp)) (ρ : Env),
      (∀ x, ρ x = extend (lookupFn acc) ρ₀ x) →
      ∀ x, runDefs ρ ds x = extend (lookupFn (inlineDefs ds acc)) ρ₀ x
  | [], _, _, h => h
  | (n, e) :: ds, acc, ρ, h => by
      apply runDefs_inline ρ₀ ds
      intro x
      have hρ : ρ = extend (lookupFn acc) ρ₀ := funext h
      by_cases hx : x = n
      · subst hx
        simp [extend, lookupFn, List.lookup, subst_eval, hρ]
      · have : (x == n) = false := by simpa using hx
        simp [extend, lookupFn, List.lookup, this, hρ]

theorem combined_none_eval (ρ : Env) (rets : List String) (exprs : Defs) :
    (combined Quirks.none rets exprs).eval ρ = retConj ρ rets exprs := by
  have h := runDefs_inline ρ exprs [] ρ (by intro x; simp [extend, lookupFn, List.lookup])
  have hq : (Quirks.none).bexpConjoinsIntermediates = false := rfl
  simp only [combined, hq, retConj]
  simp only [Bool.false_eq_true, if_false]
  rw [BExp.eval, BExp.evalAnd_eq_all, List.all_map]
  congr 1
  funext r
  simp only [Function.comp, h r, extend]
  cases lookupFn (inlineDefs exprs []) r <;> simp [BExp.eval]

theorem runDefs_undefined : ∀ (ds : Defs) (ρ : Env) (x : String),
    x ∉ ds.map (·.1) → runDefs ρ ds x = ρ x
  | [], _, _, _ => rfl
  | (n, e) :: ds, ρ, x, h => by
      simp only [List.map_cons, List.mem_cons, not_or] at h
      rw [runDefs, runDefs_undefined ds _ x h.2]
      have : (x == n) = false := by simpa using h.1
      simp [this]

theorem runDefs_noInter (L : List String) : ∀ (ds : Defs) (ρ : Env),
    (ds.map (·.1)).Nodup → (∀ d ∈ ds, d.1 ∈ L) → (∀ d ∈ ds, ∀ s ∈ d.2.syms, s ∉ L) →
    ∀ d ∈ ds, runDefs ρ ds d.1 = d.2.eval ρ
  | [], _, _, _, _, d, hd => by simp at hd
  | (n, e) :: ds, ρ, hnd, hL, hS, d, hd => by
      simp only [List.map_cons, List.nodup_cons] at hnd
      have hnL : n ∈ L := hL (n, e) (by simp)
      rcases List.mem_cons.1 hd with rfl | hd'
      · rw [runDefs, runDefs_undefined ds _ _ hnd.1]
        simp
      · rw [runDefs, runDefs_noInter L ds _ hnd.2 (fun d hd => hL d (List.mem_cons_of_mem _ hd))
          (fun d hd => hS d (List.mem_cons_of_mem _ hd)) d hd']
        apply BExp.eval_congr
        intro s hs
        have : s ∉ L := hS d hd s hs
        have hne : s ≠ n := fun h => this (h ▸ hnL)
        have : (s == n) = false := by simpa using hne
        simp [this]

theorem combined_quirk_eval (q : Quirks) (hq : q.bexpConjoinsIntermediates = true) (ρ : Env)
    (rets : List String) (exprs : Defs) (h : noIntermediates rets exprs = true) :
    (combined q rets exprs).eval ρ = retConj ρ rets exprs := by
  simp only [noIntermediates, Bool.and_eq_true, List.all_eq_true, decide_eq_true_eq,
    List.contains_iff_mem, Bool.not_eq_true', ] at h
  obtain ⟨⟨⟨h1, h2⟩, h3⟩, h4⟩ := h
  have key := runDefs_noInter (exprs.map (·.1)) exprs ρ h3
    (fun d hd => List.mem_map_of_mem hd)
    (fun d hd s hs => by
      have h5 := h4 d hd s hs
      intro hc
      have h6 := List.contains_iff_mem.2 hc
      rw [h5] at h6
      exact Bool.false_ne_true h6)
  simp only [combined, hq, if_true, BExp.eval, BExp.evalAnd_eq_all, List.all_map, retConj]
  rw [Bool.eq_iff_iff]
  simp only [List.all_eq_true, Function.comp]
  constructor
  · intro hall r hr
    obtain ⟨d, hd, rfl⟩ := List.mem_map.1 (h2 r hr)
    rw [key d hd]; exact hall d hd
  · intro hall d hd
    rw [← key d hd]; exact hall d.1 (h1 d.1 (List.mem_map_of_mem hd))

theorem finalValue_eq (e : String) : ∀ bs : List Binding, finalValue bs e = bs.reverse.find? (·.name == e)
  | [] => rfl
  | b :: bs => by
      rw [finalValue, finalValue_eq e bs, List.reverse_cons, List.find?_append]
      cases List.find? (fun x => x.name == e) bs.reverse <;> cases h : b.name == e <;> simp [List.find?, h]

theorem finalValue_name : ∀ (bs : List Binding) (e : String) (b : Binding),
    finalValue bs e = some b → b.name = e := fun bs e b h => by
  rw [finalValue_eq] at h; simpa using List.find?_some h

theorem finalValue_eq_none (bs : List Binding) (e : String) :
    finalValue bs e = none ↔ bs.any (·.name == e) = false := by
  rw [finalValue_eq]; simp

/-- a binding put in front becomes the final value of its name, and (next lemma) joins the namespace, under the
same condition: no later binding of that name -/
theorem finalValue_cons_eq_some (b : Binding) (bs : List Binding) (x : Binding) :
    finalValue (b :: bs) x.name = some x ↔
      finalValue bs x.name = some x ∨ (b = x ∧ finalValue bs b.name = none) := by
  rw [finalValue]
  cases hf : finalValue bs x.name with
  | some y =>
    refine ⟨.inl, ?_⟩
    rintro (h | ⟨rfl, h⟩)
    · exact h
    · rw [h] at hf; cases hf
  | none =>
    by_cases hb : b = x
    · subst hb; simp [hf]
    · by_cases hn : b.name = x.name <;> simp [hn, hb]

theorem mem_namespaceOf_cons (b : Binding) (bs : List Binding) (x : Binding) :
    x ∈ namespaceOf (b :: bs) ↔ x ∈ namespaceOf bs ∨ (b = x ∧ finalValue bs b.name = none) := by
  rw [namespaceOf, finalValue_eq_none]
  cases bs.any (·.name == b.name) <;> simp [or_comm, eq_comm]

theorem mem_namespaceOf : ∀ (bs : List Binding) (x : Binding),
    x ∈ namespaceOf bs ↔ finalValue bs x.name = some x
  | [], x => by simp [namespaceOf, finalValue]
  | b :: bs, x => by rw [mem_namespaceOf_cons, finalValue_cons_eq_some, mem_namespaceOf bs x]

theorem namespaceOf_distinct : ∀ bs : List Binding,
    (namespaceOf bs).Pairwise (fun a b => a.name ≠ b.name)
  | [] => by simp [namespaceOf]
  | b :: bs => by
      rw [namespaceOf]
      split
      · exact namespaceOf_distinct bs
      · next hany =>
        refine List.pairwise_cons.2 ⟨fun y hy heq => ?_, namespaceOf_distinct bs⟩
        have h2 := (finalValue_eq_none bs b.name).2 (by simpa using hany)
        rw [heq, (mem_namespaceOf bs y).1 hy] at h2; cases h2

theorem getmembers_perm (bs : List Binding) : (getmembers bs).Perm (namespaceOf bs) :=
  List.mergeSort_perm _ _

theorem parseStr_perm (bs : List Binding) : (parseStr bs).Perm (qlassfMembers bs) :=
  (getmembers_perm bs).filterMap _

theorem qlassfMembers_distinct (bs : List Binding) :
    (qlassfMembers bs).Pairwise (fun a b => a.1 ≠ b.1) := by
  unfold qlassfMembers
  refine List.Pairwise.filterMap asQlassf ?_ (namespaceOf_distinct bs)
  intro a a' hne b hb b' hb'
  simp only [asQlassf, Option.map_eq_some_iff] at hb hb'
  obtain ⟨_, _, rfl⟩ := hb
  obtain ⟨_, _, rfl⟩ := hb'
  exact hne

theorem parseStr_distinct (bs : List Binding) :
    (parseStr bs).Pairwise (fun a b => a.1 ≠ b.1) :=
  ((parseStr_perm bs).pairwise_iff (fun {a b} (h : a.1 ≠ b.1) => Ne.symm h)).2
    (qlassfMembers_distinct bs)

/-- `getmembers` sorts by name and the filter keeps the order -/
theorem parseStr_sorted (bs : List Binding) : (parseStr bs).Pairwise (fun a b => a.1 ≤ b.1) := by
  have hsorted : (getmembers bs).Pairwise (fun a b => nameLe a b = true) :=
    List.pairwise_mergeSort
      (fun a b c h1 h2 => by
        simp only [nameLe, decide_eq_true_eq] at *
        exact String.le_trans h1 h2)
      (fun a b => by
        simp only [nameLe, Bool.or_eq_true, decide_eq_true_eq]
        exact String.le_total _ _) _
  refine List.Pairwise.filterMap asQlassf ?_ hsorted
  intro a a' hle b hb b' hb'
  simp only [asQlassf, Option.map_eq_some_iff] at hb hb'
  obtain ⟨_, _, rfl⟩ := hb
  obtain ⟨_, _, rfl⟩ := hb'
  simpa [nameLe] using hle

theorem mem_parseStr (bs : List Binding) (n : String) (i : Nat) :
    (n, i) ∈ parseStr bs ↔ finalValue bs n = some { name := n, fn := some i } := by
  rw [(parseStr_perm bs).mem_iff]
  simp only [qlassfMembers, List.mem_filterMap, asQlassf, Option.map_eq_some_iff]
  constructor
  · rintro ⟨b, hb, j, hj, heq⟩
    simp only [Prod.mk.injEq] at heq
    obtain ⟨rfl, rfl⟩ := heq
    have := (mem_namespaceOf bs b).1 hb
    cases b with
    | mk name fn => simp only at hj; subst hj; exact this
  · intro h
    exact ⟨{ name := n, fn := some i }, (mem_namespaceOf bs _).2 h, i, rfl, rfl⟩

theorem find_unique : ∀ (l : List (String × Nat)) (e : String) (i : Nat),
    l.Pairwise (fun a b => a.1 ≠ b.1) → (e, i) ∈ l → l.find? (·.1 == e) = some (e, i)
  | [], _, _, _, h => by simp at h
  | x :: xs, e, i, hp, hm => by
      rw [List.pairwise_cons] at hp
      rcases List.mem_cons.1 hm with rfl | hm'
      · simp
      · have hne : x.1 ≠ e := hp.1 (e, i) hm'
        have : (x.1 == e) = false := by simpa using hne
        simp only [List.find?_cons, this]
        exact find_unique xs e i hp.2 hm'

theorem mapE_map_ok {α β γ : Type} (f : β → Except String γ) (g : α → β) (h : α → γ) :
    ∀ l : List α, (∀ x ∈ l, f (g x) = .ok (h x)) → mapE f (l.map g) = .ok (l.map h)
  | [], _ => rfl
  | x :: xs, hx => by
      simp only [List.map_cons, mapE, hx x List.mem_cons_self,
        mapE_map_ok f g h xs fun y hy => hx y (List.mem_cons_of_mem _ hy)]

theorem mapE_ok {α β : Type} (f : α → Except String β) (g : α → β) :
    ∀ l : List α, (∀ x ∈ l, f x = .ok (g x)) → mapE f l = .ok (l.map g) := fun l h => by
  simpa using mapE_map_ok f id g l h

/-- the variable number of a symbol: position in `order` + 1 (0 when absent) -/
def num (order : List String) (s : String) : Nat :=
  match idx? s order with
  | some i => i + 1
  | none => 0

theorem idx?_eq (s : String) : ∀ l : List String, idx? s l = l.idxOf? s
  | [] => rfl
  | x :: xs => by rw [idx?, List.idxOf?_cons, idx?_eq s xs]

theorem idx?_isSome_of_mem (order : List String) (s : String) (h : s ∈ order) : ∃ i, idx? s order = some i := by
  rw [idx?_eq]; exact Option.isSome_iff_exists.1 (List.isSome_idxOf?.2 h)

theorem idx?_lt_getD (order : List String) (s : String) (i : Nat) (h : idx? s order = some i) :
    i < order.length ∧ order.getD i "" = s := by
  rw [idx?_eq, List.idxOf?_eq_some_iff] at h
  obtain ⟨hi, he, _⟩ := h
  exact ⟨hi, by simp [List.getD_eq_getElem?_getD, hi, he]⟩

theorem num_getD (order : List String) (k : Nat) (hnd : order.Nodup) (hk : k < order.length) :
    num order (order.getD k "") = k + 1 := by
  rw [num, idx?_eq, List.getD_eq_getElem?_getD, List.getElem?_eq_getElem hk, Option.getD_some,
    hnd.idxOf?_getElem k hk]

theorem getD_num (order : List String) (s : String) (hs : s ∈ order) :
    1 ≤ num order s ∧ num order s ≤ order.length ∧ order.getD (num order s - 1) "" = s := by
  obtain ⟨i, hi⟩ := idx?_isSome_of_mem order s hs
  have := idx?_lt_getD order s i hi
  simp only [num, hi]
  refine ⟨by omega, by omega, ?_⟩
  simpa using this.2

def litInt (order : List String) (l : Lit) : Int :=
  if l.neg then -(Int.ofNat (num order l.var)) else Int.ofNat (num order l.var)

theorem litNum_toBExp (order : List String) (l : Lit) (h : l.var ∈ order) :
    litNum order l.toBExp = .ok (litInt order l) := by
  obtain ⟨i, hi⟩ := idx?_isSome_of_mem order l.var h
  cases l with
  | mk neg var =>
    cases neg <;> simp_all [Lit.toBExp, litNum, varNum, litInt, num]

theorem evalLitNum_litInt (order : List String) (σ : Nat → Bool) (l : Lit) (h : l.var ∈ order) :
    evalLitNum σ (litInt order l) = l.eval (fun s => σ (num order s)) := by
  obtain ⟨i, hi⟩ := idx?_isSome_of_mem order l.var h
  cases l with
  | mk neg var =>
    have hA : ¬ ((i : Int) + 1 < 0) := by omega
    have hB : ((i : Int) + 1).natAbs = i + 1 := by omega
    simp only at hi
    cases neg
    · simp [litInt, num, hi, Lit.eval, evalLitNum, hA, hB]
    · simp [litInt, num, hi, Lit.eval, evalLitNum, hB]

theorem clauseBExp_eval (ρ : Env) : ∀ c : Clause, (clauseBExp c).eval ρ = c.any (Lit.eval ρ)
  | [] => rfl
  | [l] => by cases l with | mk neg var => cases neg <;> simp [clauseBExp, Lit.toBExp, Lit.eval, BExp.eval]
  | l1 :: l2 :: ls => by
      simp only [clauseBExp, BExp.eval, BExp.evalOr_eq_any, List.any_map]
      congr 1
      funext l
      cases l with | mk neg var => cases neg <;> simp [Lit.toBExp, Lit.eval, BExp.eval]

theorem cnfBExp_eval (ρ : Env) : ∀ cs : List Clause, (cnfBExp cs).eval ρ = evalClauses ρ cs
  | [] => rfl
  | [c] => by simp [cnfBExp, evalClauses, clauseBExp_eval]
  | c1 :: c2 :: cs => by
      simp only [cnfBExp, BExp.eval, BExp.evalAnd_eq_all, List.all_map, evalClauses]
      congr 1
      funext c
      simp [clauseBExp_eval]

theorem clauseLits_clauseBExp (q : Quirks) (c : Clause) (h : c = [] → q.dimacsAtomCnf = false) :
    clauseLits q (clauseBExp c) = c.map Lit.toBExp := by
  match c, h with
  | [], h => simp [clauseBExp, clauseLits, h rfl]
  | [l], _ => cases l with | mk neg var => cases neg <;> simp [clauseBExp, clauseLits, Lit.toBExp]
  | l1 :: l2 :: ls, _ => simp [clauseBExp, clauseLits]

theorem clauseList_cnfBExp (q : Quirks) (cs : List Clause) (h : dimacsTriggers q cs = false) :
    clauseList q (cnfBExp cs) = .ok (cs.map clauseBExp) := by
  match cs, h with
  | [], _ => simp [cnfBExp, clauseList, buggyShape, fixedClauses]
  | [[]], h =>
    simp [dimacsTriggers] at h
    simp [cnfBExp, clauseBExp, clauseList, buggyShape, fixedClauses, h]
  | [[l]], h =>
    simp [dimacsTriggers] at h
    cases l with
    | mk neg var => cases neg <;> simp [cnfBExp, clauseBExp, Lit.toBExp, clauseList, buggyShape, fixedClauses, h]
  | [l1 :: l2 :: ls], h =>
    simp [dimacsTriggers] at h
    simp [cnfBExp, clauseBExp, clauseList, buggyShape, fixedClauses, h]
  | c1 :: c2 :: cs, _ =>
    have e : cnfBExp (c1 :: c2 :: cs) = .and ((c1 :: c2 :: cs).map clauseBExp) := rfl
    rw [e]
    unfold clauseList
    by_cases hb : buggyShape q (BExp.and (List.map clauseBExp (c1 :: c2 :: cs))) = true
    · rw [if_pos hb]; simp [codeClauses, args]
    · rw [if_neg hb]; simp [fixedClauses]

theorem atom_flag_of_not_triggered (q : Quirks) (cs : List Clause)
    (ht : dimacsTriggers q cs = false) : ([] : Clause) ∈ cs → q.dimacsAtomCnf = false := by
  intro hc
  match cs, ht, hc with
  | [[]], ht, _ => simpa [dimacsTriggers] using ht
  | [_ :: _], _, hc => simp at hc
  | c1 :: c2 :: rest, ht, hc =>
    cases hq : q.dimacsAtomCnf with
    | false => rfl
    | true =>
      have : (c1 :: c2 :: rest).any (fun c => c.isEmpty) = true :=
        List.any_eq_true.2 ⟨[], hc, rfl⟩
      simp [dimacsTriggers, hq, this] at ht

/-- what `convert_to_dimacs` computes on a CNF that avoids the listed defects -/
theorem toDimacs_cnfBExp (q : Quirks) (cs : List Clause) (order : List String)
    (hv : ∀ s ∈ clauseVars cs, s ∈ order) (ht : dimacsTriggers q cs = false) :
    toDimacs q (cnfBExp cs) order
      = .ok { nvars := order.length, clauses := cs.map (fun c => c.map (litInt order)) } := by
  have hinner : ∀ c ∈ cs, mapE (litNum order) (clauseLits q (clauseBExp c))
      = .ok (c.map (litInt order)) := by
    intro c hc
    rw [clauseLits_clauseBExp q c (fun he => atom_flag_of_not_triggered q cs ht (he ▸ hc))]
    apply mapE_map_ok
    intro l hl
    exact litNum_toBExp order l (hv _ (List.mem_flatMap.2 ⟨c, hc, List.mem_map_of_mem hl⟩))
  have houter := mapE_map_ok (fun c => mapE (litNum order) (clauseLits q c)) clauseBExp
    (fun c => c.map (litInt order)) cs hinner
  simp only [toDimacs, clauseList_cnfBExp q cs ht, houter]

theorem dimacs_eval_litInt (cs : List Clause) (order : List String) (σ : Nat → Bool)
    (hv : ∀ s ∈ clauseVars cs, s ∈ order) :
    Dimacs.eval σ { nvars := order.length, clauses := cs.map (fun c => c.map (litInt order)) }
      = evalClauses (fun s => σ (num order s)) cs := by
  simp only [Dimacs.eval, evalClauses, List.all_map]
  apply List.all_congr_mem
  intro c hc
  simp only [Function.comp, List.any_map]
  apply List.any_congr_mem
  intro l hl
  exact evalLitNum_litInt order σ l (hv _ (List.mem_flatMap.2 ⟨c, hc, List.mem_map_of_mem hl⟩))

theorem nf_of_nfCall {q : Quirks} {nf : NF} {f : Form} {e r : BExp} (h : nfCall q nf f e = .ok r) :
    nf f e = .ok r := by
  unfold nfCall at h
  split at h
  · cases h
  · exact h

theorem nfCall_noLimit {q : Quirks} (hq : q.nfVarLimit = false) (nf : NF) (f : Form) (e : BExp) :
    nfCall q nf f e = nf f e := by
  simp [nfCall, hq]

/-- what the two preparatory steps of `py2bexpOutput` (`convertToBoolExpression`, `dimacsInput`) have in common:
each hands its input on unchanged or makes one normal-form call on it -/
def NFStage (q : Quirks) (nf : NF) (e : BExp) (S : Except String BExp) : Prop :=
  S = .ok e ∨ ∃ f, S = nfCall q nf f e

theorem convert_stage (q : Quirks) (nf : NF) (form : Form) (c : BExp) :
    NFStage q nf c (convertToBoolExpression q nf form c) := by
  cases form <;> first | exact .inl rfl | exact .inr ⟨_, rfl⟩

theorem dimacsInput_stage (q : Quirks) (nf : NF) (form : Form) (r : BExp) :
    NFStage q nf r (dimacsInput q nf form r) := by
  unfold dimacsInput
  split
  · exact .inr ⟨_, rfl⟩
  · exact .inl rfl

theorem NFStage.sound {q : Quirks} {nf : NF} {e r : BExp} {S : Except String BExp} (hS : NFStage q nf e S)
    (hnf : ∀ f e r, nf f e = .ok r → ∀ ρ, r.eval ρ = e.eval ρ) (h : S = .ok r) (ρ : Env) :
    r.eval ρ = e.eval ρ := by
  rcases hS with rfl | ⟨f, rfl⟩
  · cases h; rfl
  · exact hnf f e r (nf_of_nfCall h) ρ

theorem NFStage.total {q : Quirks} {nf : NF} {e : BExp} {S : Except String BExp} (hS : NFStage q nf e S)
    (hq : q.nfVarLimit = false) (hnf : ∀ f e, ∃ r, nf f e = .ok r) : ∃ r, S = .ok r := by
  rcases hS with rfl | ⟨f, rfl⟩
  · exact ⟨e, rfl⟩
  · rw [nfCall_noLimit hq]; exact hnf f e

theorem py2bexpOutput_ok {q : Quirks} {nf : NF} {form : Form} {fmt : Format} {c : BExp}
    {order : List String} {p : Printed} (h : py2bexpOutput q nf form fmt c order = .ok p) :
    ∃ r, convertToBoolExpression q nf form c = .ok r ∧
      match fmt with
      | .sympy => p = .expr r
      | .dimacs => ∃ r1 cnf d, dimacsInput q nf form r = .ok r1 ∧ nfCall q nf .cnf r1 = .ok cnf ∧
          toDimacs q cnf order = .ok d ∧ p = .dimacs (form != .cnf) d := by
  unfold py2bexpOutput at h
  split at h
  · cases h
  · next r h1 =>
    refine ⟨r, h1, ?_⟩
    cases fmt with
    | sympy => exact (Except.ok.inj h).symm
    | dimacs =>
      dsimp only at h ⊢
      split at h
      · cases h
      · next r1 h2 =>
        split at h
        · cases h
        · next cnf h3 =>
          split at h
          · cases h
          · next d h4 => exact ⟨r1, cnf, d, h2, h3, h4, (Except.ok.inj h).symm⟩

end QV.Tools
