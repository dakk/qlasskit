import QV.Proofs.CompilerSem2a
/-! A constant is compiled whether or not it is a known name; only the specification of the leaf asks that it is one
(`exprSemK_tt`, `exprSemK_ff`). -/
namespace QV.Compiler
open QV

variable {Kn : String → Prop} {kv : String → Bool} {scope : List String} {ρ : Env} {σ0 : FState} {wo : Bool}
variable {Q : FState → Nat → Prop} {W : Nat → Prop} {K : BExp → Prop} {Mk : Nat → Prop}

theorem CtlK.of_sem {s s' : CState} (sem : SemK Kn σ0 wo Q W K Mk s s') (f : FState) (c : Nat)
    (h : CtlK Kn kv s f c) : CtlK Kn kv s' f c := by
  rcases h with h | ⟨n, hk, hq, hv⟩
  · exact Or.inl (sem.mkeep c h)
  · exact Or.inr ⟨n, hk, sem.qkeep n c hk hq, hv⟩

theorem SemK.seq {W1 W2 W : Nat → Prop} {K1 K2 K : BExp → Prop} {Mk1 Mk2 : Nat → Prop} {s s1 s2 : CState}
    (h1 : SemK Kn σ0 wo (CtlK Kn kv s1) W1 K1 Mk1 s s1) (h2 : SemK Kn σ0 wo (CtlK Kn kv s2) W2 K2 Mk2 s1 s2)
    (hW : ∀ q, W1 q ∨ W2 q → W q) (hK : ∀ c, K1 c ∨ K2 c → K c)
    (hM1 : ∀ m, Mk1 m → Avail s m ∧ ¬ Avail s1 m) (hM2 : ∀ m, Mk2 m → Avail s1 m ∧ ¬ Avail s2 m) :
    SemK Kn σ0 wo (CtlK Kn kv s2) W K (fun m => Avail s m ∧ ¬ Avail s2 m) s s2 :=
  ((h1.monoQ (CtlK.of_sem h2)).trans' h2).mono (fun q _ => hW q) hK (fun m h => h.elim
    (fun h => ⟨(hM1 m h).1, fun hm => (hM1 m h).2 (h2.avail m hm)⟩)
    (fun h => ⟨h1.avail m (hM2 m h).1, (hM2 m h).2⟩))

theorem gate_own {cls : GClass} {cs : List Nat} {t : Nat} {u : Unit} {s s' : CState}
    (h : (append cls (cs ++ [t])).run s = .ok (u, s')) (hp : PreK Kn kv σ0 s)
    (hc : cls.isMCXLike = true) (hnop : cls.isNop = false) (ht : PrivK Kn s t) (hcs : ∀ c ∈ cs, ¬ Avail s c)
    (hq : wo = false → ∀ c ∈ cs, Q (cur σ0 s) c) :
    PreK Kn kv σ0 s' ∧ Appended cls (cs ++ [t]) s s' ∧ SemK Kn σ0 wo Q (· = t) NoK NoQ s s' ∧ Tgt s' t := by
  have ha := append_run h
  have hg : Good s' := (append_ok (B := fun _ => False) h hp.good hc (by
    intro w hw
    rcases List.mem_append.mp hw with hw | hw
    · exact notAvail_lt (hcs w hw)
    · rw [List.mem_singleton.mp hw]; exact notAvail_lt ht.1)).good
  refine ⟨hp.of_same hg ha.nq ha.free ha.anc ha.qmap ha.kept ?_,
    gate_semK h hc hnop ht.1 hq⟩
  intro q hq
  apply ha.cur_ne hc σ0 q
  rintro rfl
  rcases hq with hq | ⟨n, hk, hq⟩
  · exact ht.1 hq
  · exact ht.2 n hk hq

theorem xGate_own {w : Nat} {u : Unit} {s s' : CState}
    (h : (xGate w).run s = .ok (u, s')) (hp : PreK Kn kv σ0 s) (ht : PrivK Kn s w) :
    PreK Kn kv σ0 s' ∧ Appended .X ([] ++ [w]) s s' ∧ SemK Kn σ0 wo Q (· = w) NoK NoQ s s' ∧ Tgt s' w :=
  gate_own (cs := []) h hp rfl rfl ht (fun _ hc => nomatch hc) (fun _ _ hc => nomatch hc)

theorem cx_own {a b : Nat} {u : Unit} {s s' : CState}
    (h : (cx a b).run s = .ok (u, s')) (hp : PreK Kn kv σ0 s) (ht : PrivK Kn s b) (ha : ¬ Avail s a)
    (hq : wo = false → Q (cur σ0 s) a) :
    PreK Kn kv σ0 s' ∧ Appended .CX ([a] ++ [b]) s s' ∧ SemK Kn σ0 wo Q (· = b) NoK NoQ s s' ∧ Tgt s' b :=
  gate_own (cs := [a]) h hp rfl rfl ht (fun _ hc => List.mem_singleton.mp hc ▸ ha)
    (fun hwo _ hc => List.mem_singleton.mp hc ▸ hq hwo)

theorem mcx_own {cs : List Nat} {t : Nat} {u : Unit} {s s' : CState}
    (h : (mcx cs t).run s = .ok (u, s')) (hp : PreK Kn kv σ0 s) (ht : PrivK Kn s t)
    (hcs : ∀ c ∈ cs, ¬ Avail s c) (hq : wo = false → ∀ c ∈ cs, Q (cur σ0 s) c) :
    PreK Kn kv σ0 s' ∧ Appended (.MCX cs.length) (cs ++ [t]) s s' ∧
      SemK Kn σ0 wo Q (· = t) NoK NoQ s s' ∧ Tgt s' t :=
  gate_own h hp rfl rfl ht hcs hq

theorem event_semK {e : String} {u : Unit} {s s' : CState}
    (h : (event e).run s = .ok (u, s')) (hp : PreK Kn kv σ0 s) :
    PreK Kn kv σ0 s' ∧ SemK Kn σ0 wo Q NoQ NoK NoQ s s' ∧ cur σ0 s' = cur σ0 s := by
  have := event_run h; subst this
  exact ⟨hp.of_same (hp.good.of_eq rfl rfl rfl rfl rfl rfl rfl rfl rfl) rfl rfl rfl rfl rfl (fun _ _ => rfl),
    SemK.of_quiet rfl rfl rfl rfl rfl rfl rfl (fun p hp' => Or.inl ⟨p, hp', rfl⟩) (fun m hm => Or.inl hm)
      (fun m hm => hm), rfl⟩

theorem expqSet_semK {e : BExp} {q : Nat} {u : Unit} {s s' : CState}
    (h : (expqSet e q).run s = .ok (u, s')) (hp : PreK Kn kv σ0 s) (hq : q < s.qc.numQubits) :
    PreK Kn kv σ0 s' ∧ SemK Kn σ0 wo Q NoQ (· = e) NoQ s s' ∧ cur σ0 s' = cur σ0 s ∧ s'.qc = s.qc := by
  obtain ⟨hqc, hk⟩ := expqSet_run h
  have hg : Good s' := (expqSet_ok (B := fun _ => False) h hp.good hq).good
  have hcur : cur σ0 s' = cur σ0 s := by unfold cur; rw [hqc]
  exact ⟨hp.of_same hg (by rw [hqc]) (by rw [hqc]) (by rw [hqc]) (by rw [hqc]) (by rw [hqc]) (fun _ _ => by rw [hcur]),
    SemK.of_quiet (by rw [hqc]) (by rw [hqc]) (by rw [hqc]) (by rw [hqc]) (by rw [hqc]) (by rw [hqc]) (by rw [hqc])
      (fun p hp' => (hk p hp').imp (fun h' => ⟨p, h'.1, rfl⟩) (fun h' => by rw [h']))
      (fun m hm => Or.inl (by rw [← hqc]; exact hm)) (fun m hm => by rw [hqc]; exact hm), hcur, hqc⟩

theorem markAll_semK {ws : List Nat} {u : Unit} {s s' : CState}
    (h : (markAll ws).run s = .ok (u, s')) (hp : PreK Kn kv σ0 s)
    (htgt : wo = false → ∀ m ∈ ws, m ∈ s.qc.anc → Tgt s m) :
    PreK Kn kv σ0 s' ∧ SemK Kn σ0 wo Q NoQ NoK (fun m => m ∈ ws ∧ m ∈ s.qc.anc) s s' ∧
      cur σ0 s' = cur σ0 s ∧ (∀ m ∈ ws, m ∈ s.qc.anc → m ∉ s.qc.kept → m ∈ s'.qc.marked) ∧
      s'.qc.anc = s.qc.anc ∧ s'.qc.numQubits = s.qc.numQubits := by
  have hg : Good s' := (markAll_ok (B := fun _ => False) ws h hp.good).good
  obtain ⟨M, rfl, hM⟩ := markAll_eff ws h
  exact ⟨hp.of_same hg rfl rfl rfl rfl rfl (fun _ _ => rfl),
    SemK.of_quiet rfl rfl rfl rfl rfl rfl rfl (fun p hp' => Or.inl ⟨p, hp', rfl⟩)
      (fun m hm => ((hM m).mp hm).imp id (fun x => ⟨⟨x.1, x.2.1⟩, x.2.1, fun hwo => htgt hwo m x.1 x.2.1⟩))
      (fun m hm => (hM m).mpr (Or.inl hm)),
    rfl, fun m hm ha hk => (hM m).mpr (Or.inr ⟨hm, ha, hk⟩), rfl, rfl⟩

theorem addQubit_semK {name : String} {a : Nat} {s s' : CState}
    (h : (addQubit name).run s = .ok (a, s'))
    (hne : ∀ n q, Kn n → dictGet? s.qc.qmap n = some q → n ≠ name) :
    a = s.qc.numQubits ∧ SemK Kn σ0 wo Q NoQ NoK NoQ s s' ∧ cur σ0 s' = cur σ0 s ∧
      s'.qc.numQubits = s.qc.numQubits + 1 ∧ s'.qc.free = s.qc.free ∧ s'.qc.anc = s.qc.anc ∧
      s'.qc.qmap = dictSet s.qc.qmap name s.qc.numQubits := by
  obtain ⟨rfl, rfl⟩ := addQubit_run h
  refine ⟨rfl, ⟨Nat.le_succ _, ?_, fun _ _ _ => rfl, fun p hp' => Or.inl ⟨p, hp', rfl⟩, fun m hm => Or.inl hm,
    fun m hm => hm, fun a ha => ha, ?_, ?_, rfl, ⟨[], by simp, by simp, fun _ h => absurd h List.not_mem_nil,
    fun _ => trivial⟩, fun _ h => h⟩, rfl, rfl, rfl, rfl, rfl⟩
  · intro q hq
    rcases hq with hq | hq
    · exact Or.inl hq
    · exact Or.inr (by simp only at hq ⊢; omega)
  · intro n q hkn hq
    show dictGet? (dictSet _ _ _) _ = _
    rw [dictGet?_dictSet_ne (hne n q hkn hq)]
    exact hq
  · intro n q hq
    have hq' : dictGet? (dictSet s.qc.qmap name s.qc.numQubits) n = some q := hq
    by_cases hne : n = name
    · rw [hne, dictGet?_dictSet_self] at hq'
      cases hq'; exact Or.inr (Nat.le_refl _)
    · rw [dictGet?_dictSet_ne hne] at hq'; exact Or.inl hq'

theorem PreK.newName {name : String} {s s' : CState}
    (hp : PreK Kn kv σ0 s) (hg : Good s') (sem : SemK Kn σ0 wo Q NoQ NoK NoQ s s')
    (hf : s'.qc.free = s.qc.free) (ha : s'.qc.anc = s.qc.anc)
    (hq : s'.qc.qmap = dictSet s.qc.qmap name s.qc.numQubits)
    (hv : Kn name → cur σ0 s' s.qc.numQubits = kv name) : PreK Kn kv σ0 s' := by
  refine ⟨hg, ?_, ?_, hp.knOK, by rw [hf]; exact hp.freeNd, by rw [hf, ha]; exact hp.freeAnc,
    by rw [sem.kkeep, hf]; exact hp.keptNF⟩
  · intro q hq'
    rw [sem.frame q (fun h => h) (Or.inr hq')]
    exact hp.zero q (sem.avail q hq')
  · intro n q hk hq'
    rw [hq] at hq'
    by_cases hne : n = name
    · rw [hne, dictGet?_dictSet_self] at hq'
      cases hq'
      refine ⟨by rw [hf]; exact fun h => absurd (hp.good.free_lt _ h) (Nat.lt_irrefl _),
        by rw [ha]; exact fun h => absurd (hp.good.anc_lt _ h) (Nat.lt_irrefl _), by rw [hne]; exact hv (hne ▸ hk)⟩
    · rw [dictGet?_dictSet_ne hne] at hq'
      obtain ⟨t1, t2, t3⟩ := hp.tbl n q hk hq'
      refine ⟨by rw [hf]; exact t1, by rw [ha]; exact t2, ?_⟩
      rw [sem.frame q (fun h => h) (Or.inl (hp.sym_notAvail hk hq'))]; exact t3

theorem constFalse_semK {a : Nat} {s s' : CState}
    (h : constFalse.run s = .ok (a, s')) (hp : PreK Kn kv σ0 s) (hF : Kn "FALSE" → kv "FALSE" = false) :
    PreK Kn kv σ0 s' ∧ SemK Kn σ0 wo Q NoQ NoK NoQ s s' ∧ dictGet? s'.qc.qmap "FALSE" = some a := by
  have hg' : Good s' := (constFalse_ok (B := fun _ => False) h hp.good).1.good
  unfold constFalse at h
  obtain ⟨qc, s1, hq, h⟩ := run_bind_ok.mp h
  obtain ⟨rfl, rfl⟩ := getQC_run hq
  dsimp only at h
  rcases run_ite_ok.mp h with ⟨hnone, h⟩ | ⟨_, h⟩
  · have hnone' : dictGet? s1.qc.qmap "FALSE" = none := by simpa using hnone
    obtain ⟨u, s2, hd, hl⟩ := run_bind_ok.mp h
    obtain ⟨i, hadd⟩ := run_discard_ok.mp hd
    obtain ⟨_, sem, hcur, hn, hf, ha, hqm⟩ := addQubit_semK (Kn := Kn) (σ0 := σ0) (wo := wo) (Q := Q) hadd
      (fun n q _ hq e => by rw [e, hnone'] at hq; cases hq)
    obtain ⟨rfl, hq', _⟩ := lookup_ok hl (addQubit_ok (B := fun _ => False) hadd hp.good (Or.inr (by decide))).1.good
    refine ⟨hp.newName hg' sem hf ha hqm (fun hk => ?_), sem, hq'⟩
    rw [hcur, hF hk]
    exact hp.zero _ (Or.inr (Nat.le_refl _))
  · obtain ⟨rfl, hq', _⟩ := lookup_ok h hp.good
    exact ⟨hp, SemK.refl _, hq'⟩

theorem constTrue_semK {a : Nat} {s s' : CState}
    (h : constTrue.run s = .ok (a, s')) (hp : PreK Kn kv σ0 s) (hT : Kn "TRUE" → kv "TRUE" = true) :
    PreK Kn kv σ0 s' ∧ SemK Kn σ0 wo Q NoQ NoK NoQ s s' ∧ dictGet? s'.qc.qmap "TRUE" = some a := by
  have hg' : Good s' := (constTrue_ok (B := fun _ => False) h hp.good).1.good
  unfold constTrue at h
  obtain ⟨qc, s1, hq, h⟩ := run_bind_ok.mp h
  obtain ⟨rfl, rfl⟩ := getQC_run hq
  dsimp only at h
  rcases run_ite_ok.mp h with ⟨hnone, h⟩ | ⟨_, h⟩
  · have hnone' : dictGet? s1.qc.qmap "TRUE" = none := by simpa using hnone
    obtain ⟨u1, s3, hd, h2⟩ := run_bind_ok.mp h
    obtain ⟨i, hadd⟩ := run_discard_ok.mp hd
    obtain ⟨_, sem1, hcur1, _, hf1, ha1, hqm1⟩ := addQubit_semK (Kn := Kn) (σ0 := σ0) (wo := wo) (Q := Q)
      hadd (fun n q _ hq e => by rw [e, hnone'] at hq; cases hq)
    have hg3 : Good s3 := (addQubit_ok (B := fun _ => False) hadd hp.good (Or.inr (by decide))).1.good
    obtain ⟨q, s4, hl1, h3⟩ := run_bind_ok.mp h2
    obtain ⟨rfl, hq1, hlt⟩ := lookup_ok hl1 hg3
    have hqe : q = s1.qc.numQubits := by
      rw [hqm1, dictGet?_dictSet_self] at hq1; exact (Option.some.inj hq1).symm
    subst hqe
    obtain ⟨u2, s5, hx, hl⟩ := run_bind_ok.mp h3
    -- the new qubit is not scratch space any more, so the `X` on it is outside the frame of the whole
    have hnav : ¬ Avail s4 s1.qc.numQubits :=
      hg3.qmap_notAvail hq1 (by rw [hf1]; exact fun h' => absurd (hp.good.free_lt _ h') (Nat.lt_irrefl _))
    obtain ⟨ax, semx, _⟩ := gate_semK (Kn := Kn) (σ0 := σ0) (wo := wo) (Q := Q) (cs := []) hx rfl rfl hnav
      (fun _ _ hc => nomatch hc)
    obtain ⟨es5, hq5, _⟩ := lookup_ok hl (xGate_ok (B := fun _ => False) hx hg3 hlt).good
    subst es5
    have sem : SemK Kn σ0 wo Q NoQ NoK NoQ s1 s' := (sem1.trans' semx).mono (by
      rintro x hx' (h' | rfl)
      · exact h'
      · exact hx'.elim (fun hx' => hx' (Or.inr (Nat.le_refl _))) (fun hx' => hnav (semx.avail _ hx')))
      (fun _ h => h.elim id id) (fun _ h => h.elim id id)
    refine ⟨hp.newName hg' sem (ax.free.trans hf1) (ax.anc.trans ha1)
      (ax.qmap.trans hqm1) (fun hk => ?_), sem, hq5⟩
    rw [ax.cur_eq rfl σ0, hcur1, hp.zero _ (Or.inr (Nat.le_refl _)), hT hk]
    rfl
  · obtain ⟨rfl, hq', _⟩ := lookup_ok h hp.good
    exact ⟨hp, SemK.refl _, hq'⟩

/-- the qubit returned for an expression compiled without destination: the qubit of a known name, or an
ancilla taken from the scratch space of the state the compilation started from -/
def ResK (Kn : String → Prop) (wo : Bool) (s s' : CState) (a : Nat) : Prop :=
  (∃ n, Kn n ∧ dictGet? s'.qc.qmap n = some a) ∨
    (Avail s a ∧ a ∈ s'.qc.anc ∧ (wo = false → Tgt s' a))

/-- `compileExpr e dest sym`, run from `s` to `s'` with result `a`: the gates are controlled by marked qubits and
qubits of known names, write only `dest`, add the cache keys of `e` and mark only qubits taken from the scratch
space; without destination `a` holds the value of `e`; the destination gets the value xor-ed in -/
def ExprPostK (Kn : String → Prop) (kv : String → Bool) (ρ : Env) (σ0 : FState) (wo : Bool) (e : BExp) (dest : Option Nat)
    (s s' : CState) (a : Nat) : Prop :=
  PreK Kn kv σ0 s' ∧
  SemK Kn σ0 wo (CtlK Kn kv s') (fun q => dest = some q) (· ∈ compKeys e)
    (fun m => Avail s m ∧ ¬ Avail s' m ∧ (dest = none → m ≠ a)) s s' ∧
  (dest = none → ResK Kn wo s s' a ∧ ¬ Avail s' a ∧ cur σ0 s' a = e.eval ρ ∧
    (isLeaf e = false → a ∈ s'.qc.anc)) ∧
  (∀ d, dest = some d → a = d ∧ cur σ0 s' d = Bool.xor (cur σ0 s d) (e.eval ρ) ∧ (wo = false → Tgt s' d))

/-- `scope`: the names `e` may read; the defined name `sym` is not one of them (it may be a known name).  A leaf
gets no destination and no `sym`, for the reason given at `ExprSem`. -/
def ExprSemK (Kn : String → Prop) (kv : String → Bool) (scope : List String) (ρ : Env) (σ0 : FState) (wo : Bool) (e : BExp) : Prop :=
  ∀ (dest : Option Nat) (sym : Option String) {a : Nat} {s s' : CState},
    (compileExpr e dest sym).run s = .ok (a, s') →
    PreK Kn kv σ0 s →
    (∀ p ∈ s.expq, ∀ c ∈ compKeys e, (p.1 == c) = false) →
    (∀ d, dest = some d → PrivK Kn s d) →
    (∀ x, sym = some x → x ∉ scope) →
    (isLeaf e = true → dest = none ∧ sym = none) →
    ExprPostK Kn kv ρ σ0 wo e dest s s' a

def ArgsSemK (Kn : String → Prop) (kv : String → Bool) (ρ : Env) (σ0 : FState) (wo : Bool) (as : List BExp) : Prop :=
  ∀ {rs : List Nat} {s s' : CState}, (compileArgs as).run s = .ok (rs, s') →
    PreK Kn kv σ0 s →
    (∀ p ∈ s.expq, ∀ c ∈ compKeysList as, (p.1 == c) = false) →
    PreK Kn kv σ0 s' ∧
    SemK Kn σ0 wo (CtlK Kn kv s') NoQ (· ∈ compKeysList as) (fun m => Avail s m ∧ ¬ Avail s' m) s s' ∧
    rs.map (cur σ0 s') = as.map (BExp.eval ρ) ∧
    (∀ q ∈ rs, ResK Kn wo s s' q ∧ ¬ Avail s' q) ∧
    ((∀ a ∈ as, isLeaf a = false) → ∀ q ∈ rs, q ∈ s'.qc.anc)

def XorSemK (Kn : String → Prop) (kv : String → Bool) (ρ : Env) (σ0 : FState) (wo : Bool) (as : List BExp) : Prop :=
  ∀ (d : Nat) {a : Nat} {s s' : CState}, (compileXorArgs as d).run s = .ok (a, s') →
    PreK Kn kv σ0 s →
    (∀ p ∈ s.expq, ∀ c ∈ compKeysList as, (p.1 == c) = false) →
    PrivK Kn s d →
    a = d ∧ PreK Kn kv σ0 s' ∧
    SemK Kn σ0 wo (CtlK Kn kv s') (· = d) (· ∈ compKeysList as) (fun m => Avail s m ∧ ¬ Avail s' m) s s' ∧
      cur σ0 s' d = Bool.xor (cur σ0 s d) (evalXor ρ as) ∧ (wo = false → as ≠ [] → Tgt s' d)

theorem ResK.sym_or_anc {s s' : CState} {a : Nat} (hp' : PreK Kn kv σ0 s') (h : ResK Kn wo s s' a)
    (ha : a ∈ s'.qc.anc) : Avail s a := by
  rcases h with ⟨n, hk, hq⟩ | h
  · exact absurd ha (hp'.tbl n a hk hq).2.1
  · exact h.1

theorem ResK.tgt_of_anc {s s' : CState} {a : Nat} (hp' : PreK Kn kv σ0 s') (h : ResK Kn wo s s' a)
    (ha : a ∈ s'.qc.anc) (hwo : wo = false) : Tgt s' a := by
  rcases h with ⟨n, hk, hq⟩ | h
  · exact absurd ha (hp'.tbl n a hk hq).2.1
  · exact h.2.2 hwo

theorem Tgt.appended {cls : GClass} {wires : List Nat} {s s' : CState} {q : Nat}
    (ha : Appended cls wires s s') (h : Tgt s q) : Tgt s' q := by
  obtain ⟨g', _, _, _, hc⟩ := ha.gates
  obtain ⟨g, hg, ht⟩ := h
  rcases hc with hc | hc
  · exact ⟨g, by rw [hc]; exact hg, ht⟩
  · exact ⟨g, by rw [hc]; simp [hg], ht⟩

theorem ResK.next {s s1 s2 : CState} {a : Nat} (h : ResK Kn wo s s1 a) (sem : SemK Kn σ0 wo Q W K Mk s1 s2) :
    ResK Kn wo s s2 a := by
  rcases h with ⟨n, hk, hq⟩ | ⟨h1, h2, h3⟩
  · exact Or.inl ⟨n, hk, sem.qkeep n a hk hq⟩
  · exact Or.inr ⟨h1, sem.akeep a h2, fun hwo => (h3 hwo).of_sem sem⟩

theorem ResK.weaken {s s1 s2 : CState} {a : Nat} (h : ResK Kn wo s1 s2 a) (sem : SemK Kn σ0 wo Q W K Mk s s1) :
    ResK Kn wo s s2 a :=
  h.imp id (fun h => ⟨sem.avail a h.1, h.2⟩)

theorem ctl_of_res {s s2 s' : CState} {f : FState} {c : Nat} (hp2 : PreK Kn kv σ0 s2)
    (hres : ResK Kn wo s s2 c) (hcur : f c = cur σ0 s2 c)
    (hk : ∀ n q, Kn n → dictGet? s2.qc.qmap n = some q → dictGet? s'.qc.qmap n = some q)
    (hm : c ∈ s2.qc.anc → c ∈ s'.qc.marked) : CtlK Kn kv s' f c := by
  rcases hres with ⟨n, hkn, hq⟩ | ⟨_, ha, _⟩
  · exact Or.inr ⟨n, hkn, hk n c hkn hq, by rw [hcur]; exact (hp2.tbl n c hkn hq).2.2⟩
  · exact Or.inl (hm ha)

theorem ExprPostK.leaf {e : BExp} {n : String} {a : Nat} {s s' : CState} (hk : Kn n)
    (hp' : PreK Kn kv σ0 s') (sem : SemK Kn σ0 wo (CtlK Kn kv s') NoQ NoK NoQ s s')
    (hq : dictGet? s'.qc.qmap n = some a) (hv : kv n = e.eval ρ) (hl : isLeaf e = true) :
    ExprPostK Kn kv ρ σ0 wo e none s s' a :=
  ⟨hp', sem.mono (fun _ _ h => h.elim) (fun _ h => h.elim) (fun _ h => h.elim),
    fun _ => ⟨Or.inl ⟨n, hk, hq⟩, hp'.sym_notAvail hk hq, by rw [(hp'.tbl n a hk hq).2.2, hv],
      fun h' => by rw [hl] at h'; cases h'⟩, fun _ hd => nomatch hd⟩

theorem exprSemK_sym (n : String) (hin : Kn n ∧ kv n = ρ n) : ExprSemK Kn kv scope ρ σ0 wo (.sym n) := by
  intro dest sym a s s' h hp _ _ _ hleaf
  obtain ⟨rfl, rfl⟩ := hleaf rfl
  unfold compileExpr at h
  obtain ⟨rfl, hq⟩ := compileSymbol_none_run h
  exact ExprPostK.leaf hin.1 hp (SemK.refl _) hq hin.2 rfl

theorem exprSemK_tt (hT : Kn "TRUE" ∧ kv "TRUE" = true) : ExprSemK Kn kv scope ρ σ0 wo .tt := by
  intro dest sym a s s' h hp _ _ _ hleaf
  obtain ⟨rfl, rfl⟩ := hleaf rfl
  unfold compileExpr at h
  obtain ⟨hp', sem, hq⟩ := constTrue_semK (wo := wo) (Q := CtlK Kn kv s') h hp (fun _ => hT.2)
  exact ExprPostK.leaf hT.1 hp' sem hq hT.2 rfl

theorem exprSemK_ff (hF : Kn "FALSE" ∧ kv "FALSE" = false) : ExprSemK Kn kv scope ρ σ0 wo .ff := by
  intro dest sym a s s' h hp _ _ _ hleaf
  obtain ⟨rfl, rfl⟩ := hleaf rfl
  unfold compileExpr at h
  obtain ⟨hp', sem, hq⟩ := constFalse_semK (wo := wo) (Q := CtlK Kn kv s') h hp (fun _ => hF.2)
  exact ExprPostK.leaf hF.1 hp' sem hq hF.2 rfl

/-- the relation of a compound node `e` whose value ends on `d`, from the relation `sem1` of what is compiled
first (the arguments) and the relation `tail` of the rest (destination, gates, marks, cache entry).  `d` is the
caller's accumulator, or comes from the scratch space, so that writing it is not seen from outside. -/
theorem ExprPostK.of_tail {e : BExp} {dest : Option Nat} {d : Nat} {s s2 s' : CState} {W1 W2 : Nat → Prop}
    {K1 K2 : BExp → Prop} {Mk1 Mk2 : Nat → Prop} (hp' : PreK Kn kv σ0 s')
    (sem1 : SemK Kn σ0 wo (CtlK Kn kv s2) W1 K1 Mk1 s s2)
    (tail : SemK Kn σ0 wo (CtlK Kn kv s') W2 K2 Mk2 s2 s')
    (hW1 : ∀ q, ¬ W1 q) (hW2 : ∀ q, W2 q → q = d) (hK : ∀ c, K1 c ∨ K2 c → c ∈ compKeys e)
    (hMk1 : ∀ m, Mk1 m → Avail s m ∧ ¬ Avail s2 m ∧ (dest = none → m ≠ d))
    (hMk2 : ∀ m, Mk2 m → Avail s m ∧ ¬ Avail s' m ∧ m ≠ d)
    (hnav : ¬ Avail s' d) (htg : wo = false → Tgt s' d)
    (hcase : (dest = some d ∧ cur σ0 s' d = Bool.xor (cur σ0 s d) (e.eval ρ)) ∨
      (dest = none ∧ Avail s d ∧ d ∈ s'.qc.anc ∧ cur σ0 s' d = e.eval ρ)) :
    ExprPostK Kn kv ρ σ0 wo e dest s s' d := by
  have hMk : ∀ m, Mk1 m ∨ Mk2 m → Avail s m ∧ ¬ Avail s' m ∧ (dest = none → m ≠ d) := by
    rintro m (h | h)
    · obtain ⟨hav, hnav2, hne⟩ := hMk1 m h
      exact ⟨hav, fun hm => hnav2 (tail.avail m hm), hne⟩
    · obtain ⟨hav, hnav', hne⟩ := hMk2 m h
      exact ⟨hav, hnav', fun _ => hne⟩
  refine ⟨hp', ((sem1.monoQ (CtlK.of_sem tail)).trans' tail).mono ?_ hK hMk, ?_, ?_⟩
  · rintro q hq (h | h)
    · exact absurd h (hW1 q)
    · cases hW2 q h
      rcases hcase with ⟨hsome, _⟩ | ⟨_, hava, _, _⟩
      · exact hsome
      · exact hq.elim (fun hq => absurd hava hq) (fun hq => absurd hq hnav)
  · rintro rfl
    rcases hcase with ⟨hsome, _⟩ | ⟨_, hava, hanc, hval⟩
    · cases hsome
    · exact ⟨Or.inr ⟨hava, hanc, htg⟩, hnav, hval, fun _ => hanc⟩
  · rintro d' rfl
    rcases hcase with ⟨hsome, hval⟩ | ⟨hnone, _⟩
    · cases hsome; exact ⟨rfl, hval, htg⟩
    · cases hnone

/-- the destination `d` of a compound node whose arguments `erets` have been compiled (state `s2`): the
caller's accumulator, or an ancilla taken from the scratch space (state `s3`); it is not among the argument
qubits -/
structure DestK (Kn : String → Prop) (kv : String → Bool) (σ0 : FState) (wo : Bool) (dest : Option Nat) (erets : List Nat)
    (s2 s3 : CState) (d : Nat) : Prop where
  pre : PreK Kn kv σ0 s3
  sem : ∀ Q, SemK Kn σ0 wo Q NoQ NoK NoQ s2 s3
  vals : cur σ0 s3 = cur σ0 s2
  notArg : d ∉ erets
  priv : PrivK Kn s3 d
  args : ∀ c ∈ erets, ¬ Avail s3 c
  case : dest = some d ∨ (dest = none ∧ Avail s2 d ∧ d ∈ s3.qc.anc ∧ cur σ0 s2 d = false)

theorem dest_semK {dest : Option Nat} {erets : List Nat} {d : Nat} {s s2 s3 : CState}
    (hp2 : PreK Kn kv σ0 s2) (hd : ∀ d, dest = some d → PrivK Kn s d)
    (sem1 : SemK Kn σ0 wo Q W K Mk s s2)
    (hb : ∀ q ∈ erets, ResK Kn wo s s2 q ∧ ¬ Avail s2 q)
    (h : (destOr dest).run s2 = .ok (d, s3)) : DestK Kn kv σ0 wo dest erets s2 s3 d := by
  cases dest with
  | some d0 =>
    obtain ⟨rfl, rfl⟩ := run_pure_ok.mp h
    refine ⟨hp2, fun _ => SemK.refl _, rfl, fun hm => ?_, (hd d rfl).next sem1, fun c hc => (hb c hc).2, Or.inl rfl⟩
    rcases (hb d hm).1 with ⟨n, hk, hq⟩ | ⟨hav, _, _⟩
    · exact ((hd d rfl).next sem1).2 n hk hq
    · exact (hd d rfl).1 hav
  | none =>
    have hf := fun Q => getFreeAncilla_semK (wo := wo) (Q := Q) h hp2
    obtain ⟨hp3, semf, hcf, hav, hnav, hanc⟩ := hf Q
    exact ⟨hp3, fun Q => (hf Q).2.1, hcf, fun hm => (hb d hm).2 hav,
      ⟨hnav, fun n hk hq => (hp3.tbl n d hk hq).2.1 hanc⟩, fun c hc hc' => (hb c hc).2 (semf.avail c hc'),
      Or.inr ⟨rfl, hav, hanc, hp2.zero d hav⟩⟩

theorem cacheResult_semK {dest : Option Nat} {e : BExp} {d a : Nat} {s s' : CState}
    (h : (cacheResult dest e d).run s = .ok (a, s')) (hp : PreK Kn kv σ0 s) (hd : d < s.qc.numQubits) :
    a = d ∧ PreK Kn kv σ0 s' ∧ SemK Kn σ0 wo Q NoQ (· = e) NoQ s s' ∧ cur σ0 s' = cur σ0 s := by
  unfold cacheResult at h
  rcases run_ite_ok.mp h with ⟨_, h⟩ | ⟨_, h⟩
  · obtain ⟨u, s2, hset, h2⟩ := run_bind_ok.mp h
    obtain ⟨e1, rfl⟩ := run_pure_ok.mp h2
    obtain ⟨hp2, sem2, hc2, _⟩ := expqSet_semK (wo := wo) (Q := Q) hset hp hd
    exact ⟨e1, hp2, sem2, hc2⟩
  · obtain ⟨e1, rfl⟩ := run_pure_ok.mp h
    exact ⟨e1, hp, SemK.refl _, rfl⟩

theorem finish_semK {es : List Nat} {dest : Option Nat} {e : BExp} {d a : Nat} {s s' : CState}
    (h : (finishM es dest e d).run s = .ok (a, s')) (hp : PreK Kn kv σ0 s) (hd : d < s.qc.numQubits)
    (htgt : wo = false → ∀ m ∈ es, m ∈ s.qc.anc → Tgt s m) :
    a = d ∧ PreK Kn kv σ0 s' ∧ SemK Kn σ0 wo Q NoQ (· = e) (fun m => m ∈ es ∧ m ∈ s.qc.anc) s s' ∧
      cur σ0 s' = cur σ0 s ∧ (∀ m ∈ es, m ∈ s.qc.anc → m ∉ s.qc.kept → m ∈ s'.qc.marked) := by
  unfold finishM at h
  obtain ⟨u1, s1, hm, h1⟩ := run_bind_ok.mp h
  obtain ⟨hp1, sem1, hc1, hmk1, _, hn1⟩ := markAll_semK (wo := wo) (Q := Q) hm hp htgt
  obtain ⟨e1, hp2, sem2, hc2⟩ := cacheResult_semK (wo := wo) (Q := Q) h1 hp1 (by rw [hn1]; exact hd)
  exact ⟨e1, hp2, (sem1.trans' sem2).mono (fun _ _ h' => h'.elim id id) (fun _ h' => h'.elim False.elim id)
    (fun _ h' => h'.elim id False.elim), hc2.trans hc1, fun m hm' ha hk => sem2.mkeep m (hmk1 m hm' ha hk)⟩

/-- the end of a compound node that xors its value into a destination `d` other than its argument qubits:
after the gates (state `t`; they read the argument qubits `es`, write `d` and ancillas of their own) the
arguments' ancillas are marked and the node is entered in the cache.  The gates are given with the condition
on their controls that is known before the marks are set: the control is marked already or is an argument qubit
with its value of before the gates. -/
theorem node_fin {e : BExp} {dest : Option Nat} {erets es : List Nat} {d a : Nat} {s s2 s3 t s' : CState}
    {W1 : Nat → Prop} {K1 : BExp → Prop} {Mk1 : Nat → Prop}
    (hp : PreK Kn kv σ0 s) (hd : ∀ d, dest = some d → PrivK Kn s d) (hp2 : PreK Kn kv σ0 s2)
    (sem1 : SemK Kn σ0 wo (CtlK Kn kv s2) W1 K1 Mk1 s s2) (hW1 : ∀ q, ¬ W1 q)
    (hK1 : ∀ c, K1 c → c ∈ compKeys e) (hself : e ∈ compKeys e)
    (hMk1 : ∀ m, Mk1 m → Avail s m ∧ ¬ Avail s2 m)
    (hb : ∀ q ∈ erets, ResK Kn wo s s2 q ∧ ¬ Avail s2 q) (hes : ∀ c ∈ es, c ∈ erets)
    (D : DestK Kn kv σ0 wo dest erets s2 s3 d) (hpt : PreK Kn kv σ0 t)
    (semg : SemK Kn σ0 wo (fun f c => c ∈ t.qc.marked ∨ (c ∈ es ∧ f c = cur σ0 s3 c)) (· = d) NoK
      (fun m => Avail s3 m ∧ ¬ Avail t m ∧ m ≠ d) s3 t)
    (hv : cur σ0 t d = Bool.xor (cur σ0 s3 d) (e.eval ρ)) (htd : wo = false → Tgt t d)
    (hrun : (finishM es dest e d).run t = .ok (a, s')) :
    ExprPostK Kn kv ρ σ0 wo e dest s s' a := by
  have semd := D.sem (CtlK Kn kv s')
  have hnavt : ¬ Avail t d := fun h => D.priv.1 (semg.avail d h)
  obtain ⟨rfl, hp', semf, hcf, hmkf⟩ := finish_semK (wo := wo) (Q := CtlK Kn kv s') hrun hpt (notAvail_lt hnavt)
    (fun hwo m hm ha => (((hb m (hes m hm)).1.next semd).next semg).tgt_of_anc hpt ha hwo)
  have hQ : ∀ f c, (c ∈ t.qc.marked ∨ (c ∈ es ∧ f c = cur σ0 s3 c)) → CtlK Kn kv s' f c := by
    rintro f c (hm | ⟨hc, hf⟩)
    · exact Or.inl (semf.mkeep c hm)
    · have hres := (hb c (hes c hc)).1
      refine ctl_of_res hp2 hres (by rw [hf, D.vals])
        (fun n q hk hq => semf.qkeep n q hk (semg.qkeep n q hk (semd.qkeep n q hk hq)))
        (fun ha => hmkf c hc (semg.akeep c (semd.akeep c ha)) ?_)
      rw [semg.kkeep, semd.kkeep, sem1.kkeep]
      exact hp.notKept (hres.sym_or_anc hp2 ha)
  have tail := (semd.trans' (semg.monoQ hQ)).trans' semf
  have hd2 : Avail s2 a → Avail s a := sem1.avail a
  refine ExprPostK.of_tail hp' sem1 tail (hW1 := hW1)
    (hW2 := fun _ h => h.elim (·.elim False.elim id) False.elim) (hK := ?_) (hMk1 := ?_) (hMk2 := ?_)
    (hnav := fun h => hnavt (semf.avail a h)) (htg := fun hwo => (htd hwo).of_sem semf) (hcase := ?_)
  · rintro c (h | ((h | h) | rfl))
    · exact hK1 c h
    · exact h.elim
    · exact h.elim
    · exact hself
  · intro m hm
    obtain ⟨hav, hnav2⟩ := hMk1 m hm
    refine ⟨hav, hnav2, fun hn e => ?_⟩
    rcases D.case with hsome | ⟨_, hava, _, _⟩
    · rw [hsome] at hn; cases hn
    · exact hnav2 (e ▸ hava)
  · rintro m ((h | ⟨hav3, hnavm, hne⟩) | ⟨hmes, hanc⟩)
    · exact h.elim
    · exact ⟨sem1.avail m (semd.avail m hav3), fun hm => hnavm (semf.avail m hm), hne⟩
    · obtain ⟨hres, hnav2⟩ := hb m (hes m hmes)
      exact ⟨((hres.next semd).next semg).sym_or_anc hpt hanc, fun h' => hnav2 (tail.avail m h'),
        fun e => D.notArg (e ▸ hes m hmes)⟩
  · rcases D.case with hsome | ⟨hnone, hava, hanc, hz⟩
    · refine Or.inl ⟨hsome, ?_⟩
      rw [hcf, hv, D.vals, sem1.frame a (hW1 a) (Or.inl (hd a hsome).1)]
    · exact Or.inr ⟨hnone, hd2 hava, semf.akeep a (semg.akeep a hanc),
        by rw [hcf, hv, D.vals, hz, Bool.false_xor]⟩

theorem exprSemK_not {x : BExp} (hx : ∀ n, x = .sym n → n ∈ scope) (ih : ExprSemK Kn kv scope ρ σ0 wo x) :
    ExprSemK Kn kv scope ρ σ0 wo (.not x) := by
  intro dest sym a s1 s' h hp hcache hd hsym _
  rw [compileExpr_not] at h
  rcases run_ite_ok.mp (cachedM_miss h (fun p hp' => hcache p hp' _ List.mem_cons_self)) with ⟨hc, _⟩ | ⟨_, h1⟩
  · exfalso
    unfold isSelfNot at hc
    cases x with
    | sym n =>
      cases sym with
      | some sy =>
        have e1 : n = sy := by simpa using hc
        exact hsym sy rfl (e1 ▸ hx n rfl)
      | none => simp at hc
    | _ => simp at hc
  · obtain ⟨shared, s1', hsh, h1⟩ := run_bind_ok.mp h1
    rw [(expqGet?_run hsh).1] at h1
    obtain ⟨eret, s2, he, h2⟩ := run_bind_ok.mp h1
    obtain ⟨hp2, sem1, hv1, _⟩ := ih none none he hp
      (fun p hp' c hc => hcache p hp' c (List.mem_cons_of_mem _ hc)) (fun _ hd0 => nomatch hd0)
      (fun _ hy => nomatch hy) (fun _ => ⟨rfl, rfl⟩)
    obtain ⟨hres, hnav2, hval, _⟩ := hv1 rfl
    obtain ⟨qc, s3, hq, h3⟩ := run_bind_ok.mp h2
    obtain ⟨rfl, rfl⟩ := getQC_run hq
    have hK1 : ∀ c, c ∈ compKeys x → c ∈ compKeys (.not x) := fun c hc => List.mem_cons_of_mem _ hc
    have hself : BExp.not x ∈ compKeys (.not x) := List.mem_cons_self
    replace h3 := run_ite_ok.mp h3
    rcases h3 with ⟨hcond, h3⟩ | ⟨_, h3⟩
    · -- in place on the ancilla that holds the argument
      simp only [Bool.and_eq_true] at hcond
      have hdn : dest = none := by
        cases dest with
        | none => rfl
        | some d => simp at hcond
      subst hdn
      have hanc : eret ∈ s3.qc.anc := by simpa using hcond.1.2
      have hpriv : PrivK Kn s3 eret := ⟨hnav2, fun n hk hq' => (hp2.tbl n eret hk hq').2.1 hanc⟩
      obtain ⟨u1, s4, hev, h4⟩ := run_bind_ok.mp h3
      obtain ⟨u2, s5, hx', h5⟩ := run_bind_ok.mp h4
      obtain ⟨u3, s6, hset, h6⟩ := run_bind_ok.mp h5
      obtain ⟨rfl, rfl⟩ := run_pure_ok.mp h6
      obtain ⟨hp4, sem4, hc4⟩ := event_semK (wo := wo) (Q := CtlK Kn kv s') hev hp2
      obtain ⟨hp5, ax, sem5, tg5⟩ := xGate_own (wo := wo) (Q := CtlK Kn kv s') hx' hp4 (hpriv.next sem4)
      obtain ⟨hp6, sem6, hc6, _⟩ := expqSet_semK (wo := wo) (Q := CtlK Kn kv s') hset hp5
        (by rw [ax.nq]; exact notAvail_lt (hpriv.next sem4).1)
      have tail := (sem4.trans' sem5).trans' sem6
      refine ExprPostK.of_tail hp6 sem1 tail (hW1 := fun _ h => nomatch h)
        (hW2 := fun _ h => h.elim (·.elim False.elim id) False.elim) (hK := ?_)
        (hMk1 := fun m ⟨hav, hnavm, hne⟩ => ⟨hav, hnavm, fun _ => hne rfl⟩)
        (hMk2 := fun _ h => h.elim (·.elim False.elim False.elim) False.elim)
        (hnav := fun h' => hnav2 (tail.avail a h')) (htg := fun _ => tg5.of_sem sem6)
        (hcase := Or.inr ⟨rfl, hres.sym_or_anc hp2 hanc, tail.akeep a hanc, ?_⟩)
      · rintro c (h | ((h | h) | rfl))
        · exact hK1 c h
        · exact h.elim
        · exact h.elim
        · exact hself
      · rw [hc6, ax.cur_eq rfl σ0, hc4, hval]
        simp [BExp.eval]
    · -- copy (`CX`) into the destination and negate (`X`)
      unfold notCopyM at h3
      obtain ⟨d, s4, hdest, h4⟩ := run_bind_ok.mp h3
      have D := dest_semK (erets := [eret]) hp2 hd sem1
        (fun q hq' => List.mem_singleton.mp hq' ▸ ⟨hres, hnav2⟩) hdest
      obtain ⟨u1, t1, hcx, k1⟩ := run_bind_ok.mp h4
      obtain ⟨u2, t2, hx', k2⟩ := run_bind_ok.mp k1
      rw [← markAll_single] at k2
      obtain ⟨hpt1, a1, semc, tgc⟩ := cx_own (wo := wo)
        (Q := fun f c => c ∈ t2.qc.marked ∨ (c ∈ [eret] ∧ f c = cur σ0 s4 c)) hcx D.pre D.priv
        (D.args eret List.mem_cons_self) (fun _ => Or.inr ⟨List.mem_cons_self, rfl⟩)
      obtain ⟨hpt2, a2, semx, _⟩ := xGate_own (wo := wo)
        (Q := fun f c => c ∈ t2.qc.marked ∨ (c ∈ [eret] ∧ f c = cur σ0 s4 c)) hx' hpt1 (D.priv.next semc)
      refine node_fin hp hd hp2 sem1 (hW1 := fun _ h => nomatch h) (hK1 := hK1) (hself := hself)
        (hMk1 := fun m ⟨hav, hnavm, _⟩ => ⟨hav, hnavm⟩)
        (hb := fun q hq' => List.mem_singleton.mp hq' ▸ ⟨hres, hnav2⟩) (hes := fun _ hc => hc) D hpt2
        (semg := (semc.trans' semx).mono (hw := fun _ _ h => h.elim id id) (hk := fun _ h => h.elim id id)
          (hm := fun _ h => h.elim False.elim False.elim))
        (hv := ?_) (htd := fun _ => tgc.of_sem semx) k2
      have hcx1 : cur σ0 t1 d = Bool.xor (cur σ0 s4 d) (cur σ0 s4 eret) := by
        rw [a1.cur_eq rfl σ0]
        simp only [List.all_cons, List.all_nil, Bool.and_true]
      rw [a2.cur_eq rfl σ0, hcx1]
      simp only [List.all_nil, Bool.xor_true]
      rw [bnot_xor, D.vals, hval]
      rfl

/-! `Res scope` is `ResK (Known scope)` by definition; `ArgsSem2` / `XorSem2` are `ArgsSemK` / `XorSemK` at
`Known scope`, `kval ρ` with `Pre2` / `Sem2` for `PreK` / `SemK`. -/

def Res (scope : List String) (wo : Bool) (s s' : CState) (a : Nat) : Prop :=
  (∃ n, Known scope n ∧ dictGet? s'.qc.qmap n = some a) ∨
    (Avail s a ∧ a ∈ s'.qc.anc ∧ (wo = false → Tgt s' a))

def ArgsSem2 (scope : List String) (ρ : Env) (σ0 : FState) (wo : Bool) (as : List BExp) : Prop :=
  ∀ {rs : List Nat} {s s' : CState}, (compileArgs as).run s = .ok (rs, s') →
    Pre2 scope ρ σ0 s →
    (∀ p ∈ s.expq, ∀ c ∈ compKeysList as, (p.1 == c) = false) →
    Pre2 scope ρ σ0 s' ∧
    Sem2 scope σ0 wo (CtlQ scope ρ s') NoQ (· ∈ compKeysList as) (fun m => Avail s m ∧ ¬ Avail s' m) s s' ∧
    rs.map (cur σ0 s') = as.map (BExp.eval ρ) ∧
    (∀ q ∈ rs, Res scope wo s s' q ∧ ¬ Avail s' q) ∧
    ((∀ a ∈ as, isLeaf a = false) → ∀ q ∈ rs, q ∈ s'.qc.anc)

def XorSem2 (scope : List String) (ρ : Env) (σ0 : FState) (wo : Bool) (as : List BExp) : Prop :=
  ∀ (d : Nat) {a : Nat} {s s' : CState}, (compileXorArgs as d).run s = .ok (a, s') →
    Pre2 scope ρ σ0 s →
    (∀ p ∈ s.expq, ∀ c ∈ compKeysList as, (p.1 == c) = false) →
    Priv scope s d →
    a = d ∧ Pre2 scope ρ σ0 s' ∧
    Sem2 scope σ0 wo (CtlQ scope ρ s') (· = d) (· ∈ compKeysList as) (fun m => Avail s m ∧ ¬ Avail s' m) s s' ∧
      cur σ0 s' d = Bool.xor (cur σ0 s d) (evalXor ρ as) ∧ (wo = false → as ≠ [] → Tgt s' d)

theorem Res.notKept {s s' : CState} {a : Nat} (hp : Pre2 scope ρ σ0 s) (hp' : Pre2 scope ρ σ0 s')
    (h : Res scope wo s s' a) (ha : a ∈ s'.qc.anc) (hk : s'.qc.kept = s.qc.kept) : a ∉ s'.qc.kept := by
  rw [hk]; exact hp.notKept (ResK.sym_or_anc hp'.toK h ha)

theorem ArgsSem2.ofK {as : List BExp} (h : ArgsSemK (Known scope) (kval ρ) ρ σ0 wo as) :
    ArgsSem2 scope ρ σ0 wo as := by
  intro rs s s' hr hp hc
  obtain ⟨hp', sem, h1, h2, h3⟩ := h hr hp.toK hc
  exact ⟨hp.ofK hp' sem, .ofK sem, h1, h2, h3⟩

theorem XorSem2.ofK {as : List BExp} (h : XorSemK (Known scope) (kval ρ) ρ σ0 wo as) :
    XorSem2 scope ρ σ0 wo as := by
  intro d a s s' hr hp hc hd
  obtain ⟨h0, hp', sem, h1, h2⟩ := h d hr hp.toK hc hd
  exact ⟨h0, hp.ofK hp' sem, .ofK sem, h1, h2⟩

end QV.Compiler
