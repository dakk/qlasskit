import QV.Model.Ast2Ast
namespace QV.A2A

/-- the annotation `Qlist[T, n]` -/
def qlistAnn (T : SExp) (n : Nat) : SExp := .sub (.name "Qlist") (.tuple [T, .const (.int n)])
/-- the annotation `Qmatrix[T, n, m]` (`n` rows of `m` elements) -/
def qmatrixAnn (T : SExp) (n m : Nat) : SExp :=
  .sub (.name "Qmatrix") (.tuple [T, .const (.int n), .const (.int m)])

/-- the type `Tuple[(T,)*n]` the environment holds for a `Qlist[T, n]` argument -/
def listTy (T : SExp) (n : Nat) : SExp := .sub (.name "Tuple") (.tuple (List.replicate n T))
/-- the type the environment holds for a `Qmatrix[T, n, m]` argument: `n` bare tuples of `m` elements -/
def matrixTy (T : SExp) (n m : Nat) : SExp :=
  .sub (.name "Tuple") (.tuple (List.replicate n (.tuple (List.replicate m T))))

theorem replaceAnn_qlist (T T' : SExp) (n : Nat) (hT : replaceAnn T = .ok T') :
    replaceAnn (qlistAnn T n) = .ok (listTy T' n) := by
  simp [qlistAnn, listTy, replaceAnn, hT, bind, Except.bind, pure, Except.pure]

theorem replaceAnn_qmatrix (T T' : SExp) (n m : Nat) (hT : replaceAnn T = .ok T') :
    replaceAnn (qmatrixAnn T n m) = .ok (matrixTy T' n m) := by
  simp [qmatrixAnn, matrixTy, replaceAnn, hT, bind, Except.bind, pure, Except.pure]

/-- the element annotation is elaborated first (f3ecbf2): `Qlist[Qlist[T, m], n]` is `n` rows `Tuple[(T,)*m]` -/
theorem replaceAnn_qlist_qlist (T T' : SExp) (n m : Nat) (hT : replaceAnn T = .ok T') :
    replaceAnn (qlistAnn (qlistAnn T m) n) = .ok (listTy (listTy T' m) n) :=
  replaceAnn_qlist _ _ n (replaceAnn_qlist T T' m hT)

/-- a one-element `Tuple[bool]` (its slice is not a tuple) is elaborated into a one-element tuple type (f3ecbf2) -/
theorem replaceAnn_tuple1_bool : replaceAnn (.sub (.name "Tuple") (.name "bool")) = .ok (listTy (.name "bool") 1) := by
  rfl

/-- a tuple type whose rows may be `Tuple[…]` annotations or bare tuples (what `Tuple[Tuple[…], …]`, `Qlist[Qlist…]`,
`Qmatrix` give) -/
def rowLen : SExp → Option Nat
  | .sub _ (.tuple es) => some es.length
  | .tuple es => some es.length
  | _ => none

/-- a row is a tuple of its elements once the head of a `Tuple[…]` annotation is stripped, as `visit_Subscript` and
`__unroll_arg` strip it -/
theorem rowLen_cases {row : SExp} {m : Nat} (h : rowLen row = some m) :
    ∃ es : List SExp, es.length = m ∧ ((∃ v, row = .sub v (.tuple es)) ∨ row = .tuple es) := by
  cases row with
  | sub v sl =>
    cases sl with
    | tuple es => exact ⟨es, by simpa [rowLen] using h, .inl ⟨v, rfl⟩⟩
    | _ => simp [rowLen] at h
  | tuple es => exact ⟨es, by simpa [rowLen] using h, .inr rfl⟩
  | _ => simp [rowLen] at h

theorem lenOfType_ann (st : RSt) (L hd : String) (es : List SExp)
    (h : lookup st.types L = some (.ann (.sub (.name hd) (.tuple es)))) : lenOfType st L = .ok es.length := by
  simp [lenOfType, h, EVal.asNode?, typeSlice, sliceOf, eltsOf, bind, Except.bind, pure, Except.pure]

/-- a constant table: `c = [a, b, …]` stores the tuple node itself as the type of `c` -/
theorem lenOfType_node (st : RSt) (L : String) (es : List SExp)
    (h : lookup st.types L = some (.node (.tuple es))) : lenOfType st L = .ok es.length := by
  simp [lenOfType, h, EVal.asNode?, pure, Except.pure]

theorem visitE_index1 (st : RSt) (L i : String) (n : Nat) (hn : lenOfType st L = .ok (n + 1))
    (hi : lookup st.consts i = none) : visitE st (.sub (.name L) (.name i)) = .ok (ifChain1 L i 0 n) := by
  simp only [visitE, visitSub, constSlice, hi]
  simp [visitSub1, hn, bind, Except.bind, pure, Except.pure]

theorem dimsOfType_ann (st : RSt) (L hd : String) (row : SExp) (rows : List SExp) (m : Nat)
    (h : lookup st.types L = some (.ann (.sub (.name hd) (.tuple (row :: rows))))) (hrow : rowLen row = some m) :
    dimsOfType st L = .ok (rows.length + 1, m) := by
  obtain ⟨es, rfl, ⟨v, rfl⟩ | rfl⟩ := rowLen_cases hrow <;>
    simp [dimsOfType, h, EVal.asNode?, typeSlice, sliceOf, eltsOf, bind, Except.bind, pure, Except.pure]

theorem dimsOfType_matrix (st : RSt) (L : String) (T : SExp) (n m : Nat)
    (h : lookup st.types L = some (.ann (matrixTy T (n + 1) m))) : dimsOfType st L = .ok (n + 1, m) := by
  have := dimsOfType_ann st L "Tuple" (.tuple (List.replicate m T))
    (List.replicate n (.tuple (List.replicate m T))) m (by simpa [matrixTy, List.replicate_succ] using h)
    (by simp [rowLen])
  simpa using this

/-- `visit_Subscript` on `L[i][j]`: for a type with `n + 1` rows whose row 0 has `m + 1` elements, the if-chain over
the positions `(0,0) … (n, m)` in row-major order -/
theorem visitE_index2 (st : RSt) (L i j : String) (n m : Nat) (hd : dimsOfType st L = .ok (n + 1, m + 1))
    (hj : lookup st.consts j = none) :
    visitE st (.sub (.sub (.name L) (.name i)) (.name j)) = .ok (ifChain2 L i j (positions (n + 1) (m + 1))) := by
  simp only [visitE, visitSub, constSlice, hj]
  simp [visitSub2, hd, bind, Except.bind, pure, Except.pure]

def elems1 (L : String) (n : Nat) : List SExp := (List.range n).map fun i => access1 L i
def elems2 (L : String) (c m : Nat) : List SExp := (List.range m).map fun i => access2 L c i

theorem elems1_length (L : String) (n : Nat) : (elems1 L n).length = n := by simp [elems1]

theorem elems2_length (L : String) (c m : Nat) : (elems2 L c m).length = m := by simp [elems2]

theorem unrollArg_name (st : RSt) (t : String) (es : List SExp)
    (h : lookup st.types t = some (.ann (.sub (.name "Tuple") (.tuple es)))) :
    ∀ strict, unrollArg st strict (.name t) = .ok (elems1 t es.length) := by
  intro strict
  simp [unrollArg, h, EVal.asNode?, eltsOf, bind, Except.bind, pure, Except.pure, elems1, access1]

/-- `__unroll_arg` on a row `L[c]`: as many elements as *that row* has (`C01-matrix-row-length` took the number of rows) -/
theorem unrollArg_row (st : RSt) (L hd : String) (rows : List SExp) (c m : Nat) (row : SExp)
    (h : lookup st.types L = some (.ann (.sub (.name hd) (.tuple rows)))) (hc : rows[c]? = some row)
    (hrow : rowLen row = some m) :
    ∀ strict, unrollArg st strict (.sub (.name L) (.const (.int c))) = .ok (elems2 L c m) := by
  intro strict
  have hlt : c < rows.length := by
    rcases Nat.lt_or_ge c rows.length with h1 | h1
    · exact h1
    · rw [List.getElem?_eq_none h1] at hc; cases hc
  have hget : rows.getD c (.const (.int c)) = row := by
    simp [List.getD, hc]
  have hidx : pyIndex rows (.int c) = .ok row := by
    simp only [pyIndex, Const.asInt?, Option.getD_some]
    have h0 : ¬ ((c : Int) < 0) := by omega
    have h1 : (0 : Int) ≤ (c : Int) ∧ (c : Int) < (rows.length : Int) := ⟨by omega, by exact_mod_cast hlt⟩
    simp only [h0, if_false, h1, and_self, if_true, Int.toNat_natCast, hget, pure, Except.pure]
  obtain ⟨es, rfl, ⟨v, rfl⟩ | rfl⟩ := rowLen_cases hrow <;>
    simp [unrollArg, h, EVal.asNode?, hidx, bind, Except.bind, pure, Except.pure, elems2, access2]

theorem unrollArg_matrix_row (st : RSt) (L : String) (T : SExp) (n m c : Nat) (hc : c < n)
    (h : lookup st.types L = some (.ann (matrixTy T n m))) :
    ∀ strict, unrollArg st strict (.sub (.name L) (.const (.int c))) = .ok (elems2 L c m) :=
  unrollArg_row st L "Tuple" _ c m (.tuple (List.replicate m T)) h
    (by simp [hc]) (by simp [rowLen])

theorem visitE_const_sub (st : RSt) (L : String) (c : Const) :
    visitE st (.sub (.name L) (.const c)) = .ok (.sub (.name L) (.const c)) := by
  simp [visitE, visitSub, constSlice, visitSubTable, pure, Except.pure]

theorem visitE_user_name (st : RSt) (t : String) (ht : isDunder t = false) : visitE st (.name t) = .ok (.name t) := by
  simp [visitE, ht, pure, Except.pure]

theorem visitCall_len (st : RSt) (a : SExp) (xs : List SExp) (h : unrollArg st true a = .ok xs) :
    visitCall st "len" [a] = .ok (.const (.int xs.length)) := by
  simp [visitCall, h, bind, Except.bind, pure, Except.pure]

theorem visitCall_sum (st : RSt) (a : SExp) (xs : List SExp) (h : unrollArg st true a = .ok xs) :
    visitCall st "sum" [a] = sumChain xs := by
  simp [visitCall, h, bind, Except.bind]

theorem visitCall_all (st : RSt) (a : SExp) (xs : List SExp) (h : unrollArg st true a = .ok xs) :
    visitCall st "all" [a] = .ok (.boolop true xs) := by
  simp [visitCall, h, bind, Except.bind, pure, Except.pure]

theorem visitCall_any (st : RSt) (a : SExp) (xs : List SExp) (h : unrollArg st true a = .ok xs) :
    visitCall st "any" [a] = .ok (.boolop false xs) := by
  simp [visitCall, h, bind, Except.bind, pure, Except.pure]

/-- `len`, `sum`, `any`, `all` (and one-argument `min` / `max`) refuse an argument `__unroll_arg` does not know - an
if-expression (`m[i]` with a variable row index, once visited), a scalar variable … (`strict`, 5e521a1; a loop header takes
such a node as its own only element) -/
theorem unrollArg_strict_ite (st : RSt) (c a b : SExp) :
    unrollArg st true (.ite c a b) = .error (.exc "Exception" "Not an iterable of known length") := by
  simp [unrollArg, unrollRest, throw, throwThe, MonadExceptOf.throw]

theorem visitCall_len_ite (st : RSt) (c a b : SExp) :
    visitCall st "len" [.ite c a b] = .error (.exc "Exception" "Not an iterable of known length") := by
  simp [visitCall, unrollArg_strict_ite, bind, Except.bind]

theorem visitE_call1 (st : RSt) (fn : String) (a a' : SExp) (h : visitE st a = .ok a') :
    visitE st (.call fn [a]) = visitCall st fn [a'] := by
  simp [visitE, visitEs, h, bind, Except.bind, pure, Except.pure]

end QV.A2A
