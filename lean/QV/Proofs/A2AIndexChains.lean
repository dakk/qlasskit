import QV.Proofs.A2AChain
/-! Stated for a family `acc` of expressions that stand for the element accesses (`L[a]`, `L[a][b]`): `Sem.semW` gives a
subscript of a tuple-typed variable no value of its own, so the values of the accesses are hypotheses. -/
namespace QV.A2A
open QV.Front QV.Sem

theorem constWidth_lt (v : Int) (w : Nat) (h : constWidth v = some w) : v < (2 : Int) ^ w := by
  have := List.find?_some h
  simpa using this

-- 65536 = 2^16, the largest of `constWidths`: the bound on index constants and table lengths here and in `A2ATable.lean`
theorem constWidth_some (k : Nat) (hk : k < 65536) : ∃ w, constWidth (k : Int) = some w := by
  cases h : constWidth (k : Int) with
  | some w => exact ⟨w, rfl⟩
  | none =>
    have := List.find?_eq_none.mp h 16 (by simp [constWidths])
    simp only [decide_eq_true_eq, Int.not_lt] at this
    have h2 : ((2 : Int) ^ 16) = 65536 := by norm_num
    omega

theorem semW_cint_nat (σ : SEnv) (k : Nat) (hk : k < 65536) : ∃ w, semW σ (.cint k) = some (.int w k) := by
  obtain ⟨w, hw⟩ := constWidth_some k hk
  refine ⟨w, ?_⟩
  have hlt := constWidth_lt _ _ hw
  simp only [semW, hw]
  have h0 : (0 : Int) ≤ (k : Int) := by omega
  have : ((k : Int) % (2 : Int) ^ w).toNat = k := by
    rw [Int.emod_eq_of_lt h0 hlt]; simp
  rw [this]

theorem semW_eq_const (σ : SEnv) (ip : PExp) (wi x k : Nat) (hi : semW σ ip = some (.int wi x)) (hk : k < 65536) :
    semW σ (.cmp "Eq" ip (.cint k)) = some (.bool (decide (x = k))) := by
  obtain ⟨w, hw⟩ := semW_cint_nat σ k hk
  simp only [semW, hi, cmpNat, Option.map_some] at hw ⊢
  rw [hw]

/-- `toP` of `ifChain1`, for any expressions standing for the accesses -/
def chain1P (acc : Nat → PExp) (i : String) : Nat → Nat → PExp
  | k, 0 => acc k
  | k, r + 1 => .ite (.cmp "Eq" (.name i) (.cint k)) (acc k) (chain1P acc i (k + 1) r)

theorem toP_access1 (L : String) (k : Nat) : toP (access1 L k) = .subs L [(k : Int)] := by
  simp [access1, toP, subsPath]

theorem toP_ifChain1 (L i : String) : ∀ (k r : Nat),
    toP (ifChain1 L i k r) = chain1P (fun a => .subs L [(a : Int)]) i k r
  | k, 0 => by simp [ifChain1, chain1P, toP_access1]
  | k, r + 1 => by
    simp only [ifChain1, chain1P, toP, toP_access1, toP_ifChain1 L i (k + 1) r]

theorem chain1P_eq (acc : Nat → PExp) (i : String) : ∀ (r k : Nat),
    chain1P acc i k r = selChain (fun a : Nat => .cmp "Eq" (.name i) (.cint a)) acc (List.range' k r) (acc (k + r))
  | 0, k => rfl
  | r + 1, k => by
    rw [chain1P, chain1P_eq acc i r (k + 1), Nat.add_right_comm k 1 r]
    rfl

/-- `L[i]` selects element `i`: with `n + 1` elements of one type, held by the expressions `acc a`, and `x ≤ n`
the value of the index, the if-chain of `create_if_exp` has the value `vals[x]` - python's indexing of the decoded list -/
theorem chain1_selects (σ : SEnv) (acc : Nat → PExp) (vals : List SVal) (T : Option Nat) (i : String) (wi x n : Nat)
    (hi : σ i = some (.int wi x)) (hx : x ≤ n) (hn : n < 65536)
    (hacc : ∀ a, a ≤ n → ∃ v, pyIndex1 vals a = some v ∧ semW σ (acc a) = some v ∧ tyOf v = T) :
    semW σ (chain1P acc i 0 n) = pyIndex1 vals x := by
  have hmem : ∀ a ∈ List.range' 0 n ++ [0 + n], a ≤ n := fun a ha => by
    simp only [List.mem_append, List.mem_range'_1, List.mem_singleton] at ha; omega
  rw [chain1P_eq]
  exact selChain_key σ _ acc (pyIndex1 vals) T x (0 + n) _
    (by simp only [List.mem_append, List.mem_range'_1, List.mem_singleton]; omega)
    (fun a ha => hacc a (hmem a ha))
    (fun a ha => by
      have := hmem a (List.mem_append_left _ ha)
      simpa only [eq_comm] using semW_eq_const σ (.name i) wi x a hi (by omega))

def chain2P (acc : Nat → Nat → PExp) (i j : String) : List (Nat × Nat) → PExp
  | [] => acc 0 0
  | [p] => acc p.1 p.2
  | p :: q :: ps =>
    .ite (.boolop true [.cmp "Eq" (.name i) (.cint p.1), .cmp "Eq" (.name j) (.cint p.2)]) (acc p.1 p.2)
      (chain2P acc i j (q :: ps))

theorem toP_access2 (L : String) (a b : Nat) : toP (access2 L a b) = .subs L [(a : Int), (b : Int)] := by
  simp [access2, toP, subsPath]

theorem toP_ifChain2 (L i j : String) : ∀ ps : List (Nat × Nat),
    toP (ifChain2 L i j ps) = chain2P (fun a b => .subs L [(a : Int), (b : Int)]) i j ps
  | [] => by simp [ifChain2, chain2P, toP_access2]
  | [p] => by simp [ifChain2, chain2P, toP_access2]
  | p :: q :: ps => by
    simp only [ifChain2, chain2P, toP, toPs, toP_access2, toP_ifChain2 L i j (q :: ps)]

/-- the test `i == a and j == b` of position `(a, b)` -/
def test2 (i j : String) (p : Nat × Nat) : PExp :=
  .boolop true [.cmp "Eq" (.name i) (.cint p.1), .cmp "Eq" (.name j) (.cint p.2)]

theorem chain2P_eq (acc : Nat → Nat → PExp) (i j : String) (q : Nat × Nat) : ∀ l : List (Nat × Nat),
    chain2P acc i j (l ++ [q]) = selChain (test2 i j) (fun p => acc p.1 p.2) l (acc q.1 q.2)
  | [] => rfl
  | [p] => rfl
  | p :: p' :: l => by
    show PExp.ite _ _ (chain2P acc i j ((p' :: l) ++ [q])) = _
    rw [chain2P_eq acc i j q (p' :: l)]
    rfl

theorem semW_test2 (σ : SEnv) (i j : String) (wi wj x y : Nat) (hi : σ i = some (.int wi x)) (hj : σ j = some (.int wj y))
    (p : Nat × Nat) (h1 : p.1 < 65536) (h2 : p.2 < 65536) :
    semW σ (test2 i j p) = some (.bool (decide (p = (x, y)))) := by
  have hl : semWList σ [PExp.cmp "Eq" (.name i) (.cint p.1), .cmp "Eq" (.name j) (.cint p.2)]
      = some [.bool (decide (x = p.1)), .bool (decide (y = p.2))] := by
    rw [semWList, semW_eq_const σ (.name i) wi x p.1 hi h1, semWList, semW_eq_const σ (.name j) wj y p.2 hj h2, semWList]
  rw [test2, semW, hl]
  simp [boolFold, Prod.ext_iff, eq_comm]

theorem mem_positions (n m x y : Nat) (hx : x < n) (hy : y < m) : (x, y) ∈ positions n m := by
  simp only [positions, List.mem_flatMap, List.mem_range, List.mem_map]
  exact ⟨x, hx, y, hy, rfl⟩

theorem positions_bound (n m : Nat) (p : Nat × Nat) (h : p ∈ positions n m) : p.1 < n ∧ p.2 < m := by
  simp only [positions, List.mem_flatMap, List.mem_range, List.mem_map] at h
  obtain ⟨a, ha, b, hb, rfl⟩ := h
  exact ⟨ha, hb⟩

/-- `L[i][j]` selects element `[i][j]`, for every shape `n x m` (`n, m ≥ 1`) and every pair of index values in
range: the if-chain of `create_if_exp` over the positions of an `n x m` matrix has the value `rows[x][y]` - python's
indexing of the decoded matrix.  Every access `[a][b]`, `a < n`, `b < m`, has to have a value (the chain is an
if-expression of `Sem.semW`: all its branches are evaluated) and no other access is asked for. -/
theorem chain2_selects (σ : SEnv) (acc : Nat → Nat → PExp) (rows : List (List SVal)) (T : Option Nat) (i j : String)
    (wi wj x y n m : Nat) (hi : σ i = some (.int wi x)) (hj : σ j = some (.int wj y)) (hx : x < n) (hy : y < m)
    (hn : n < 65536) (hm : m < 65536)
    (hacc : ∀ a b, a < n → b < m → ∃ v, pyIndex2 rows a b = some v ∧ semW σ (acc a b) = some v ∧ tyOf v = T) :
    semW σ (chain2P acc i j (positions n m)) = pyIndex2 rows x y := by
  have hxy := mem_positions n m x y hx hy
  obtain ⟨l, q, hlq⟩ : ∃ l q, positions n m = l ++ [q] :=
    ⟨_, _, (List.dropLast_concat_getLast (List.ne_nil_of_mem hxy)).symm⟩
  have hb : ∀ p ∈ l ++ [q], _ := fun p hp => positions_bound n m p (hlq ▸ hp)
  rw [hlq] at hxy ⊢
  rw [chain2P_eq]
  exact selChain_key σ _ _ (fun p => pyIndex2 rows p.1 p.2) T (x, y) _ _ hxy
    (fun p hp => hacc p.1 p.2 (hb p hp).1 (hb p hp).2)
    (fun p hp => by
      have := hb p (List.mem_append_left _ hp)
      exact semW_test2 σ i j wi wj x y hi hj p (by omega) (by omega))

end QV.A2A
