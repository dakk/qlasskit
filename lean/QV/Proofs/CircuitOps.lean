import Mathlib.Algebra.BigOperators.Group.List.Basic
import Mathlib.Algebra.Group.TypeTags.Basic
import QV.Model.CircuitOps
/-!
Gate semantics is abstract: `sem : GClass → Param → List Nat → M` into any monoid `M`
(it cannot see object identities).  The action of a gate list is the product of its gates in
list order (= time order; for matrices read the product in `Mᵐᵒᵖ`).
-/
namespace QV.CircuitOps

variable {M : Type} [Monoid M]

abbrev Sem (M : Type) := GClass → Param → List Nat → M

-- `actA`: product over applied gates (`AGate`); `actL`: over heap gates (`HGate`; the ids `wid`, `gid` play no part);
-- `act c`: over `c.gates` (`c.computed` plays no part)
def gsem (sem : Sem M) (g : AGate) : M := sem g.cls g.param g.wires
def actA (sem : Sem M) (l : List AGate) : M := (l.map (gsem sem)).prod
def actL (sem : Sem M) (l : List HGate) : M := actA sem (l.map (·.g))
def act (sem : Sem M) (c : Circ) : M := actL sem c.gates

@[simp] theorem actA_nil (sem : Sem M) : actA sem [] = 1 := by simp [actA]
@[simp] theorem actA_cons (sem : Sem M) (g l) : actA sem (g :: l) = gsem sem g * actA sem l := by
  simp [actA]
@[simp] theorem actA_append (sem : Sem M) (l l') : actA sem (l ++ l') = actA sem l * actA sem l' := by
  simp [actA]
@[simp] theorem actL_nil (sem : Sem M) : actL sem [] = 1 := by simp [actL]
@[simp] theorem actL_cons (sem : Sem M) (h l) : actL sem (h :: l) = gsem sem h.g * actL sem l := by
  simp [actL]
@[simp] theorem actL_append (sem : Sem M) (l l') : actL sem (l ++ l') = actL sem l * actL sem l' := by
  simp [actL]

def relabelG (qs : List Nat) (g : AGate) : AGate := { g with wires := g.wires.map (fun x => qs.getD x 0) }

/-- laws `remove_identities` relies on: the classes it may cancel square to 1, barriers are 1 -/
structure CancelLaws {M : Type} [Monoid M] (sem : Sem M) : Prop where
  sq : ∀ c p w, selfInverse c = true → sem c p w * sem c p w = 1
  barrier : ∀ p w, sem .Barrier p w = 1

/-- one gate object has one class (true of every Python heap) -/
def GidFun (c : Circ) : Prop := ∀ g ∈ c.gates, ∀ h ∈ c.gates, g.g.gid = h.g.gid → g.g.cls = h.g.cls

instance (c : Circ) : Decidable (GidFun c) := by unfold GidFun; infer_instance

/-- a write through any object of `r` is invisible in `c`, and vice versa -/
def Independent (r c : Circ) : Prop :=
  (∀ o ∈ r.objs, o ∉ c.objs) ∧ (∀ w : Write, w.target ∈ r.objs → c.apply w = c) ∧
    (∀ w : Write, w.target ∈ c.objs → r.apply w = r)

theorem relabelWires_some {qs : List Nat} : ∀ {w w' : List Nat}, relabelWires qs w = some w' →
    w' = w.map (fun x => qs.getD x 0) ∧ ∀ x ∈ w, x < qs.length
  | [], w', h => by
    simp only [relabelWires, Option.some.injEq] at h
    exact ⟨h.symm, List.forall_mem_nil _⟩
  | x :: t, w', h => by
    simp only [relabelWires] at h
    split at h
    · next y t' hy ht =>
      simp only [Option.some.injEq] at h
      obtain ⟨ih1, ih2⟩ := relabelWires_some ht
      obtain ⟨hl, -⟩ := List.getElem?_eq_some_iff.mp hy
      rw [← h, List.map_cons, List.forall_mem_cons, List.getD_eq_getElem?_getD, hy, ← ih1]
      exact ⟨rfl, hl, ih2⟩
    · cases h

theorem relabelWires_isSome {qs : List Nat} : ∀ {w : List Nat}, (∀ x ∈ w, x < qs.length) →
    ∃ w', relabelWires qs w = some w'
  | [], _ => ⟨[], rfl⟩
  | x :: t, h => by
    obtain ⟨t', ht⟩ := relabelWires_isSome (w := t) (fun z hz => h z (List.mem_cons_of_mem _ hz))
    have hx : x < qs.length := h x (List.mem_cons_self)
    refine ⟨qs[x] :: t', ?_⟩
    simp [relabelWires, ht, List.getElem?_eq_getElem hx]

theorem relabelFrom_some {qs : List Nat} : ∀ {l : List HGate} {nx : Nat} {l' : List HGate},
    relabelFrom qs nx l = some l' →
    l'.map (·.g) = l.map (fun h => relabelG qs h.g) ∧ l'.map (·.wid) = List.range' nx l.length ∧
      ∀ h ∈ l, ∀ x ∈ h.g.wires, x < qs.length
  | [], nx, l', h => by
    simp only [relabelFrom, Option.some.injEq] at h
    subst h
    exact ⟨rfl, rfl, List.forall_mem_nil _⟩
  | h0 :: t, nx, l', h => by
    simp only [relabelFrom] at h
    split at h
    · next w t' hw ht =>
      obtain ⟨ih1, ih2, ih3⟩ := relabelFrom_some ht
      obtain ⟨hw1, hw2⟩ := relabelWires_some hw
      simp only [Option.some.injEq] at h
      subst h
      refine ⟨by simp only [List.map_cons, ih1, relabelG, hw1], ?_, ?_⟩
      · simp only [List.map_cons, ih2, List.length_cons, List.range'_succ]
      · simp only [List.forall_mem_cons]
        exact ⟨hw2, ih3⟩
    · cases h

theorem relabelFrom_wid_ge {qs : List Nat} {l : List HGate} {nx : Nat} {l' : List HGate}
    (h : relabelFrom qs nx l = some l') : ∀ g ∈ l', nx ≤ g.wid := by
  intro g hg
  have hm : g.wid ∈ l'.map (·.wid) := List.mem_map_of_mem hg
  rw [(relabelFrom_some h).2.1] at hm
  exact (List.mem_range'_1.mp hm).1

theorem relabelFrom_isSome {qs : List Nat} : ∀ {l : List HGate} (nx : Nat),
    (∀ h ∈ l, ∀ x ∈ h.g.wires, x < qs.length) → ∃ l', relabelFrom qs nx l = some l'
  | [], _, _ => ⟨[], rfl⟩
  | h0 :: t, nx, hl => by
    obtain ⟨t', ht⟩ := relabelFrom_isSome (l := t) (nx + 1) (fun g hg => hl g (List.mem_cons_of_mem _ hg))
    obtain ⟨w, hw⟩ := relabelWires_isSome (qs := qs) (hl h0 List.mem_cons_self)
    exact ⟨{ g := { h0.g with wires := w }, wid := nx } :: t', by simp [relabelFrom, ht, hw]⟩

theorem relabelG_range {n : Nat} {g : AGate} (h : ∀ x ∈ g.wires, x < n) : relabelG (List.range n) g = g := by
  cases g with
  | mk cls wires param gid =>
    simp only [relabelG, AGate.mk.injEq, true_and, and_true]
    simp only at h
    calc wires.map (fun x => (List.range n).getD x 0) = wires.map id := by
          apply List.map_congr_left
          intro x hx
          simp [List.getD_eq_getElem?_getD, List.getElem?_range (h x hx)]
      _ = wires := by simp

omit [Monoid M] in
@[simp] theorem gsem_shift (sem : Sem M) (k : Nat) (h : HGate) : gsem sem (h.shift k).g = gsem sem h.g := rfl

@[simp] theorem actL_shift (sem : Sem M) (k : Nat) (l : List HGate) :
    actL sem (l.map (HGate.shift k)) = actL sem l := by
  induction l with
  | nil => rfl
  | cons h t ih => simp [ih]

@[simp] theorem act_shift (sem : Sem M) (k : Nat) (c : Circ) : act sem (c.shift k) = act sem c := by
  simp [act, Circ.shift]

theorem erase_shift (c : Circ) (k : Nat) : (c.shift k).erase = c.erase := by
  simp [Circ.erase, Circ.shift, HGate.erase, HGate.shift, Function.comp_def]

theorem appendCircuit_ok {a b : Circ} {qs : List Nat} {nx : Nat} {r : Circ} {nx' : Nat}
    (h : appendCircuit a b qs nx = .ok (r, nx')) :
    ∃ og oc, relabelFrom qs nx b.gates = some og ∧ relabelFrom qs (nx + b.gates.length) b.computed = some oc ∧
      r = { a with gates := a.gates ++ og, computed := a.computed ++ oc } ∧
      nx' = nx + b.gates.length + b.computed.length := by
  unfold appendCircuit at h
  split at h
  · cases h
  · split at h
    · cases h
    · split at h
      · next og oc hog hoc =>
        simp only [Except.ok.injEq, Prod.mk.injEq] at h
        exact ⟨og, oc, hog, hoc, h.1.symm, h.2.symm⟩
      · cases h

theorem appendCircuit_fresh {a b : Circ} {qs : List Nat} {nx : Nat} {r : Circ} {nx' : Nat}
    (h : appendCircuit a b qs nx = .ok (r, nx')) :
    ∃ og oc, r = { a with gates := a.gates ++ og, computed := a.computed ++ oc } ∧
      og.map (·.g) = b.gates.map (fun h => relabelG qs h.g) ∧ ∀ g ∈ og ++ oc, nx ≤ g.wid := by
  obtain ⟨og, oc, hog, hoc, hr, -⟩ := appendCircuit_ok h
  refine ⟨og, oc, hr, (relabelFrom_some hog).1, fun g hg => ?_⟩
  rcases List.mem_append.mp hg with hg | hg
  · exact relabelFrom_wid_ge hog g hg
  · exact Nat.le_trans (Nat.le_add_right _ _) (relabelFrom_wid_ge hoc g hg)

theorem appendCircuit_wires_lt {a b : Circ} {qs : List Nat} {nx : Nat} {r : Circ} {nx' : Nat}
    (h : appendCircuit a b qs nx = .ok (r, nx')) : ∀ g ∈ b.gates, ∀ x ∈ g.g.wires, x < qs.length := by
  obtain ⟨og, -, hog, -⟩ := appendCircuit_ok h
  exact (relabelFrom_some hog).2.2

theorem appendCircuit_next_le {a b : Circ} {qs : List Nat} {nx : Nat} {r : Circ} {nx' : Nat}
    (h : appendCircuit a b qs nx = .ok (r, nx')) : nx ≤ nx' := by
  obtain ⟨-, -, -, -, -, hnx⟩ := appendCircuit_ok h
  omega

theorem appendCircuit_act (sem : Sem M) {a b : Circ} {qs : List Nat} {nx : Nat} {r : Circ} {nx' : Nat}
    (h : appendCircuit a b qs nx = .ok (r, nx')) :
    act sem r = act sem a * actA sem (b.gates.map (fun h => relabelG qs h.g)) := by
  obtain ⟨og, oc, rfl, hg, -⟩ := appendCircuit_fresh h
  simp only [act, actL, List.map_append, actA_append, hg]

theorem iaddCirc_act (sem : Sem M) {a b : Circ} {nx : Nat} {r : Circ} {nx' : Nat}
    (h : iaddCirc a b nx = .ok (r, nx')) : act sem r = act sem a * act sem b := by
  unfold iaddCirc at h
  have hw := appendCircuit_wires_lt h
  rw [appendCircuit_act sem h, act, act, actL, actL]
  congr 2
  exact List.map_congr_left fun g hg => relabelG_range fun x hx => by simpa using hw g hg x hx

theorem add_act (sem : Sem M) {a b : Circ} {nx : Nat} {r : Circ} {nx' : Nat}
    (h : add a b nx = .ok (r, nx')) : act sem r = act sem a * act sem b := by
  unfold add at h
  rw [iaddCirc_act sem h]
  simp [deepcopy]

theorem iaddCirc_isOk {a b : Circ} (nx : Nat) (hn : b.numQubits ≤ a.numQubits) (hb : b.wiresOk = true) :
    ∃ r nx', iaddCirc a b nx = .ok (r, nx') := by
  simp only [Circ.wiresOk, Bool.and_eq_true, List.all_eq_true, decide_eq_true_eq] at hb
  obtain ⟨og, hog⟩ := relabelFrom_isSome (qs := List.range b.numQubits) (l := b.gates) nx
    (fun h hh x hx => by simpa using hb.1 h hh x hx)
  obtain ⟨oc, hoc⟩ := relabelFrom_isSome (qs := List.range b.numQubits) (l := b.computed) (nx + b.gates.length)
    (fun h hh x hx => by simpa using hb.2 h hh x hx)
  refine ⟨{ a with gates := a.gates ++ og, computed := a.computed ++ oc },
    nx + b.gates.length + b.computed.length, ?_⟩
  unfold iaddCirc appendCircuit
  rw [if_neg (by omega), if_neg (by simp), hog, hoc]

theorem copy_act (sem : Sem M) (c : Circ) (v : Bool) (nx : Nat) : act sem (copy c v nx).1 = act sem c := by
  cases v
  · exact act_shift sem nx c
  · exact actL_shift sem nx c.gates

theorem repeatLoop_act (sem : Sem M) : ∀ (k : Nat) (acc o : Circ) (nx : Nat) (r : Circ) (nx' : Nat),
    repeatLoop k acc o nx = .ok (r, nx') → act sem r = act sem acc * act sem o ^ k
  | 0, acc, o, nx, r, nx', h => by
    simp only [repeatLoop, Except.ok.injEq, Prod.mk.injEq] at h
    simp [h.1]
  | k + 1, acc, o, nx, r, nx', h => by
    simp only [repeatLoop] at h
    split at h
    · simp at h
    · rename_i acc' nx2 hi
      rw [repeatLoop_act sem k acc' o nx2 r nx' h, iaddCirc_act sem hi, copy_act, pow_succ', mul_assoc]

theorem repeat_act (sem : Sem M) (q : Quirks) (c : Circ) (n nx : Nat) (r : Circ) (nx' : Nat)
    (hn : n ≠ 0 ∨ q.repeatZero = false) (h : «repeat» q c n nx = .ok (r, nx')) :
    act sem r = act sem c ^ n := by
  unfold «repeat» at h
  simp only at h
  split at h
  · rename_i h0
    simp only [Except.ok.injEq, Prod.mk.injEq] at h
    rw [← h.1, h0.1]
    simp [act]
  · rename_i h0
    have hpos : n ≠ 0 := by
      rcases hn with hn | hn
      · exact hn
      · intro hz; exact h0 ⟨hz, hn⟩
    rw [repeatLoop_act sem _ _ _ _ _ _ h, copy_act, copy_act, ← pow_succ']
    congr 1
    omega

theorem HGate.write_of_ne {w : Write} {h : HGate} (hne : h.wid ≠ w.target) : h.write w = h := by
  cases w <;> first | rfl | exact if_neg hne

theorem listWrite_of_ne {w : Write} {id : Nat} (hne : id ≠ w.target) (l : List HGate) : listWrite w id l = l := by
  cases w <;> first | rfl | exact if_neg hne

theorem mapWrite_of_ne {w : Write} {id : Nat} (hne : id ≠ w.target) (d : List (String × Nat)) :
    mapWrite w id d = d := by
  cases w <;> first | rfl | exact if_neg hne

theorem apply_frame (w : Write) (c : Circ) (h : w.target ∉ c.objs) : c.apply w = c := by
  simp only [Circ.objs, List.mem_cons, List.mem_append, List.mem_map, not_or, not_exists, not_and] at h
  obtain ⟨h1, h2, h3, h4, h5⟩ := h
  have hw : ∀ l : List HGate, (∀ x ∈ l, ¬ x.wid = w.target) → l.map (HGate.write w) = l := fun l hl =>
    (List.map_congr_left fun x hx => HGate.write_of_ne (hl x hx)).trans (List.map_id l)
  unfold Circ.apply
  rw [hw _ h4, hw _ h5, listWrite_of_ne (Ne.symm h1), listWrite_of_ne (Ne.symm h2),
    mapWrite_of_ne (Ne.symm h3)]

def Circ.objsFrom (c : Circ) (lo : Nat) : Prop := ∀ o ∈ c.objs, lo ≤ o
def Circ.gidsFrom (c : Circ) (lo : Nat) : Prop := ∀ o ∈ c.gids, lo ≤ o

theorem forall_objs (c : Circ) (p : Nat → Prop) : (∀ o ∈ c.objs, p o) ↔
    p c.gatesId ∧ p c.computedId ∧ p c.qmapId ∧ (∀ h ∈ c.gates, p h.wid) ∧ (∀ h ∈ c.computed, p h.wid) := by
  simp only [Circ.objs, List.forall_mem_cons, List.forall_mem_append, List.forall_mem_map]

theorem from_disjoint {s t : List Nat} {nx : Nat} (hs : ∀ o ∈ s, o < nx) (ht : ∀ o ∈ t, nx ≤ o) :
    ∀ o ∈ t, o ∉ s := fun o ho hos => by
  have := hs o hos
  have := ht o ho
  omega

theorem objsFrom_mono {c : Circ} {lo lo' : Nat} (h : c.objsFrom lo) (hl : lo' ≤ lo) : c.objsFrom lo' :=
  fun o ho => Nat.le_trans hl (h o ho)

theorem independent_of_fresh {r c : Circ} {nx : Nat} (hc : c.below nx) (hr : r.objsFrom nx) :
    Independent r c := by
  have hd := from_disjoint hc.1 hr
  refine ⟨hd, fun w hw => apply_frame w c (hd _ hw), fun w hw => apply_frame w r (fun h => hd _ h hw)⟩

theorem shift_objsFrom (c : Circ) (k : Nat) : (c.shift k).objsFrom k := by
  simp only [Circ.objsFrom, forall_objs, Circ.shift, List.forall_mem_map]
  exact ⟨Nat.le_add_left .., Nat.le_add_left .., Nat.le_add_left .., fun _ _ => Nat.le_add_left ..,
    fun _ _ => Nat.le_add_left ..⟩

theorem shift_gidsFrom (c : Circ) (k : Nat) : (c.shift k).gidsFrom k := by
  simp only [Circ.gidsFrom, Circ.gids, Circ.shift, List.forall_mem_append, List.forall_mem_map]
  exact ⟨fun _ _ => Nat.le_add_left .., fun _ _ => Nat.le_add_left ..⟩

theorem copy_objsFrom (c : Circ) (v : Bool) (nx : Nat) : (copy c v nx).1.objsFrom nx := by
  cases v
  · exact shift_objsFrom c nx
  · simp only [Circ.objsFrom, forall_objs, copy, if_true, List.forall_mem_map]
    exact ⟨Nat.le_add_left .., Nat.le_add_right .., by omega, fun _ _ => Nat.le_add_left ..,
      List.forall_mem_nil _⟩

theorem copy_gidsFrom (c : Circ) (v : Bool) (nx : Nat) : (copy c v nx).1.gidsFrom nx := by
  cases v
  · exact shift_gidsFrom c nx
  · simp only [Circ.gidsFrom, Circ.gids, copy, if_true, List.forall_mem_append, List.forall_mem_map]
    exact ⟨fun _ _ => Nat.le_add_left .., List.forall_mem_nil _⟩

theorem copy_next_le (c : Circ) (v : Bool) (nx : Nat) : nx ≤ (copy c v nx).2 := by
  cases v <;> simp [copy, deepcopy]; omega

/-- `append_circuit` keeps the objects of `self` and adds only objects allocated by the call: the
new wire lists, none of which is reachable from the appended circuit or anything older. -/
theorem appendCircuit_objs_of {p : Nat → Prop} {a b : Circ} {qs : List Nat} {nx : Nat} {r : Circ} {nx' : Nat}
    (h : appendCircuit a b qs nx = .ok (r, nx')) (ha : ∀ o ∈ a.objs, p o) (hn : ∀ o, nx ≤ o → p o) :
    ∀ o ∈ r.objs, p o := by
  obtain ⟨og, oc, rfl, -, hw⟩ := appendCircuit_fresh h
  rw [forall_objs] at ha ⊢
  simp only [List.forall_mem_append] at hw ⊢
  exact ⟨ha.1, ha.2.1, ha.2.2.1, ⟨ha.2.2.2.1, fun g hg => hn _ (hw.1 g hg)⟩, ha.2.2.2.2,
    fun g hg => hn _ (hw.2 g hg)⟩

theorem appendCircuit_objs {a b : Circ} {qs : List Nat} {nx : Nat} {r : Circ} {nx' : Nat}
    (h : appendCircuit a b qs nx = .ok (r, nx')) : ∀ o ∈ r.objs, o ∈ a.objs ∨ nx ≤ o :=
  appendCircuit_objs_of h (fun _ => .inl) (fun _ => .inr)

theorem appendCircuit_objsFrom {a b : Circ} {qs : List Nat} {nx : Nat} {r : Circ} {nx' : Nat} {lo : Nat}
    (h : appendCircuit a b qs nx = .ok (r, nx')) (ha : a.objsFrom lo) (hl : lo ≤ nx) : r.objsFrom lo :=
  appendCircuit_objs_of h ha (fun _ => Nat.le_trans hl)

theorem add_objsFrom {a b : Circ} {nx : Nat} {r : Circ} {nx' : Nat} (h : add a b nx = .ok (r, nx')) :
    r.objsFrom nx := by
  unfold add iaddCirc at h
  exact appendCircuit_objsFrom h (shift_objsFrom a nx) (Nat.le_add_right nx nx)

theorem repeatLoop_objsFrom {lo : Nat} : ∀ (k : Nat) (acc o : Circ) (nx : Nat) (r : Circ) (nx' : Nat),
    repeatLoop k acc o nx = .ok (r, nx') → acc.objsFrom lo → lo ≤ nx → r.objsFrom lo
  | 0, acc, o, nx, r, nx', h, ha, _ => by
    simp only [repeatLoop, Except.ok.injEq, Prod.mk.injEq] at h
    exact h.1 ▸ ha
  | k + 1, acc, o, nx, r, nx', h, ha, hl => by
    simp only [repeatLoop] at h
    split at h
    · simp at h
    · rename_i acc' nx2 hi
      have hc := Nat.le_trans hl (copy_next_le o false nx)
      exact repeatLoop_objsFrom k acc' o nx2 r nx' h (appendCircuit_objsFrom hi ha hc)
        (Nat.le_trans hc (appendCircuit_next_le hi))

theorem repeat_objsFrom {q : Quirks} {c : Circ} {n nx : Nat} {r : Circ} {nx' : Nat}
    (h : «repeat» q c n nx = .ok (r, nx')) : r.objsFrom nx := by
  unfold «repeat» at h
  simp only at h
  have h1 := copy_next_le c false nx
  have h2 := copy_next_le c false (copy c false nx).2
  have hc := copy_objsFrom c false (copy c false nx).2
  split at h
  · simp only [Except.ok.injEq, Prod.mk.injEq] at h
    rw [← h.1, Circ.objsFrom, forall_objs]
    exact ⟨Nat.le_trans h1 h2, Nat.le_succ_of_le (Nat.le_trans h1 h2),
      Nat.le_trans h1 ((forall_objs ..).mp hc).2.2.1, List.forall_mem_nil _, List.forall_mem_nil _⟩
  · exact repeatLoop_objsFrom _ _ _ _ _ _ h (objsFrom_mono hc h1) (by omega)

theorem actL_reverse_cons (sem : Sem M) (g : HGate) (res : List HGate) :
    actL sem (g :: res).reverse = actL sem res.reverse * gsem sem g.g := by
  simp

/-- python tuple equality on well-formed heaps (the gate object determines its class) gives
equal applied gates -/
theorem sameApplied_eq {g h : HGate} (hs : sameApplied g h = true) (hc : g.g.gid = h.g.gid → g.g.cls = h.g.cls) :
    g.g = h.g := by
  simp only [sameApplied, Bool.and_eq_true, beq_iff_eq] at hs
  obtain ⟨⟨h1, h2⟩, h3⟩ := hs
  have := hc h1
  cases hg : g.g; cases hh : h.g
  simp_all

/-- away from the empty-result defect, `result.pop()` of a trailing barrier goes through -/
theorem popBarrier_eq {q : Quirks} {res : List HGate} (h : res.isEmpty = false ∨ q.removeIdEmptyResult = false) :
    popBarrier q res = .ok (popBarrierOk res) := by
  cases res with
  | nil =>
    rcases h with h | h
    · cases h
    · simp only [popBarrier, h, Bool.false_eq_true, ↓reduceIte, popBarrierOk]
  | cons r rs => simp only [popBarrier, popBarrierOk]; split <;> rfl

theorem popBarrier_act (sem : Sem M) {q : Quirks} {res res' : List HGate}
    (hbar : ∀ g ∈ res, g.g.cls = .Barrier → gsem sem g.g = 1) (h : popBarrier q res = .ok res') :
    actL sem res'.reverse = actL sem res.reverse ∧ ∀ g ∈ res', g ∈ res := by
  cases res with
  | nil =>
    simp only [popBarrier] at h
    split at h
    · simp at h
    · simp only [Except.ok.injEq] at h; subst h; simp
  | cons r rs =>
    simp only [popBarrier] at h
    split at h
    · rename_i hb
      simp only [Except.ok.injEq] at h; subst h
      have := hbar r List.mem_cons_self (by simpa using hb)
      refine ⟨by simp [this], fun g hg => List.mem_cons_of_mem _ hg⟩
    · simp only [Except.ok.injEq] at h; subst h; simp

/-- the one decision of a loop iteration: what is left of the remaining gates once the head `g` has met its
partner – the next gate, or the one behind a single barrier (which goes with the pair) – if it has one -/
def riCand (g : HGate) : List HGate → Option (List HGate)
  | [] => none
  | h :: rest =>
    if sameApplied g h then some rest
    else match rest with
      | k :: rest' => if sameApplied g k && h.g.cls == .Barrier then some rest' else none
      | [] => none

theorem riLoop_step (q : Quirks) (fuel : Nat) (g h : HGate) (rest res : List HGate) :
    riLoop q (fuel + 1) (g :: h :: rest) res =
      match (if canCancel q g then riCand g (h :: rest) else none) with
      | some rest' =>
        (match popBarrier q res with
          | .error e => .error e
          | .ok res' => riLoop q fuel rest' res')
      | none => riLoop q fuel (h :: rest) (g :: res) := by
  cases hc : canCancel q g <;> cases hs : sameApplied g h <;> cases rest <;>
    simp only [riLoop, riCand, hc, hs, Bool.and_false, Bool.and_true,
      Bool.false_eq_true, ↓reduceIte] <;> first | rfl | (split <;> rfl)

theorem riTriggers_step (fuel : Nat) (g h : HGate) (rest res : List HGate) :
    riTriggers (fuel + 1) (g :: h :: rest) res =
      match riCand g (h :: rest) with
      | some rest' => !selfInverse g.g.cls || res.isEmpty || riTriggers fuel rest' (popBarrierOk res)
      | none => riTriggers fuel (h :: rest) (g :: res) := by
  cases hs : sameApplied g h <;> cases rest <;>
    simp only [riTriggers, riCand, hs, Bool.false_eq_true, ↓reduceIte]
  split <;> rfl

/-- the head and its partner are the same applied gate, and a barrier between them acts as 1 -/
theorem riCand_act (sem : Sem M) {g : HGate} {l rest' : List HGate} (hc : riCand g l = some rest')
    (hgid : ∀ h ∈ l, g.g.gid = h.g.gid → g.g.cls = h.g.cls)
    (hbar : ∀ h ∈ l, h.g.cls = .Barrier → gsem sem h.g = 1) :
    actL sem l = gsem sem g.g * actL sem rest' ∧ ∀ x ∈ rest', x ∈ l := by
  match l with
  | [] => cases hc
  | h :: rest =>
    simp only [riCand] at hc
    split at hc
    · next hs =>
      cases hc
      rw [actL_cons, ← sameApplied_eq hs (hgid h List.mem_cons_self)]
      exact ⟨rfl, fun x hx => List.mem_cons_of_mem _ hx⟩
    · match rest with
      | [] => cases hc
      | k :: rest'' =>
        simp only [Bool.and_eq_true, beq_iff_eq] at hc
        split at hc <;> cases hc
        next hs =>
        rw [actL_cons, actL_cons, hbar h List.mem_cons_self hs.2, one_mul,
          ← sameApplied_eq hs.1 (hgid k (by simp))]
        exact ⟨rfl, fun x hx => by simp [hx]⟩

/-- loop invariant of `remove_identities`: kept gates · remaining gates is constant, when the
cancelled gates square to 1 and barriers act as 1.  `S` is "is a gate of the circuit" (`· ∈ c.gates` in `Props/C14`), for
which alone `GidFun c` is known; `hgid` is `GidFun`, `hsq` / `hbar` are `CancelLaws.sq` / `.barrier` relativised to `S` -/
theorem riLoop_act (sem : Sem M) (q : Quirks) (S : HGate → Prop)
    (hgid : ∀ g h, S g → S h → g.g.gid = h.g.gid → g.g.cls = h.g.cls)
    (hsq : ∀ g, S g → canCancel q g = true → gsem sem g.g * gsem sem g.g = 1)
    (hbar : ∀ g, S g → g.g.cls = .Barrier → gsem sem g.g = 1) :
    ∀ (fuel : Nat) (l res r : List HGate), (∀ g ∈ l, S g) → (∀ g ∈ res, S g) →
      riLoop q fuel l res = .ok r → actL sem r = actL sem res.reverse * actL sem l
  | 0, l, res, r, _, _, h => by
    simp only [riLoop, Except.ok.injEq] at h; subst h; simp
  | fuel + 1, [], res, r, _, _, h => by
    simp only [riLoop, Except.ok.injEq] at h; subst h; simp
  | fuel + 1, [g], res, r, _, _, h => by
    simp only [riLoop, Except.ok.injEq] at h; subst h; simp
  | fuel + 1, g :: h0 :: rest, res, r, hl, hres, h => by
    obtain ⟨Sg, htl⟩ := List.forall_mem_cons.mp hl
    rw [riLoop_step] at h
    split at h
    · next rest' hc =>
      -- the head meets its partner: `g · g = 1`, and popping a barrier changes nothing
      split at hc <;> try cases hc
      next hcan =>
      obtain ⟨hact, hsub⟩ := riCand_act sem hc (fun x hx => hgid g x Sg (htl x hx)) (fun x hx => hbar x (htl x hx))
      split at h
      · cases h
      · next res' hp =>
        have hpb := popBarrier_act sem (fun x hx => hbar x (hres x hx)) hp
        rw [riLoop_act sem q S hgid hsq hbar fuel rest' res' r (fun x hx => htl x (hsub x hx))
          (fun x hx => hres x (hpb.2 x hx)) h, hpb.1, actL_cons, hact, ← mul_assoc (gsem sem g.g),
          hsq g Sg hcan, one_mul]
    · rw [riLoop_act sem q S hgid hsq hbar fuel (h0 :: rest) (g :: res) r htl
        (List.forall_mem_cons.mpr ⟨Sg, hres⟩) h, actL_reverse_cons, mul_assoc, ← actL_cons]

theorem riLoop_noTrigger (q : Quirks) : ∀ (fuel : Nat) (l res : List HGate),
    riTriggers fuel l res = false → riLoop q fuel l res = riLoop Quirks.none fuel l res
  | 0, l, res, _ => rfl
  | fuel + 1, [], res, _ => rfl
  | fuel + 1, [g], res, _ => rfl
  | fuel + 1, g :: h0 :: rest, res, ht => by
    rw [riTriggers_step] at ht
    rw [riLoop_step, riLoop_step]
    cases hc : riCand g (h0 :: rest) with
    | none => simp only [ite_self]; exact riLoop_noTrigger q fuel _ _ (by simpa only [hc] using ht)
    | some rest' =>
      -- no trigger: the pair is an involution and the result is not empty, so every variant cancels and pops
      simp only [hc, Bool.or_eq_false_iff, Bool.not_eq_false'] at ht
      obtain ⟨⟨hsi, hne⟩, hrec⟩ := ht
      simp only [canCancel, hsi, Bool.or_true, ↓reduceIte, popBarrier_eq (.inl hne)]
      exact riLoop_noTrigger q fuel rest' _ hrec

theorem riLoop_none_ok : ∀ (fuel : Nat) (l res : List HGate), ∃ r, riLoop Quirks.none fuel l res = .ok r
  | 0, l, res => ⟨_, rfl⟩
  | fuel + 1, [], res => ⟨_, rfl⟩
  | fuel + 1, [g], res => ⟨_, rfl⟩
  | fuel + 1, g :: h0 :: rest, res => by
    rw [riLoop_step]
    split
    · rw [popBarrier_eq (.inr rfl)]; exact riLoop_none_ok fuel _ _
    · exact riLoop_none_ok fuel _ _

structure FourierLaws (sem : Sem M) : Prop where
  h_sq : ∀ w, sem .H .none [w] * sem .H .none [w] = 1
  swap_sq : ∀ a b, sem .Swap .none [a, b] * sem .Swap .none [a, b] = 1
  cp_inv : ∀ k a b, sem .CP (.qft false k) [a, b] * sem .CP (.qft true k) [a, b] = 1
  disjoint_comm : ∀ c p w c' p' w', (∀ x ∈ w, x ∉ w') → Commute (sem c p w) (sem c' p' w')

theorem iqftRow_eq (wl : List Nat) (i : Nat) : iqftRow wl i = (qftRow wl i).reverse.map invGate := by
  simp [iqftRow, qftRow, invGate, cpGate, hGate, List.map_reverse, Function.comp_def]

theorem iqftMain_eq (wl : List Nat) : iqftMain wl = (qftMain wl).reverse.map invGate := by
  simp only [iqftMain, qftMain, List.reverse_flatten, List.map_flatten, List.map_map, List.map_reverse]
  congr 2
  apply List.map_congr_left
  intro i _
  simp [iqftRow_eq, List.map_reverse]

theorem iqftGates_eq (wl : List Nat) :
    iqftGates wl = swapLayer wl ++ (qftMain wl).reverse.map invGate := by
  simp [iqftGates, iqftMain_eq]

theorem actA_mul_reverse_inv (sem : Sem M) : ∀ L : List AGate, (∀ g ∈ L, gsem sem g * gsem sem (invGate g) = 1) →
    actA sem L * actA sem (L.reverse.map invGate) = 1
  | [], _ => by simp
  | g :: L, h => by
    rw [List.reverse_cons, List.map_append, actA_cons, actA_append, mul_assoc, ← mul_assoc (actA sem L),
      actA_mul_reverse_inv sem L (fun x hx => h x (List.mem_cons_of_mem _ hx)), one_mul]
    simpa using h g List.mem_cons_self

theorem actA_layer_twice (sem : Sem M) : ∀ L : List AGate,
    L.Pairwise (fun g h => Commute (gsem sem g) (gsem sem h)) → (∀ g ∈ L, gsem sem g * gsem sem g = 1) →
      actA sem (L ++ L) = 1
  | [], _, _ => by simp
  | g :: L, hp, hs => by
    have hp' := List.pairwise_cons.mp hp
    have ih := actA_layer_twice sem L hp'.2 (fun x hx => hs x (List.mem_cons_of_mem _ hx))
    have hc : Commute (gsem sem g) (actA sem L) := by
      unfold actA
      apply Commute.list_prod_right
      intro x hx
      obtain ⟨y, hy, rfl⟩ := List.mem_map.mp hx
      exact hp'.1 y hy
    simp only [actA_append, actA_cons, List.cons_append] at ih ⊢
    calc gsem sem g * (actA sem L * (gsem sem g * actA sem L))
        = gsem sem g * ((actA sem L * gsem sem g) * actA sem L) := by simp only [mul_assoc]
      _ = gsem sem g * ((gsem sem g * actA sem L) * actA sem L) := by rw [hc.eq]
      _ = (gsem sem g * gsem sem g) * (actA sem L * actA sem L) := by simp only [mul_assoc]
      _ = 1 := by rw [hs g List.mem_cons_self, ih, one_mul]

theorem getD_mem {wl : List Nat} {i : Nat} (h : i < wl.length) : wl.getD i 0 ∈ wl := by
  simp [List.getD_eq_getElem?_getD, List.getElem?_eq_getElem h]

theorem getD_ne {wl : List Nat} (hnd : wl.Nodup) {a b : Nat} (ha : a < wl.length) (hb : b < wl.length)
    (hab : a ≠ b) : wl.getD a 0 ≠ wl.getD b 0 := by
  intro e
  simp only [List.getD_eq_getElem?_getD, List.getElem?_eq_getElem ha, List.getElem?_eq_getElem hb,
    Option.getD_some] at e
  exact hab ((List.getElem_inj hnd).mp e)

theorem swapLayer_twice (sem : Sem M) (laws : FourierLaws sem) (wl : List Nat) (hnd : wl.Nodup) :
    actA sem (swapLayer wl ++ swapLayer wl) = 1 := by
  apply actA_layer_twice
  · unfold swapLayer
    rw [List.pairwise_map]
    apply List.Pairwise.imp_of_mem (R := fun i j => i < j) ?_ List.pairwise_lt_range
    intro i j hi hj hij
    simp only [List.mem_range] at hi hj
    apply laws.disjoint_comm
    -- the four positions `i < j < n-1-j < n-1-i` are distinct, so are the qubits there
    obtain ⟨bi, bj, bi', bj', n1, n2, n3, n4⟩ :
        i < wl.length ∧ j < wl.length ∧ wl.length - i - 1 < wl.length ∧ wl.length - j - 1 < wl.length ∧
        i ≠ j ∧ i ≠ wl.length - j - 1 ∧ wl.length - i - 1 ≠ j ∧ wl.length - i - 1 ≠ wl.length - j - 1 := by
      omega
    intro x hx hc
    simp only [swapGate, List.mem_cons, List.not_mem_nil, or_false] at hx hc
    rcases hx with rfl | rfl <;> rcases hc with hc | hc
    · exact getD_ne hnd bi bj n1 hc
    · exact getD_ne hnd bi bj' n2 hc
    · exact getD_ne hnd bi' bj n3 hc
    · exact getD_ne hnd bi' bj' n4 hc
  · intro g hg
    simp only [swapLayer, List.mem_map] at hg
    obtain ⟨i, _, rfl⟩ := hg
    exact laws.swap_sq _ _

theorem qftMain_inv (sem : Sem M) (laws : FourierLaws sem) (wl : List Nat) :
    ∀ g ∈ qftMain wl, gsem sem g * gsem sem (invGate g) = 1 := by
  intro g hg
  simp only [qftMain, List.mem_flatten, List.mem_map] at hg
  obtain ⟨row, ⟨i, _, rfl⟩, hg⟩ := hg
  simp only [qftRow, List.mem_cons, List.mem_map] at hg
  rcases hg with rfl | ⟨j, _, rfl⟩
  · exact laws.h_sq _
  · exact laws.cp_inv _ _ _

/-- `qft` then `iqft`: the two swap layers cancel, the rest is a product followed by its inverse -/
theorem qft_iqft_gates (sem : Sem M) (laws : FourierLaws sem) (wl : List Nat) (hnd : wl.Nodup) :
    actA sem (qftGates wl ++ iqftGates wl) = 1 := by
  rw [iqftGates_eq, qftGates, List.append_assoc, ← List.append_assoc (swapLayer wl), actA_append, actA_append,
    swapLayer_twice sem laws wl hnd, one_mul]
  exact actA_mul_reverse_inv sem _ (qftMain_inv sem laws wl)

theorem appendAll_spec (sem : Sem M) : ∀ (gs : List AGate) (c : Circ) (nx : Nat),
    (∀ g ∈ gs, appendErr c.numQubits g = none) →
    ∃ c' nx', appendAll c gs nx = (c', nx', none) ∧ act sem c' = act sem c * actA sem gs ∧
      c'.numQubits = c.numQubits
  | [], c, nx, _ => ⟨c, nx, rfl, by simp, rfl⟩
  | g :: t, c, nx, h => by
    have hg : appendErr c.numQubits { g with gid := nx } = none := h g List.mem_cons_self
    let h0 : HGate := { g := { g with gid := nx }, wid := nx + 1 }
    obtain ⟨c', nx', h1, h2, h3⟩ := appendAll_spec sem t
      { c with gates := c.gates ++ [h0], computed := if h0.g.cls.isNop then c.computed else c.computed ++ [h0] }
      (nx + 2) (fun x hx => h x (List.mem_cons_of_mem _ hx))
    refine ⟨c', nx', by simp only [appendAll, Circ.append, hg]; exact h1, ?_, h3⟩
    rw [h2]
    simp [act, gsem, h0, mul_assoc]

-- not used below (`iqft_qft_spec` runs `appendAll_spec` twice)
theorem appendAll_append (gs gs' : List AGate) : ∀ (c : Circ) (nx : Nat) (c1 : Circ) (nx1 : Nat),
    appendAll c gs nx = (c1, nx1, none) → appendAll c (gs ++ gs') nx = appendAll c1 gs' nx1 := by
  induction gs with
  | nil => intro c nx c1 nx1 h; simp only [appendAll, Prod.mk.injEq] at h; simp [h.1, h.2.1]
  | cons g t ih =>
    intro c nx c1 nx1 h
    simp only [appendAll, List.cons_append] at h ⊢
    split at h
    · simp at h
    · rename_i c2 hc2
      exact ih c2 (nx + 2) c1 nx1 h

theorem appendErr_invGate (n : Nat) (g : AGate) : appendErr n (invGate g) = appendErr n g := by
  unfold invGate; split <;> rfl

theorem appendErr_two {n a b : Nat} (c : GClass) (p : Param) (hc : c.nQubits = 2) (ha : a ≤ n) (hb : b ≤ n)
    (hab : a ≠ b) : appendErr n { cls := c, wires := [a, b], param := p } = none := by
  simp [appendErr, hc, hab, Nat.not_lt.mpr ha, Nat.not_lt.mpr hb]

/-- on a duplicate-free list of qubits `≤ num_qubits` (the bound `append` enforces) every call
of `qft` and `iqft` passes `append`'s checks -/
theorem fourier_gates_valid (wl : List Nat) (n : Nat) (hnd : wl.Nodup) (hr : ∀ w ∈ wl, w ≤ n) :
    (∀ g ∈ qftGates wl, appendErr n g = none) ∧ (∀ g ∈ iqftGates wl, appendErr n g = none) := by
  have hmain : ∀ g ∈ qftMain wl, appendErr n g = none := by
    intro g hg
    simp only [qftMain, List.mem_flatten, List.mem_map, List.mem_range] at hg
    obtain ⟨row, ⟨i, hi, rfl⟩, hg⟩ := hg
    simp only [qftRow, List.mem_cons, List.mem_map, List.mem_range'_1] at hg
    rcases hg with rfl | ⟨j, hj, rfl⟩
    · have := hr _ (getD_mem hi)
      generalize wl.getD i 0 = w at this ⊢
      simp [appendErr, hGate, GClass.nQubits, Nat.not_lt.mpr this]
    · exact appendErr_two _ _ rfl (hr _ (getD_mem (by omega))) (hr _ (getD_mem hi))
        (getD_ne hnd (by omega) hi (by omega))
  have hswap : ∀ g ∈ swapLayer wl, appendErr n g = none := by
    intro g hg
    simp only [swapLayer, List.mem_map, List.mem_range] at hg
    obtain ⟨i, hi, rfl⟩ := hg
    exact appendErr_two _ _ rfl (hr _ (getD_mem (by omega))) (hr _ (getD_mem (by omega)))
      (getD_ne hnd (by omega) (by omega) (by omega))
  constructor
  · intro g hg
    rcases List.mem_append.mp hg with hg | hg
    · exact hmain g hg
    · exact hswap g hg
  · intro g hg
    rw [iqftGates_eq] at hg
    rcases List.mem_append.mp hg with hg | hg
    · exact hswap g hg
    · obtain ⟨g', hg', rfl⟩ := List.mem_map.mp hg
      rw [appendErr_invGate]
      exact hmain g' (List.mem_reverse.mp hg')

/-- every gate counts 1: separates gate lists of different length (`repeat_zero_witness`) -/
def countAll : Sem (Multiplicative Nat) := fun _ _ _ => Multiplicative.ofAdd 1
/-- counts the S gates: meets `CancelLaws` (`countS_laws`) and sees a cancelled pair of S gates (S·S ≠ 1) -/
def countS : Sem (Multiplicative Nat) := fun c _ _ => if c = .S then Multiplicative.ofAdd 1 else 1

theorem countS_laws : CancelLaws countS :=
  ⟨fun c p w h => by cases c <;> simp_all [countS, selfInverse], fun _ _ => rfl⟩

end QV.CircuitOps
