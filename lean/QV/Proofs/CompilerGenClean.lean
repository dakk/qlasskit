import QV.Proofs.CompilerGenStmt
import QV.Proofs.CompilerClean
/-!
# Cleanliness on the general class: the statement loop in two phases, `compile`

Definition lists of the general class (`genDefs`) whose intermediates come first – they may be defined more than
once, re-bind an argument and mention constants – and whose return bits come last, each a name defined once whose
right-hand side is without constants or a bare constant (`keptThenRet`, `retDefs`); final uncomputation on.

* kept phase (`KP`): no ancilla is ever released (`free = []`), every statement ends with `keep_ancillas`.
  Over the whole gate list: every control had, at gate time, the value it has now (no later gate targets a qubit
  in use), every target is in use.
* return phase (`RP`): every statement ends with the inline `uncompute`.  Its gates target qubits `≥ N` (the
  number of qubits when the phase started), and at every statement boundary each of these targets is free or the
  qubit of a requested return bit; the qubits `< N` keep the values they had when the phase started.

Why this gives cleanliness: `uncompute_all` replays exactly the gates of the kept phase whose target is not a return
qubit, in reverse (`uncomputeAll_exact`, `removeIdentities_filter_rev`; every gate of the return phase targets a free
qubit or a return qubit), and `bennettF` applies to the kept phase because every control of its gates kept its value.
-/
namespace QV.Compiler
open QV

variable {ρ : Env} {σ0 : FState}

structure KP (nIn : Nat) (scope : List String) (ρ : Env) (σ0 : FState) (s : CState) : Prop where
  bi : BI scope ρ σ0 s
  free0 : s.qc.free = []
  nqIn : nIn ≤ s.qc.numQubits
  ben : CtlOK (fun f c => f c = cur σ0 s c) s.qc.gates.toList σ0
  ctlU : ∀ g ∈ s.qc.gates.toList, ∀ c ∈ g.wires.dropLast, ¬ Avail s c
  tgtU : ∀ g ∈ s.qc.gates.toList, ¬ Avail s g.target ∧ nIn ≤ g.target

/-- invariant of the return phase that started with `N` qubits, gate list `Gk` and values `σk` -/
structure RP (N : Nat) (Gk : List AGate) (σk : FState) (rets : List String) (scope : List String) (ρ : Env)
    (σ0 : FState) (s : CState) : Prop where
  bi : BI scope ρ σ0 s
  gates : ∃ Gr, s.qc.gates.toList = Gk ++ Gr ∧ ∀ g ∈ Gr, N ≤ g.target ∧
    (g.target ∈ s.qc.free ∨ ∃ r ∈ scope, r ∈ rets ∧ dictGet? s.qc.qmap r = some g.target)
  freeGe : ∀ x ∈ s.qc.free, N ≤ x
  keptLt : ∀ k ∈ s.qc.kept, k < N
  nqGe : N ≤ s.qc.numQubits
  low : ∀ q, q < N → cur σ0 s q = σk q

theorem KP.toRP {nIn : Nat} {scope : List String} {rets : List String} {s : CState} (kp : KP nIn scope ρ σ0 s) :
    RP s.qc.numQubits s.qc.gates.toList (cur σ0 s) rets scope ρ σ0 s :=
  ⟨kp.bi, ⟨[], (by simp), fun g hg => (by cases hg)⟩, fun x hx => (by rw [kp.free0] at hx; cases hx),
    kp.bi.good.kept_lt, Nat.le_refl _, fun _ _ => rfl⟩

theorem kp_step {nIn : Nat} {scope : List String} {env : List (String × Bool)} {e : BExp} {r : String}
    {iret : Nat} {nc : Bool} {u : Unit} {s t1 t3 t5 : CState} (kp : KP nIn scope (envOf env) σ0 s)
    (tp : TopG scope (envOf env) σ0 r (e.eval (envOf env)) nc s t1 iret) (hd : HeadG r t1 t3 iret)
    (hk : keepAncillas.run t3 = .ok (u, t5))
    (bi' : BI (scope ++ [r]) (envOf ((r, e.eval (envOf env)) :: env)) σ0 t5) :
    KP nIn (scope ++ [r]) (envOf ((r, e.eval (envOf env)) :: env)) σ0 t5 := by
  have he := stmt_keep kp.bi tp hd hk
  have gi := tp.gi
  have hgt5 : t5.qc.gates = t1.qc.gates := by
    unfold keepAncillas at hk
    have := modQC_run hk; subst this
    exact hd.gates3
  have hcur5 : cur σ0 t5 = cur σ0 t1 := cur_congr hgt5
  have hfree1 : t1.qc.free = [] := by
    apply List.eq_nil_iff_forall_not_mem.mpr
    intro x hx
    have := tp.fkeep x hx
    rw [kp.free0] at this; cases this
  have hav5 : ∀ x, Avail t5 x ↔ Avail t1 x := by
    intro x; rw [he.avail]; simp
  have hgates : t5.qc.gates.toList = s.qc.gates.toList ++ Lof s t1 := by rw [hgt5, gi.gates]
  refine ⟨bi', ?_, ?_, ?_, ?_, ?_⟩
  · apply List.eq_nil_iff_forall_not_mem.mpr
    intro x hx
    rcases (he.free x).mp hx with h' | h'
    · rw [hfree1] at h'; cases h'
    · cases h'
  · rw [he.nq]; exact Nat.le_trans kp.nqIn gi.nq
  · rw [hgates, CtlOK.append, hcur5]
    refine ⟨CtlOK.mono' _ _ ?_ kp.ben, ?_⟩
    · intro g hg c hc f hq
      rw [tp.frame c (kp.ctlU g hg c hc)]; exact hq
    · have : runF s.qc.gates.toList σ0 = cur σ0 s := rfl
      rw [this]; exact gi.ben
  · intro g hg c hc
    rw [hgates] at hg
    rw [hav5]
    rcases List.mem_append.mp hg with h' | h'
    · exact fun ha => kp.ctlU g h' c hc (gi.avail c ha)
    · exact gi.ctl g h' c hc
  · intro g hg
    rw [hgates] at hg
    rw [hav5]
    rcases List.mem_append.mp hg with h' | h'
    · exact ⟨fun ha => (kp.tgtU g h').1 (gi.avail _ ha), (kp.tgtU g h').2⟩
    · refine ⟨(gi.tgt g h').2, ?_⟩
      rcases (gi.tgt g h').1 with hf | hn
      · rw [kp.free0] at hf; cases hf
      · exact Nat.le_trans kp.nqIn hn

theorem rp_step {N : Nat} {Gk : List AGate} {σk : FState} {rets : List String} {scope : List String}
    {env : List (String × Bool)} {e : BExp} {r : String} {iret : Nat} {unc : List Nat} {u : Unit}
    {s t1 t3 t4 t5 : CState} (rp : RP N Gk σk rets scope (envOf env) σ0 s)
    (tp : TopG scope (envOf env) σ0 r (e.eval (envOf env)) false s t1 iret) (hd : HeadG r t1 t3 iret)
    (hunc : uncompute.run t3 = .ok (unc, t4)) (hrm : (expqRemove unc).run t4 = .ok (u, t5))
    (hr : r ∈ rets) (hnew : r ∉ scope) (hstep : Step (· = r) s t1)
    (bi' : BI (scope ++ [r]) (envOf ((r, e.eval (envOf env)) :: env)) σ0 t5) :
    RP N Gk σk rets (scope ++ [r]) (envOf ((r, e.eval (envOf env)) :: env)) σ0 t5 := by
  have he := stmt_unc rp.bi tp hd hunc hrm
  have gi := tp.gi
  obtain ⟨Gr, hGr, hGrT⟩ := rp.gates
  obtain ⟨U, hU, hUT, _, _⟩ := uncompute_gates hunc
  have hqc5 := expqRemove_run hrm
  have hgates5 : t5.qc.gates.toList = Gk ++ (Gr ++ Lof s t1 ++ U) := by
    rw [hqc5, hU, hd.gates3, gi.gates, hGr]; simp
  have hMge : ∀ m ∈ t1.qc.marked, N ≤ m := by
    intro m hm
    rcases gi.marked_av0 hm with hf | hn
    · exact rp.freeGe m hf
    · exact Nat.le_trans rp.nqGe hn
  have hkept1 : t1.qc.kept = s.qc.kept := gi.kept
  have hqr : dictGet? t5.qc.qmap r = some iret := by rw [he.qmap]; exact hd.qm3r
  -- a qubit `≥ N` that is an ancilla in use after the expression is marked or the result
  have hcls : ∀ t, N ≤ t → t ∈ t1.qc.anc → ¬ Avail t1 t → t ∈ t5.qc.free ∨ t = iret := by
    intro t hN ha hnav
    by_cases hm : t ∈ t1.qc.marked
    · exact Or.inl ((he.free t).mpr (Or.inr hm))
    · refine Or.inr (tp.pend t ha (fun hf => hnav (Or.inl hf)) (fun hk => ?_) hm)
      rw [hkept1] at hk
      exact absurd (rp.keptLt t hk) (by omega)
  have hsAvN : ∀ t, Avail s t → N ≤ t := by
    rintro t (hf | hn)
    · exact rp.freeGe t hf
    · exact Nat.le_trans rp.nqGe hn
  have hret : ∀ t, t = iret → ∃ r' ∈ scope ++ [r], r' ∈ rets ∧ dictGet? t5.qc.qmap r' = some t :=
    fun t ht => ⟨r, by simp, hr, ht ▸ hqr⟩
  refine ⟨bi', ⟨Gr ++ Lof s t1 ++ U, hgates5, ?_⟩, ?_, ?_, ?_, ?_⟩
  · intro g hg
    rcases List.mem_append.mp hg with hg | hg
    · rcases List.mem_append.mp hg with hg | hg
      · obtain ⟨hN, hcase⟩ := hGrT g hg
        refine ⟨hN, ?_⟩
        rcases hcase with hf | ⟨r', hr's, hr'r, hq'⟩
        · by_cases hf1 : g.target ∈ t1.qc.free
          · exact Or.inl ((he.free _).mpr (Or.inl hf1))
          · have ha1 : g.target ∈ t1.qc.anc := tp.akeep _ (rp.bi.freeAnc _ hf)
            have hnav : ¬ Avail t1 g.target := by
              rintro (h' | h')
              · exact hf1 h'
              · exact absurd (gi.good.anc_lt _ ha1) (by omega)
            exact (hcls _ hN ha1 hnav).imp id (hret _)
        · refine Or.inr ⟨r', List.mem_append_left _ hr's, hr'r, ?_⟩
          have hne : r' ≠ r := fun e' => hnew (e' ▸ hr's)
          have hrs : reservedName r' = false := rp.bi.scopeOK r' hr's
          rw [he.qmap, hd.qm3o r' (by simp only [reservedName, Bool.or_eq_false_iff] at hrs; exact hrs.2) hne,
            hstep.qmap_keep r' hne hrs]
          exact hq'
      · obtain ⟨hav, hnav⟩ := gi.tgt g hg
        have hN := hsAvN _ hav
        refine ⟨hN, ?_⟩
        have hanc : g.target ∈ t1.qc.anc ∨ g.target = iret := by
          rcases hav with hf | hn
          · exact Or.inl (tp.akeep _ (rp.bi.freeAnc _ hf))
          · exact tp.alloc rfl _ hn (notAvail_lt hnav)
        rcases hanc with ha | hi
        · exact (hcls _ hN ha hnav).imp id (hret _)
        · exact Or.inr (hret _ hi)
    · have hm := hUT g hg
      rw [hd.mk3] at hm
      exact ⟨hMge _ hm, Or.inl ((he.free _).mpr (Or.inr hm))⟩
  · intro x hx
    rcases (he.free x).mp hx with h' | h'
    · exact rp.freeGe x (tp.fkeep x h')
    · exact hMge x h'
  · intro k hk
    obtain ⟨_, _, _, _, _, _, _, _, _, hk4⟩ := uncompute_sem (σ0 := σ0) hunc
    have hk5 : t5.qc.kept = t1.qc.kept := by rw [hqc5]; exact hk4.trans hd.kp3
    rw [hk5, hkept1] at hk
    exact rp.keptLt k hk
  · rw [he.nq]; exact Nat.le_trans rp.nqGe gi.nq
  · intro q hq
    have hnM : q ∉ t1.qc.marked := fun hm => absurd (hMge q hm) (by omega)
    have hnav : ¬ Avail s q := fun ha => absurd (hsAvN q ha) (by omega)
    rw [he.val q hnM, tp.frame q hnav]
    exact rp.low q hq

theorem retLoop {N : Nat} {Gk : List AGate} {σk : FState} {rets : List String} :
    ∀ (defs : List (String × BExp)) (scope : List String) (env : List (String × Bool)) {u : Unit} {s s' : CState},
    (compileDefs (some rets) true defs).run s = .ok (u, s') → RP N Gk σk rets scope (envOf env) σ0 s →
    genDefs scope defs = true → retDefs rets scope defs = true →
    RP N Gk σk rets (scope ++ defs.map (·.1)) (envOf (evalDefs defs env)) σ0 s'
  | [], scope, env, u, s, s', h, rp, _, _ => by
    unfold compileDefs at h
    obtain ⟨_, rfl⟩ := run_pure_ok.mp h
    rw [List.map_nil, List.append_nil]
    exact rp
  | (r, e) :: rest, scope, env, u, s, s', h, rp, hgen, hrd => by
    simp only [retDefs, retExprOK, Bool.and_eq_true, List.contains_eq_mem, decide_eq_true_eq, Bool.not_eq_true',
      decide_eq_false_iff_not] at hrd
    obtain ⟨⟨⟨hr, hnew⟩, hnc⟩, hrdrest⟩ := hrd
    obtain ⟨hrest, iret, t1, t3, t5, tp, hd, hstep, bi', k5, hend⟩ := stmt_g h rp.bi hgen
    rcases hend with ⟨_, unc, t4, u', hunc, hrm⟩ | ⟨hc, _⟩
    · have := retLoop rest (scope ++ [r]) ((r, e.eval (envOf env)) :: env) k5
        (rp_step rp (hnc ▸ tp) hd hunc hrm hr hnew hstep bi') hrest hrdrest
      rwa [List.append_assoc] at this
    · rw [inlineUncompute_some] at hc
      exact absurd (by simpa using hr) hc

/-- what the end of `compile` needs of the kept phase -/
structure KFin (nIn N : Nat) (Gk : List AGate) (σk σ0 : FState) : Prop where
  inv : GatesInv Gk
  lt : ∀ g ∈ Gk, ∀ w ∈ g.wires, w < N
  ben : CtlOK (fun f c => f c = σk c) Gk σ0
  run : runF Gk σ0 = σk
  tge : ∀ g ∈ Gk, nIn ≤ g.target
  nN : nIn ≤ N

theorem KP.fin {nIn : Nat} {scope : List String} {s : CState} (kp : KP nIn scope ρ σ0 s) :
    KFin nIn s.qc.numQubits s.qc.gates.toList (cur σ0 s) σ0 :=
  ⟨good_gatesInv kp.bi.good, fun g hg => (kp.bi.good.gates_ok g hg).lt, kp.ben, rfl,
    fun g hg => (kp.tgtU g hg).2, kp.nqIn⟩

/-- the kept phase runs until the first requested return bit; the rest of the list is the return phase -/
theorem keptLoop {nIn : Nat} {rets : List String} :
    ∀ (defs : List (String × BExp)) (scope : List String) (env : List (String × Bool)) {u : Unit} {s s' : CState},
    (compileDefs (some rets) true defs).run s = .ok (u, s') → KP nIn scope (envOf env) σ0 s →
    genDefs scope defs = true → keptThenRet rets scope defs = true →
    ∃ N Gk σk, RP N Gk σk rets (scope ++ defs.map (·.1)) (envOf (evalDefs defs env)) σ0 s' ∧
      KFin nIn N Gk σk σ0
  | [], scope, env, u, s, s', h, kp, _, _ => by
    unfold compileDefs at h
    obtain ⟨_, rfl⟩ := run_pure_ok.mp h
    rw [List.map_nil, List.append_nil]
    exact ⟨_, _, _, kp.toRP, kp.fin⟩
  | (r, e) :: rest, scope, env, u, s, s', h, kp, hgen, hkr => by
    by_cases hrr : rets.contains r = true
    · -- the return phase starts here
      simp only [keptThenRet, hrr, if_true] at hkr
      exact ⟨_, _, _, retLoop ((r, e) :: rest) scope env h (kp.toRP (rets := rets)) hgen hkr, kp.fin⟩
    · simp only [keptThenRet, hrr, Bool.false_eq_true, if_false] at hkr
      obtain ⟨hrest, iret, t1, t3, t5, tp, hd, _, bi', k5, hend⟩ := stmt_g h kp.bi hgen
      rcases hend with ⟨hc, _⟩ | ⟨_, u', hk⟩
      · rw [inlineUncompute_some] at hc
        exact absurd hc hrr
      · have := keptLoop rest (scope ++ [r]) ((r, e.eval (envOf env)) :: env) k5 (kp_step kp tp hd hk bi') hrest hkr
        rwa [List.append_assoc] at this

/-- `mem_of_map_gcore`; no user below -/
theorem mem_of_gcore {U L : List AGate} (h : U.map gcore = L.map gcore) {g : AGate} (hg : g ∈ U) :
    ∃ g' ∈ L, g'.cls = g.cls ∧ g'.wires = g.wires :=
  mem_of_map_gcore h hg

/-- the reverse pass, on gate lists: `G = Gk ++ Gr`, the gates of `Gr` target qubits `≥ N` that are free or in
`keep` -/
theorem clean_aux {nIn N : Nat} {Gk Gr G : List AGate} {σk σ0 : FState} {keep free3 : List Nat} {q : Nat}
    (kf : KFin nIn N Gk σk σ0) (hG : G = Gk ++ Gr)
    (hGrT : ∀ g ∈ Gr, N ≤ g.target ∧ (g.target ∈ free3 ∨ keep.contains g.target = true))
    (hfreeGe : ∀ p ∈ free3, N ≤ p) (hzeroFree : ∀ p ∈ free3, runF G σ0 p = false)
    (hlow : ∀ p, p < N → runF G σ0 p = σk p)
    (hσ0z : ∀ p, nIn ≤ p → σ0 p = false) :
    (q < nIn → runF ((G.filter (replayP keep free3)).reverse) (runF G σ0) q = σ0 q) ∧
    (nIn ≤ q → keep.contains q = false → runF ((G.filter (replayP keep free3)).reverse) (runF G σ0) q = false) := by
  have hGkN : ∀ g ∈ Gk, g.target < N := by
    intro g hg
    have hne := (kf.inv g hg).2.2
    obtain ⟨cs', t, hw, ht, _⟩ := wires_split hne
    rw [ht]; exact kf.lt g hg t (by rw [hw]; simp)
  -- the replay filter drops all of `Gr` (target free or kept) and, of `Gk` (targets `< N`, not free), the kept targets
  have hfilt : G.filter (replayP keep free3) = Gk.filter (fun g => !keep.contains g.target) := by
    rw [hG, List.filter_append]
    have hnil : Gr.filter (replayP keep free3) = [] := by
      apply List.filter_eq_nil_iff.mpr
      intro g hg
      unfold replayP
      rcases (hGrT g hg).2 with hf | hk
      · have : free3.contains g.target = true := by simpa using hf
        simp only [this, Bool.or_true, Bool.not_true]
        exact Bool.false_ne_true
      · simp only [hk, Bool.or_true, Bool.true_or, Bool.not_true]
        exact Bool.false_ne_true
    rw [hnil, List.append_nil]
    apply List.filter_congr
    intro g hg
    unfold replayP
    have h1 : g.cls.isNop = false := GClass.not_isNop_of_isMCXLike (kf.inv g hg).1
    have h2 : free3.contains g.target = false := by
      simp only [List.contains_eq_mem, decide_eq_false_iff_not]
      intro hf
      exact absurd (hfreeGe _ hf) (by have := hGkN g hg; omega)
    rw [h1, h2]
    simp only [Bool.false_or, Bool.or_false]
  obtain ⟨M, hM⟩ : ∃ M, M = (Gk.map AGate.target).filter (fun t => !keep.contains t) := ⟨_, rfl⟩
  have hMc : ∀ t, M.contains t = true ↔ (t ∈ Gk.map AGate.target ∧ keep.contains t = false) := by
    intro t
    simp only [hM, List.contains_eq_mem, decide_eq_true_eq, List.mem_filter, Bool.not_eq_true',
      decide_eq_false_iff_not]
  have hrep : (Gk.filter (fun g => !keep.contains g.target)).reverse = rep M Gk := by
    unfold rep
    congr 1
    apply List.filter_congr
    intro g hg
    cases hk : keep.contains g.target with
    | true =>
      have : M.contains g.target = false := by
        cases hc : M.contains g.target with
        | false => rfl
        | true => rw [((hMc _).mp hc).2] at hk; cases hk
      rw [this]; rfl
    | false =>
      have : M.contains g.target = true := (hMc _).mpr ⟨List.mem_map.mpr ⟨g, hg, rfl⟩, hk⟩
      rw [this]; rfl
  -- `bennettF` speaks of the replay run from `σk`; the run here starts from `runF G σ0`, which differs from `σk`
  -- only at qubits `≥ N`, and the replayed gates live below `N` (`runF_local`)
  obtain ⟨bM, bN⟩ := bennettF M σk Gk σ0 kf.inv
    (CtlOK.mono (fun f c hq' => Or.inr hq') _ _ kf.ben) kf.run
  obtain ⟨l1, l2⟩ := runF_local N (rep M Gk) (runF G σ0) σk (by
    intro g hg
    have hgk : g ∈ Gk := by
      unfold rep at hg
      exact (List.mem_filter.mp (List.mem_reverse.mp hg)).1
    exact ⟨(kf.inv g hgk).1, (kf.inv g hgk).2.2, kf.lt g hgk⟩) hlow
  have hcur2 : runF G σ0 = runF Gr σk := by
    rw [hG, runF_append, kf.run]
  rw [hfilt, hrep]
  constructor
  · intro hqin
    rw [runF_of_target_ne _ q (fun g hg e' => by
        unfold rep at hg
        have := kf.tge g (List.mem_filter.mp (List.mem_reverse.mp hg)).1
        omega),
      hcur2, runF_of_target_ne _ q (fun g hg e' => by
        have := (hGrT g hg).1
        have := kf.nN
        omega),
      ← kf.run, runF_of_target_ne _ q (fun g hg e' => by have := kf.tge g hg; omega)]
  · intro hqge hkq
    by_cases hqN : q < N
    · rw [l1 q hqN]
      cases hMq : M.contains q with
      | true => rw [bM q hMq]; exact hσ0z q hqge
      | false =>
        rw [bN q hMq, ← kf.run]
        have hnt : ∀ g ∈ Gk, g.target ≠ q := by
          intro g hg e'
          have : M.contains q = true := (hMc q).mpr ⟨List.mem_map.mpr ⟨g, hg, e'⟩, hkq⟩
          rw [this] at hMq; cases hMq
        rw [runF_of_target_ne _ q hnt]; exact hσ0z q hqge
    · have hqN' : N ≤ q := by omega
      rw [l2 q hqN']
      by_cases hex : ∃ g ∈ Gr, g.target = q
      · obtain ⟨g, hg, ht⟩ := hex
        rcases (hGrT g hg).2 with hf | hk
        · exact hzeroFree q (ht ▸ hf)
        · rw [ht, hkq] at hk; cases hk
      · rw [hcur2, runF_of_target_ne _ q (fun g hg e' => hex ⟨g, hg, e'⟩), ← kf.run,
          runF_of_target_ne _ q (fun g hg e' => by have := hGkN g hg; omega)]
        exact hσ0z q hqge

theorem initState_getD_out (x : List Bool) (n r : Nat) (h : x.length ≤ r) :
    (initState x n).getD r false = false := by
  rw [initState_getD, List.getD_eq_getElem?_getD, List.getElem?_eq_none h]
  rfl

/-- the general class, intermediates first, every requested return bit defined once, last; final uncomputation
on: every argument qubit is unchanged, every qubit that is neither an argument nor the qubit of a requested return
bit is zero -/
theorem compile_general_clean {inputs : List String} {defs : List (String × BExp)} {rets : List String}
    {cs : List Nat} {s : CState}
    (h : (compile inputs defs (some rets) true).run { choices := cs } = .ok ((), s))
    (hnd : inputs.Nodup) (hfresh : ∀ n ∈ inputs, reservedName n = false)
    (hgen : genDefs inputs defs = true) (hkr : keptThenRet rets inputs defs = true)
    (x : List Bool) (hx : x.length = inputs.length) (q : Nat) :
    (q < inputs.length →
      (runClassical s.qc.gates.toList (initState x s.qc.numQubits)).getD q false = x.getD q false) ∧
    (inputs.length ≤ q → q ∉ rets.filterMap (dictGet? s.qc.qmap) →
      (runClassical s.qc.gates.toList (initState x s.qc.numQubits)).getD q false = false) := by
  obtain ⟨s2, s3, hdefs, hrem, h4, st2, st4, _⟩ := compile_cut h
  have bi1 := init_bi (cs := cs) (x := x) s.qc.numQubits hnd hfresh hx
  have kp1 : KP inputs.length inputs (envOf (inputs.zip x)) (toF (initState x s.qc.numQubits)) (entry cs inputs) :=
    ⟨bi1, rfl, Nat.le_refl _, True.intro, List.forall_mem_nil _, List.forall_mem_nil _⟩
  obtain ⟨N, Gk, σk, rp, kf⟩ := keptLoop defs inputs (inputs.zip x) hdefs kp1 hgen hkr
  obtain ⟨Gr, hG, hGrT⟩ := rp.gates
  have hg2 : Good s2 := st2.good
  obtain ⟨hq, _, _, hval⟩ := compile_tail_clean (x := x) st4.good hg2 hrem h4 (hx ▸ st2.nq_le)
  obtain ⟨c1, c2⟩ := clean_aux (q := q) (keep := rets.filterMap (dictGet? s2.qc.qmap)) kf hG
    (fun g hg => ⟨(hGrT g hg).1, (hGrT g hg).2.imp id (fun ⟨r, _, hr, hqr⟩ => by
      simp only [List.contains_eq_mem, decide_eq_true_eq]
      exact List.mem_filterMap.mpr ⟨r, hr, hqr⟩)⟩)
    rp.freeGe (fun p hp => rp.bi.zero p (Or.inl hp)) rp.low
    (fun p hp => initState_getD_out x _ p (by omega))
  rw [hval, hq]
  exact ⟨fun hqin => (c1 hqin).trans (initState_getD x _ q), fun hqge hqo => c2 hqge (by simpa using hqo)⟩

end QV.Compiler
