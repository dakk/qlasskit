import QV.Model.Anf
namespace QV.Anf
open QV.Tools

theorem length_table (e : BExp) : ∀ (vs : List String) (ρ : Env), (table e vs ρ).length = 2 ^ vs.length
  | [], _ => rfl
  | v :: vs, ρ => by
    simp only [table, List.length_append, length_table e vs, List.length_cons, Nat.pow_succ]
    omega

theorem length_monos : ∀ vs : List String, (monos vs).length = 2 ^ vs.length
  | [] => rfl
  | v :: vs => by
    simp only [monos, List.length_append, List.length_map, length_monos vs, List.length_cons,
      Nat.pow_succ]
    omega

theorem length_xorL (a b : List Bool) (h : a.length = b.length) : (xorL a b).length = a.length := by
  simp [xorL, h]

theorem mobius_append (n : Nat) (t0 t1 : List Bool) (h0 : t0.length = 2 ^ n) :
    mobius (n + 1) (t0 ++ t1) = mobius n t0 ++ xorL (mobius n t0) (mobius n t1) := by
  simp only [mobius, List.take_left' h0, List.drop_left' h0]

theorem length_halves {t : List Bool} {n : Nat} (h : t.length = 2 ^ (n + 1)) :
    (t.take (2 ^ n)).length = 2 ^ n ∧ (t.drop (2 ^ n)).length = 2 ^ n := by
  simp only [List.length_take, List.length_drop, h, Nat.pow_succ]
  omega

theorem length_mobius : ∀ (n : Nat) (t : List Bool), t.length = 2 ^ n → (mobius n t).length = 2 ^ n
  | 0, t, h => h
  | n + 1, t, h => by
    have a := length_mobius n _ (length_halves h).1
    have b := length_mobius n _ (length_halves h).2
    simp only [mobius, List.length_append, length_xorL _ _ (a.trans b.symm), a, Nat.pow_succ]
    omega

/-! ### value of a polynomial given by monomials and coefficients -/

def pe (ρ : Env) : List (List String) → List Bool → Bool
  | m :: ms, c :: cs => Bool.xor (c && m.all ρ) (pe ρ ms cs)
  | _, _ => false

theorem evalAnd_syms (ρ : Env) : ∀ vs : List String, evalAnd ρ (vs.map .sym) = vs.all ρ
  | [] => rfl
  | v :: vs => by simp [evalAnd, BExp.eval, evalAnd_syms ρ vs]

theorem monoExp_eval (ρ : Env) (m : List String) : (monoExp m).eval ρ = m.all ρ := by
  match m with
  | [] => rfl
  | [v] => simp [monoExp, BExp.eval]
  | v :: w :: vs =>
    simp only [monoExp, BExp.eval]
    exact evalAnd_syms ρ _

theorem xorExp_eval (ρ : Env) (l : List BExp) : (xorExp l).eval ρ = evalXor ρ l := by
  match l with
  | [] => rfl
  | [m] => simp [xorExp, evalXor]
  | a :: b :: l => simp [xorExp, BExp.eval]

theorem terms_cons (m : List String) (ms : List (List String)) (c : Bool) (cs : List Bool) :
    terms (m :: ms) (c :: cs) = if c then m :: terms ms cs else terms ms cs := by
  cases c <;> rfl

theorem evalXor_terms (ρ : Env) : ∀ (ms : List (List String)) (cs : List Bool),
    evalXor ρ ((terms ms cs).map monoExp) = pe ρ ms cs
  | [], _ => rfl
  | _ :: _, [] => rfl
  | m :: ms, c :: cs => by
    cases c <;> simp only [terms_cons, List.map_cons, evalXor, pe, monoExp_eval, evalXor_terms ρ ms cs,
      Bool.false_eq_true, if_false, if_true, Bool.false_and, Bool.true_and, Bool.false_xor]

theorem pe_append (ρ : Env) : ∀ (ms1 ms2 : List (List String)) (cs1 cs2 : List Bool),
    ms1.length = cs1.length →
    pe ρ (ms1 ++ ms2) (cs1 ++ cs2) = Bool.xor (pe ρ ms1 cs1) (pe ρ ms2 cs2)
  | [], _, [], _, _ => by simp only [List.nil_append, pe, Bool.false_xor]
  | [], _, _ :: _, _, h => by cases h
  | _ :: _, _, [], _, h => by cases h
  | m :: ms1, ms2, c :: cs1, cs2, h => by
    simp only [List.cons_append, pe, pe_append ρ ms1 ms2 cs1 cs2 (Nat.succ.inj h), Bool.xor_assoc]

theorem pe_map_cons (ρ : Env) (v : String) : ∀ (ms : List (List String)) (cs : List Bool),
    pe ρ (ms.map (v :: ·)) cs = (ρ v && pe ρ ms cs)
  | [], _ => by simp only [List.map_nil, pe, Bool.and_false]
  | _ :: _, [] => by simp only [List.map_cons, pe, Bool.and_false]
  | m :: ms, c :: cs => by
    simp only [List.map_cons, pe, pe_map_cons ρ v ms cs, List.all_cons]
    cases c <;> cases ρ v <;> simp

theorem pe_xorL (ρ : Env) : ∀ (ms : List (List String)) (a b : List Bool),
    a.length = b.length →
    pe ρ ms (xorL a b) = Bool.xor (pe ρ ms a) (pe ρ ms b)
  | [], _, _, _ => by simp only [pe, Bool.false_xor]
  | _ :: _, [], [], _ => by simp only [xorL, List.zipWith_nil_left, pe, Bool.false_xor]
  | _ :: _, [], _ :: _, h => by cases h
  | _ :: _, _ :: _, [], h => by cases h
  | m :: ms, x :: a, y :: b, h => by
    have ih := pe_xorL ρ ms a b (Nat.succ.inj h)
    simp only [xorL] at ih
    simp only [xorL, List.zipWith_cons_cons, pe, ih, Bool.and_xor_distrib_right, Bool.xor_assoc]
    rw [Bool.xor_left_comm (y && m.all ρ)]

/-- `ρ` with the variables `vs` set as in `σ` (as `table` sets them: the later variable last) -/
def ovr (σ : Env) : List String → Env → Env
  | [], ρ => ρ
  | v :: vs, ρ => ovr σ vs (upd ρ v (σ v))

theorem ovr_not_mem (σ : Env) (x : String) : ∀ (vs : List String) (ρ : Env), x ∉ vs → ovr σ vs ρ x = ρ x
  | [], _, _ => rfl
  | v :: vs, ρ, h => by
    have hx : x ≠ v := fun h' => h (by simp [h'])
    have hx' : x ∉ vs := fun h' => h (by simp [h'])
    rw [ovr, ovr_not_mem σ x vs _ hx']
    simp [upd, hx]

theorem ovr_mem (σ : Env) (x : String) : ∀ (vs : List String) (ρ : Env), x ∈ vs → ovr σ vs ρ x = σ x
  | [], _, h => by simp at h
  | v :: vs, ρ, h => by
    by_cases hx : x ∈ vs
    · rw [ovr, ovr_mem σ x vs _ hx]
    · have hv : x = v := by simpa [hx] using h
      rw [ovr, ovr_not_mem σ x vs _ hx]
      simp [upd, hv]

/-- the polynomial read off the transformed table takes, at `σ`, the value of `e` at the row `σ`
selects: for every variable list (duplicates allowed) and every base environment -/
theorem pe_mobius_table (e : BExp) (σ : Env) : ∀ (vs : List String) (ρ : Env),
    pe σ (monos vs) (mobius vs.length (table e vs ρ)) = e.eval (ovr σ vs ρ)
  | [], ρ => by simp [monos, mobius, table, pe, ovr]
  | v :: vs, ρ => by
    have hl0 := length_table e vs (upd ρ v false)
    have hl1 := length_table e vs (upd ρ v true)
    have hm0 := length_mobius _ _ hl0
    have hm1 := length_mobius _ _ hl1
    have i0 := pe_mobius_table e σ vs (upd ρ v false)
    have i1 := pe_mobius_table e σ vs (upd ρ v true)
    simp only [monos, table, List.length_cons]
    rw [mobius_append _ _ _ hl0, pe_append _ _ _ _ _ ((length_monos vs).trans hm0.symm),
      pe_map_cons, pe_xorL _ _ _ _ (hm0.trans hm1.symm), i0, i1, ovr]
    cases hv : σ v <;> simp

/-! ### the ANF mentions only symbols of the expression (for `C17.anf_no_new_symbols`) -/

theorem mem_dedupStrings (x : String) : ∀ l : List String, x ∈ dedupStrings l ↔ x ∈ l
  | [] => by simp [dedupStrings]
  | s :: ss => by
    have ih := mem_dedupStrings x ss
    simp only [dedupStrings]
    split
    · rename_i h
      have hs : s ∈ ss := by simpa using h
      rw [ih, List.mem_cons]
      constructor
      · exact Or.inr
      · rintro (rfl | h') <;> assumption
    · simp [ih]

theorem mem_vars (e : BExp) (x : String) : x ∈ vars e ↔ x ∈ e.syms := by
  unfold vars
  rw [(List.mergeSort_perm _ _).mem_iff, mem_dedupStrings]

theorem mem_monos : ∀ (vs : List String) (m : List String), m ∈ monos vs → ∀ x ∈ m, x ∈ vs
  | [], m, h => by
    simp only [monos, List.mem_singleton] at h
    subst h; simp
  | v :: vs, m, h => by
    simp only [monos, List.mem_append, List.mem_map] at h
    intro x hx
    rcases h with h | ⟨m', hm', rfl⟩
    · exact List.mem_cons_of_mem _ (mem_monos vs m h x hx)
    · rcases List.mem_cons.1 hx with rfl | hx'
      · simp
      · exact List.mem_cons_of_mem _ (mem_monos vs m' hm' x hx')

theorem mem_terms (ms : List (List String)) (cs : List Bool) (m : List String)
    (h : m ∈ terms ms cs) : m ∈ ms := by
  simp only [terms, List.mem_map, List.mem_filter] at h
  obtain ⟨p, ⟨hp, _⟩, rfl⟩ := h
  exact (List.of_mem_zip hp).1

theorem syms_monoExp (m : List String) : (monoExp m).syms = m := by
  match m with
  | [] => rfl
  | [v] => rfl
  | v :: w :: vs =>
    simp only [monoExp, BExp.syms]
    generalize v :: w :: vs = l
    induction l with
    | nil => rfl
    | cons a l ih => simp [symsList, BExp.syms, ih]

theorem syms_xorExp (l : List BExp) : ∀ x, x ∈ (xorExp l).syms ↔ x ∈ symsList l := by
  intro x
  match l with
  | [] => simp [xorExp, BExp.syms, symsList]
  | [m] => simp [xorExp, symsList]
  | a :: b :: l => simp [xorExp, BExp.syms]

theorem mem_symsList_map (x : String) : ∀ ts : List (List String),
    x ∈ symsList (ts.map monoExp) ↔ ∃ m ∈ ts, x ∈ m
  | [] => by simp [symsList]
  | t :: ts => by simp [symsList, syms_monoExp, mem_symsList_map x ts]

/-! ### sympy's rounds compute the transform by halves -/

/-- the last round peeled off (the definition peels the first) -/
theorem rounds_succ' : ∀ (n : Nat) (c : List (List Bool)), rounds (n + 1) c = round (rounds n c)
  | 0, _ => rfl
  | n + 1, c => by
    rw [rounds, rounds_succ' n (round c)]
    rfl

theorem round_pairs {α : Type} (f g : α → List Bool) : ∀ ts : List α,
    round (ts.flatMap fun t => [f t, g t]) = ts.map fun t => f t ++ xorL (f t) (g t)
  | [] => rfl
  | t :: ts => by simp only [List.flatMap_cons, List.cons_append, List.nil_append, round, round_pairs f g ts, List.map_cons]

/-- the loop invariant of `anf_coeffs`: after `n` rounds over the singletons of a concatenation of tables of
length `2^n`, the blocks are the transforms of the tables -/
theorem rounds_tables : ∀ (n : Nat) (ts : List (List Bool)), (∀ t ∈ ts, t.length = 2 ^ n) →
    rounds n (ts.flatten.map ([·])) = ts.map (mobius n)
  | 0, ts, h => by
    induction ts with
    | nil => rfl
    | cons t ts ih =>
      match t, h t List.mem_cons_self with
      | [x], _ =>
        have := ih fun t ht => h t (List.mem_cons_of_mem _ ht)
        simp only [rounds, mobius, List.map_id'] at this ⊢
        simp [this]
  | n + 1, ts, h => by
    have hs : ∀ ts : List (List Bool),
        ts.flatten = (ts.flatMap fun t => [t.take (2 ^ n), t.drop (2 ^ n)]).flatten := fun ts => by
      induction ts with
      | nil => rfl
      | cons t ts ih => simp [← ih, ← List.append_assoc]
    rw [rounds_succ', hs ts, rounds_tables n _ (fun t ht => by
      obtain ⟨u, hu, ht⟩ := List.mem_flatMap.1 ht
      have := length_halves (h u hu)
      rcases List.mem_cons.1 ht with rfl | ht
      · exact this.1
      · rw [List.mem_singleton.1 ht]; exact this.2), List.map_flatMap]
    exact round_pairs _ _ ts

theorem rounds_singletons (n : Nat) (t : List Bool) (h : t.length = 2 ^ n) :
    rounds n (t.map ([·])) = [mobius n t] := by
  simpa using rounds_tables n [t] (by simpa using h)

end QV.Anf
