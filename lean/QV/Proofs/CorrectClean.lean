import QV.Props.C03
/-!
# What a correct and clean circuit leaves behind

`C02.Correct` says what the return qubits hold at the end, `C03.Clean` what every other qubit holds; together they
determine the final basis state (`final_of_correct_clean`): the arguments, then `outReg` – the return bits on their
qubits, zero elsewhere.  For any gate list, not only a compiled one.
-/
namespace QV.EndToEnd
open QV QV.Compiler

/-- argument `i` = `inputs[i]` = qubit `i` -/
abbrev predOf (inputs : List String) (defs : List (String × BExp)) (r : String) : List Bool → Bool :=
  fun x => envOf (evalDefs defs (inputs.zip x)) r

/-- the `nq - n` non-argument qubits: qubit `n + j` holds the value of a return name mapped to it (any of them:
names sharing a qubit have the same value on every input), every other qubit is zero -/
def outReg (inputs : List String) (defs : List (String × BExp)) (rets : List String)
    (qmap : List (String × Nat)) (nq : Nat) (x : List Bool) : List Bool :=
  (List.range (nq - inputs.length)).map fun j =>
    match rets.find? (fun r => dictGet? qmap r == some (inputs.length + j)) with
    | some r => predOf inputs defs r x
    | none => false

theorem outReg_length (inputs : List String) (defs : List (String × BExp)) (rets : List String)
    (qmap : List (String × Nat)) (nq : Nat) (x : List Bool) :
    (outReg inputs defs rets qmap nq x).length = nq - inputs.length := by
  simp [outReg]

theorem outReg_getD (inputs : List String) (defs : List (String × BExp)) (rets : List String)
    (qmap : List (String × Nat)) (nq : Nat) (x : List Bool) (j : Nat) (hj : j < nq - inputs.length) :
    (outReg inputs defs rets qmap nq x).getD j false =
      match rets.find? (fun r => dictGet? qmap r == some (inputs.length + j)) with
      | some r => predOf inputs defs r x
      | none => false := by
  simp [outReg, List.getD_eq_getElem?_getD, hj]

section
variable {gates : List AGate} {nq : Nat} {qmap : List (String × Nat)} {inputs : List String}
  {defs : List (String × BExp)} {rets : List String}

theorem outReg_at (hc : C02.Correct gates nq qmap inputs defs rets) (x : List Bool) (hx : x.length = inputs.length)
    (i : Nat) (hge : inputs.length ≤ i) (hlt : i < nq) :
    (outReg inputs defs rets qmap nq x).getD (i - inputs.length) false =
      if i ∈ rets.filterMap (dictGet? qmap) then (runClassical gates (initState x nq)).getD i false else false := by
  rw [outReg_getD _ _ _ _ _ _ _ (Nat.sub_lt_sub_right hge hlt), Nat.add_sub_cancel' hge]
  cases hfind : rets.find? (fun r => dictGet? qmap r == some i) with
  | none =>
    refine (if_neg fun hmem => ?_).symm
    obtain ⟨r, hr, hrq⟩ := List.mem_filterMap.mp hmem
    simpa [hrq] using List.find?_eq_none.mp hfind r hr
  | some r =>
    have hr := List.mem_of_find?_eq_some hfind
    have hrq : dictGet? qmap r = some i := by simpa using List.find?_some hfind
    obtain ⟨q', hq', hv⟩ := hc x hx r hr
    rw [hrq] at hq'
    cases hq'
    rw [if_pos (List.mem_filterMap.mpr ⟨r, hr, hrq⟩)]
    exact hv.symm

theorem outReg_ret (hc : C02.Correct gates nq qmap inputs defs rets) {r : String} {q : Nat} (hr : r ∈ rets)
    (hq : dictGet? qmap r = some q) (hge : inputs.length ≤ q) (hlt : q < nq)
    (x : List Bool) (hx : x.length = inputs.length) :
    (outReg inputs defs rets qmap nq x).getD (q - inputs.length) false = predOf inputs defs r x := by
  rw [outReg_at hc x hx q hge hlt, if_pos (List.mem_filterMap.mpr ⟨r, hr, hq⟩)]
  obtain ⟨q', hq', hv⟩ := hc x hx r hr
  rw [hq] at hq'
  cases hq'
  exact hv

theorem final_of_correct_clean (hn : inputs.length ≤ nq) (hc : C02.Correct gates nq qmap inputs defs rets)
    (hcl : C03.Clean gates nq inputs.length (rets.filterMap (dictGet? qmap)))
    (x : List Bool) (hx : x.length = inputs.length) :
    runClassical gates (initState x nq) = x ++ outReg inputs defs rets qmap nq x := by
  have hlen : (runClassical gates (initState x nq)).length = nq := by
    rw [runClassical_length, initState_length x _ (hx ▸ hn)]
  refine BState.ext_getD (by rw [hlen, List.length_append, outReg_length, hx, Nat.add_sub_cancel' hn])
    (fun i hi => ?_)
  rw [hlen] at hi
  obtain ⟨c1, c2⟩ := hcl x hx i hi
  by_cases hin : i < inputs.length
  · rw [c1 hin, List.getD_eq_getElem?_getD, List.getD_eq_getElem?_getD, List.getElem?_append_left (hx ▸ hin)]
  · have hge : inputs.length ≤ i := Nat.le_of_not_lt hin
    rw [List.getD_eq_getElem?_getD (l := x ++ _), List.getElem?_append_right (hx ▸ hge), hx,
      ← List.getD_eq_getElem?_getD, outReg_at hc x hx i hge hi]
    split
    · rfl
    · next hno => exact c2 hge hno

theorem outReg_single (hc : C02.Correct gates nq qmap inputs defs rets) {r : String} {q : Nat} (hr : r ∈ rets)
    (hq : dictGet? qmap r = some q) (hge : inputs.length ≤ q)
    (hout : ∀ i ∈ rets.filterMap (dictGet? qmap), i = q) (x : List Bool) (hx : x.length = inputs.length) :
    outReg inputs defs rets qmap nq x
      = (List.replicate (nq - inputs.length) false).set (q - inputs.length) (predOf inputs defs r x) := by
  refine BState.ext_getD (by rw [outReg_length, List.length_set, List.length_replicate]) (fun j hj => ?_)
  rw [outReg_length] at hj
  by_cases hjq : inputs.length + j = q
  · have := outReg_ret hc hr hq hge (by omega) x hx
    rw [← hjq, Nat.add_sub_cancel_left] at this ⊢
    rw [this]
    simp [List.getD_eq_getElem?_getD, hj]
  · have e := outReg_at hc x hx (inputs.length + j) (Nat.le_add_right _ _) (by omega)
    rw [Nat.add_sub_cancel_left] at e
    rw [e, if_neg (fun hm => hjq (hout _ hm))]
    have : q - inputs.length ≠ j := by omega
    simp [List.getD_eq_getElem?_getD, List.getElem_set_ne this, hj]

end

theorem outReg_eq_iff {inputs : List String} {defs : List (String × BExp)} {rets : List String}
    {gates : List AGate} {qmap : List (String × Nat)} {nq : Nat}
    (hCorr : C02.Correct gates nq qmap inputs defs rets)
    (hall : ∀ r ∈ rets, ∃ q, dictGet? qmap r = some q ∧ inputs.length ≤ q ∧ q < nq)
    (x x' : List Bool) (hx : x.length = inputs.length) (hx' : x'.length = inputs.length) :
    outReg inputs defs rets qmap nq x = outReg inputs defs rets qmap nq x' ↔
      rets.map (fun r => predOf inputs defs r x) = rets.map (fun r => predOf inputs defs r x') := by
  constructor
  · intro he
    apply List.map_inj_left.mpr
    intro r hr
    obtain ⟨q, hq, hge, hlt⟩ := hall r hr
    rw [← outReg_ret hCorr hr hq hge hlt x hx, ← outReg_ret hCorr hr hq hge hlt x' hx', he]
  · intro he
    have hv : ∀ r ∈ rets, predOf inputs defs r x = predOf inputs defs r x' := List.map_inj_left.mp he
    unfold outReg
    apply List.map_congr_left
    intro j _
    cases hfind : rets.find? (fun r => dictGet? qmap r == some (inputs.length + j)) with
    | none => rfl
    | some r' => exact hv r' (List.mem_of_find?_eq_some hfind)

end QV.EndToEnd
