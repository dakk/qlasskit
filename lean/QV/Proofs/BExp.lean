import QV.Base.BExp
/-!
The three facts every user of `BExp.subst` needs, each by one induction over the nested type:
substituting then evaluating is evaluating in the environment the substitution induces; `eval` reads
only the free symbols; the free symbols of `e.subst σ` are those of `e` with each replaced by the
symbols of its image.  `Call.compEnv`, `Tools.extend`, `Bqm.substEnv` are `substEnv` under local names (same body),
and `Opt.envOfMap M` is `substEnv (lookup M)`.
-/
namespace QV.BExp

def substEnv (σ : String → Option BExp) (ρ : Env) : Env := fun n =>
  match σ n with
  | some r => r.eval ρ
  | none => ρ n

mutual
theorem eval_subst (σ : String → Option BExp) (ρ : Env) :
    ∀ e : BExp, (e.subst σ).eval ρ = e.eval (substEnv σ ρ)
  | .tt => rfl
  | .ff => rfl
  | .sym n => by
      simp only [subst, eval, substEnv]
      cases σ n <;> rfl
  | .not e => by simp only [subst, eval, eval_subst σ ρ e]
  | .and l => by simp only [subst, eval, evalAnd_subst σ ρ l]
  | .or l => by simp only [subst, eval, evalOr_subst σ ρ l]
  | .xor l => by simp only [subst, eval, evalXor_subst σ ρ l]
  | .ite c t e => by simp only [subst, eval, eval_subst σ ρ c, eval_subst σ ρ t, eval_subst σ ρ e]
  | .imp a b => by simp only [subst, eval, eval_subst σ ρ a, eval_subst σ ρ b]
theorem evalAnd_subst (σ : String → Option BExp) (ρ : Env) :
    ∀ l : List BExp, evalAnd ρ (substList σ l) = evalAnd (substEnv σ ρ) l
  | [] => rfl
  | e :: es => by simp only [substList, evalAnd, eval_subst σ ρ e, evalAnd_subst σ ρ es]
theorem evalOr_subst (σ : String → Option BExp) (ρ : Env) :
    ∀ l : List BExp, evalOr ρ (substList σ l) = evalOr (substEnv σ ρ) l
  | [] => rfl
  | e :: es => by simp only [substList, evalOr, eval_subst σ ρ e, evalOr_subst σ ρ es]
theorem evalXor_subst (σ : String → Option BExp) (ρ : Env) :
    ∀ l : List BExp, evalXor ρ (substList σ l) = evalXor (substEnv σ ρ) l
  | [] => rfl
  | e :: es => by simp only [substList, evalXor, eval_subst σ ρ e, evalXor_subst σ ρ es]
end

mutual
theorem eval_congr (ρ ρ' : Env) : ∀ e : BExp, (∀ n ∈ e.syms, ρ n = ρ' n) → e.eval ρ = e.eval ρ'
  | .tt, _ => rfl
  | .ff, _ => rfl
  | .sym n, h => h n (List.mem_singleton.mpr rfl)
  | .not e, h => by simp only [eval, eval_congr ρ ρ' e h]
  | .and l, h => evalAnd_congr ρ ρ' l h
  | .or l, h => evalOr_congr ρ ρ' l h
  | .xor l, h => evalXor_congr ρ ρ' l h
  | .ite c t e, h => by
      simp only [syms, List.mem_append] at h
      simp only [eval, eval_congr ρ ρ' c fun n hn => h n (.inl (.inl hn)),
        eval_congr ρ ρ' t fun n hn => h n (.inl (.inr hn)), eval_congr ρ ρ' e fun n hn => h n (.inr hn)]
  | .imp a b, h => by
      simp only [syms, List.mem_append] at h
      simp only [eval, eval_congr ρ ρ' a fun n hn => h n (.inl hn),
        eval_congr ρ ρ' b fun n hn => h n (.inr hn)]
theorem evalAnd_congr (ρ ρ' : Env) :
    ∀ l : List BExp, (∀ n ∈ symsList l, ρ n = ρ' n) → evalAnd ρ l = evalAnd ρ' l
  | [], _ => rfl
  | e :: es, h => by
      simp only [symsList, List.mem_append] at h
      simp only [evalAnd, eval_congr ρ ρ' e fun n hn => h n (.inl hn),
        evalAnd_congr ρ ρ' es fun n hn => h n (.inr hn)]
theorem evalOr_congr (ρ ρ' : Env) :
    ∀ l : List BExp, (∀ n ∈ symsList l, ρ n = ρ' n) → evalOr ρ l = evalOr ρ' l
  | [], _ => rfl
  | e :: es, h => by
      simp only [symsList, List.mem_append] at h
      simp only [evalOr, eval_congr ρ ρ' e fun n hn => h n (.inl hn),
        evalOr_congr ρ ρ' es fun n hn => h n (.inr hn)]
theorem evalXor_congr (ρ ρ' : Env) :
    ∀ l : List BExp, (∀ n ∈ symsList l, ρ n = ρ' n) → evalXor ρ l = evalXor ρ' l
  | [], _ => rfl
  | e :: es, h => by
      simp only [symsList, List.mem_append] at h
      simp only [evalXor, eval_congr ρ ρ' e fun n hn => h n (.inl hn),
        evalXor_congr ρ ρ' es fun n hn => h n (.inr hn)]
end

theorem evalAnd_eq_all (ρ : Env) : ∀ l : List BExp, evalAnd ρ l = l.all (·.eval ρ)
  | [] => rfl
  | e :: es => by simp only [evalAnd, List.all_cons, evalAnd_eq_all ρ es]

theorem evalOr_eq_any (ρ : Env) : ∀ l : List BExp, evalOr ρ l = l.any (·.eval ρ)
  | [] => rfl
  | e :: es => by simp only [evalOr, List.any_cons, evalOr_eq_any ρ es]

def image (σ : String → Option BExp) (m : String) : List String :=
  match σ m with
  | some r => r.syms
  | none => [m]

theorem mem_image {σ : String → Option BExp} {m n : String} :
    n ∈ image σ m ↔ (σ m = none ∧ n = m) ∨ ∃ r, σ m = some r ∧ n ∈ r.syms := by
  unfold image
  cases σ m <;> simp

mutual
theorem syms_subst (σ : String → Option BExp) : ∀ e : BExp, (e.subst σ).syms = e.syms.flatMap (image σ)
  | .tt => rfl
  | .ff => rfl
  | .sym n => by
      simp only [subst, syms, List.flatMap_cons, List.flatMap_nil, List.append_nil, image]
      cases σ n <;> rfl
  | .not e => syms_subst σ e
  | .and l => symsList_subst σ l
  | .or l => symsList_subst σ l
  | .xor l => symsList_subst σ l
  | .ite c t e => by
      simp only [subst, syms, List.flatMap_append, syms_subst σ c, syms_subst σ t, syms_subst σ e]
  | .imp a b => by simp only [subst, syms, List.flatMap_append, syms_subst σ a, syms_subst σ b]
theorem symsList_subst (σ : String → Option BExp) :
    ∀ l : List BExp, symsList (substList σ l) = (symsList l).flatMap (image σ)
  | [] => rfl
  | e :: es => by
      simp only [substList, symsList, List.flatMap_append, syms_subst σ e, symsList_subst σ es]
end

mutual
theorem beq_eq : ∀ a b : BExp, beq a b = true → a = b
  | .tt, b => by cases b <;> simp [beq]
  | .ff, b => by cases b <;> simp [beq]
  | .sym n, b => by cases b <;> simp [beq]
  | .not a, b => by cases b <;> simp [beq] <;> exact beq_eq a _
  | .and l, b => by cases b <;> simp [beq] <;> exact beqList_eq l _
  | .or l, b => by cases b <;> simp [beq] <;> exact beqList_eq l _
  | .xor l, b => by cases b <;> simp [beq] <;> exact beqList_eq l _
  | .ite c t e, b => by
      cases b <;> simp [beq]
      intro h1 h2 h3
      exact ⟨beq_eq c _ h1, beq_eq t _ h2, beq_eq e _ h3⟩
  | .imp x y, b => by
      cases b <;> simp [beq]
      intro h1 h2
      exact ⟨beq_eq x _ h1, beq_eq y _ h2⟩
theorem beqList_eq : ∀ a b : List BExp, beqList a b = true → a = b
  | [], b => by cases b <;> simp [beqList]
  | x :: xs, b => by
      cases b <;> simp [beqList]
      intro h1 h2
      exact ⟨beq_eq x _ h1, beqList_eq xs _ h2⟩
end

theorem eq_of_beq {a b : BExp} (h : (a == b) = true) : a = b := beq_eq a b h

end QV.BExp
