/-! Facts about core list functions that core states only in a weaker form (`all` / `any` / `filterMap` depend on the
function only at the members), or only for `idxOf`.  Several model
functions turn out to be these core functions (`Tools.idx?` and `Export.indexOfName` are `List.idxOf?`). -/
namespace List

/-- `all` depends on the predicate only at the members (core's `all_congr` asks for all `a`) -/
theorem all_congr_mem {α : Type} {l : List α} {p q : α → Bool} (h : ∀ x ∈ l, p x = q x) : l.all p = l.all q := by
  induction l with
  | nil => rfl
  | cons x xs ih =>
    rw [all_cons, all_cons, h x mem_cons_self, ih fun y hy => h y (mem_cons_of_mem _ hy)]

theorem any_congr_mem {α : Type} {l : List α} {p q : α → Bool} (h : ∀ x ∈ l, p x = q x) : l.any p = l.any q := by
  induction l with
  | nil => rfl
  | cons x xs ih =>
    rw [any_cons, any_cons, h x mem_cons_self, ih fun y hy => h y (mem_cons_of_mem _ hy)]

theorem filterMap_congr_mem {α β : Type} {f g : α → Option β} :
    ∀ (l : List α), (∀ a ∈ l, f a = g a) → l.filterMap f = l.filterMap g
  | [], _ => rfl
  | a :: l, h => by
    rw [filterMap_cons, filterMap_cons, h a mem_cons_self,
      filterMap_congr_mem l (fun x hx => h x (mem_cons_of_mem _ hx))]

/-- in a duplicate-free list the first occurrence of the `i`-th element is at `i` (core has this for `idxOf`) -/
theorem Nodup.idxOf?_getElem {α : Type} [BEq α] [LawfulBEq α] {l : List α} (h : l.Nodup) (i : Nat)
    (hi : i < l.length) : l.idxOf? l[i] = some i :=
  idxOf?_eq_some_iff.2 ⟨hi, rfl, fun j hj e => by
    have := (getElem_inj h).1 e
    omega⟩

end List
