/-! The reference semantics are functions into `Option` built with `bind`; a statement about two of them (`ORel`,
`OLe`), or about the values of one (`OAll`), is proved form by form from one fact per operator once the relation is
lifted to `Option` with its `bind` rule. -/
namespace QV

def ORel {α β : Type} (R : α → β → Prop) (a : Option α) (b : Option β) : Prop :=
  ∀ x y, a = some x → b = some y → R x y

theorem ORel.some {α β : Type} {R : α → β → Prop} {x : α} {y : β} (h : R x y) : ORel R (some x) (some y) := by
  intro _ _ hx hy; cases hx; cases hy; exact h

theorem ORel.none_left {α β : Type} {R : α → β → Prop} {b : Option β} : ORel R none b := fun _ _ h => nomatch h

theorem ORel.none_right {α β : Type} {R : α → β → Prop} {a : Option α} : ORel R a none := fun _ _ _ h => nomatch h

theorem ORel.bind {α β γ δ : Type} {R : α → β → Prop} {S : γ → δ → Prop} {a : Option α} {b : Option β}
    {f : α → Option γ} {g : β → Option δ} (h : ORel R a b) (hfg : ∀ x y, R x y → ORel S (f x) (g y)) :
    ORel S (a.bind f) (b.bind g) := by
  intro u v hu hv
  obtain ⟨x, hx, hfx⟩ := Option.bind_eq_some_iff.mp hu
  obtain ⟨y, hy, hgy⟩ := Option.bind_eq_some_iff.mp hv
  exact hfg x y (h x y hx hy) u v hfx hgy

theorem ORel.map {α β γ δ : Type} {R : α → β → Prop} {S : γ → δ → Prop} {a : Option α} {b : Option β}
    {f : α → γ} {g : β → δ} (h : ORel R a b) (hfg : ∀ x y, R x y → S (f x) (g y)) :
    ORel S (a.map f) (b.map g) := by
  intro u v hu hv
  obtain ⟨x, hx, rfl⟩ := Option.map_eq_some_iff.mp hu
  obtain ⟨y, hy, rfl⟩ := Option.map_eq_some_iff.mp hv
  exact hfg x y (h x y hx hy)

def OLe {α : Type} (a b : Option α) : Prop := ∀ v, a = some v → b = some v

theorem OLe.rfl {α : Type} {a : Option α} : OLe a a := fun _ h => h

theorem OLe.none {α : Type} {b : Option α} : OLe none b := fun _ h => nomatch h

theorem OLe.bind {α β : Type} {a b : Option α} {f g : α → Option β} (h : OLe a b) (hfg : ∀ x, OLe (f x) (g x)) :
    OLe (a.bind f) (b.bind g) := by
  intro v hv
  obtain ⟨x, hx, hfx⟩ := Option.bind_eq_some_iff.mp hv
  rw [h x hx]; exact hfg x v hfx

theorem OLe.map {α β : Type} {a b : Option α} (f : α → β) (h : OLe a b) : OLe (a.map f) (b.map f) := by
  intro v hv
  obtain ⟨x, hx, rfl⟩ := Option.map_eq_some_iff.mp hv
  rw [h x hx]; rfl

def OAll {α : Type} (P : α → Prop) (a : Option α) : Prop := ∀ v, a = some v → P v

theorem OAll.some {α : Type} {P : α → Prop} {x : α} (h : P x) : OAll P (some x) := by
  intro _ hx; cases hx; exact h

theorem OAll.none {α : Type} {P : α → Prop} : OAll P none := fun _ h => nomatch h

theorem OAll.bind {α β : Type} {P : α → Prop} {Q : β → Prop} {a : Option α} {f : α → Option β}
    (h : OAll P a) (hf : ∀ x, P x → OAll Q (f x)) : OAll Q (a.bind f) := by
  intro v hv
  obtain ⟨x, hx, hfx⟩ := Option.bind_eq_some_iff.mp hv
  exact hf x (h x hx) v hfx

theorem OAll.bind_any {α β : Type} {Q : β → Prop} {a : Option α} {f : α → Option β}
    (hf : ∀ x, OAll Q (f x)) : OAll Q (a.bind f) :=
  OAll.bind (P := fun _ => True) (fun _ _ => trivial) fun x _ => hf x

end QV
