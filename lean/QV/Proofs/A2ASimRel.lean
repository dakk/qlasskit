import QV.Proofs.A2AVisitors
/-! The list the rewriter returns for a statement – wrapped in the guards of the enclosing `if`s – is run (`runA`) from an
environment that agrees with the source environment on the user variables (`Rel`); `exec` under the values of the
guards is run from the source environment.  Both are functions, so "each is defined when the other is, and the results
agree again" is one relation between two `Option`s (`Both`). -/
namespace QV.A2A
open QV.Front QV.Sem

/-- run a list of assignments of the rewritten program (`Sem.semBody` before the `return`) -/
def runA : SEnv → List Front.Stmt → Option SEnv
  | σ, [] => some σ
  | σ, .assign t e :: ss =>
    match semW σ e with
    | some v => runA (σ.set t v) ss
    | none => none
  | _, _ :: _ => none

theorem runA_cons (σ : SEnv) (t : String) (e : PExp) (ss : List Front.Stmt) :
    runA σ (.assign t e :: ss) = (semW σ e).bind fun v => runA (σ.set t v) ss := by
  simp only [runA]; cases semW σ e <;> rfl

theorem runA_append (σ : SEnv) (A B : List Front.Stmt) : runA σ (A ++ B) = (runA σ A).bind (runA · B) := by
  induction A generalizing σ with
  | nil => rfl
  | cons a A ih =>
    cases a with
    | assign t e =>
      rw [List.cons_append, runA_cons, runA_cons]
      cases semW σ e with
      | none => rfl
      | some v => exact ih _
    | ret e => rfl
    | expr e => rfl
    | unsupported w => rfl

/-- `ORel P` of `QV/Proofs/OptionRel.lean` together with "defined together" -/
def Both (P : SEnv → SEnv → Prop) : Option SEnv → Option SEnv → Prop
  | some σs, some σr => P σs σr
  | none, none => True
  | _, _ => False

theorem both_none {P : SEnv → SEnv → Prop} : Both P none none := trivial

theorem both_some {P : SEnv → SEnv → Prop} {x y : SEnv} (h : P x y) : Both P (some x) (some y) := h

theorem Both.bind_val {α : Type} {P : SEnv → SEnv → Prop} {a : Option α} {f g : α → Option SEnv}
    (h : ∀ v, Both P (f v) (g v)) : Both P (a.bind f) (a.bind g) := by
  cases a with
  | none => exact both_none
  | some v => exact h v

theorem Both.bind {P Q : SEnv → SEnv → Prop} {a b : Option SEnv} {f g : SEnv → Option SEnv} (h : Both P a b)
    (hfg : ∀ x y, P x y → Both Q (f x) (g y)) : Both Q (a.bind f) (b.bind g) := by
  cases a <;> cases b <;> first | exact h.elim | trivial | exact hfg _ _ h

theorem Both.bind_eq {α : Type} {P : SEnv → SEnv → Prop} {a b : Option SEnv} {f g : SEnv → Option α} (h : Both P a b)
    (hfg : ∀ x y, P x y → f x = g y) : a.bind f = b.bind g := by
  cases a <;> cases b <;> first | exact h.elim | rfl | exact hfg _ _ h

theorem Both.mono {P Q : SEnv → SEnv → Prop} {a b : Option SEnv} (h : Both P a b) (hPQ : ∀ x y, P x y → Q x y) :
    Both Q a b := by
  cases a <;> cases b <;> first | exact h.elim | trivial | exact hPQ _ _ h

theorem Both.of_none {P : SEnv → SEnv → Prop} {b : Option SEnv} (h : Both P none b) : b = none := by
  cases b with
  | none => rfl
  | some y => exact h.elim

theorem Both.of_some {P : SEnv → SEnv → Prop} {x : SEnv} {b : Option SEnv} (h : Both P (some x) b) :
    ∃ y, b = some y ∧ P x y := by
  cases b with
  | none => exact h.elim
  | some y => exact ⟨y, rfl, h⟩

def Rel (σs σr : SEnv) : Prop := ∀ n, userName n = true → σr n = σs n

/-- every guard variable on the stack is an `_iftarg` name and none of the `_iftarg(k)`, `lo < k ≤ hi`, that a step moving the
counter from `lo` to `hi` generates -/
def GammaFresh (lo hi : Nat) (Γ : List (String × Bool)) : Prop :=
  ∀ p ∈ Γ, isIfTarg p.1 = true ∧ ∀ k, lo < k → k ≤ hi → p.1 ≠ iftargName k

/-- the step wrote no `_iftarg` variable other than those it generated (numbered in `(lo, hi]`) -/
def Frame (lo hi : Nat) (σr σr' : SEnv) : Prop :=
  ∀ n, isIfTarg n = true → (∀ k, lo < k → k ≤ hi → n ≠ iftargName k) → σr' n = σr n

theorem GammaFresh.mono {lo hi lo' hi' : Nat} {Γ : List (String × Bool)} (h : GammaFresh lo hi Γ)
    (h1 : lo ≤ lo') (h2 : hi' ≤ hi) : GammaFresh lo' hi' Γ :=
  fun p hp => ⟨(h p hp).1, fun k hk1 hk2 => (h p hp).2 k (by omega) (by omega)⟩

theorem Rel.set_user {σs σr : SEnv} (h : Rel σs σr) (t : String) (v : SVal) : Rel (σs.set t v) (σr.set t v) := by
  intro n hn
  by_cases hnt : n = t
  · subst hnt; rw [set_eq, set_eq]
  · rw [set_ne _ _ _ _ hnt, set_ne _ _ _ _ hnt]; exact h n hn

theorem Rel.set_temp {σs σr : SEnv} (h : Rel σs σr) (t : String) (v : SVal) (ht : userName t = false) :
    Rel σs (σr.set t v) := by
  intro n hn
  have hnt : n ≠ t := fun hh => by rw [hh, ht] at hn; cases hn
  rw [set_ne _ _ _ _ hnt]; exact h n hn

theorem userName_dunder (t : String) : userName ("__" ++ t) = false := by
  simp [userName, isDunder_dunder]

theorem userName_iftarg (k : Nat) : userName (iftargName k) = false := by
  simp [userName, isIfTarg_iftarg]

theorem ne_of_iftarg {n t : String} (hn : isIfTarg n = true) (ht : isIfTarg t = false) : n ≠ t := by
  intro h; rw [h, ht] at hn; cases hn

theorem guardVals_set (σ : SEnv) (Γ : List (String × Bool)) (t : String) (v : SVal)
    (hΓ : ∀ p ∈ Γ, isIfTarg p.1 = true) (ht : isIfTarg t = false) :
    guardVals (σ.set t v) Γ = guardVals σ Γ :=
  guardVals_congr _ _ _ (fun p hp => set_ne _ _ _ _ (ne_of_iftarg (hΓ p hp) ht))

theorem assign_sim (t : String) (e : SExp) (ht : userName t = true)
    (hpe : ∀ n, mentions n (toP e) = true → userName n = true) (L : List SStmt) (hL : AssignForms t e L)
    (Γ : List (String × Bool)) (gs : List (SVal × Bool)) (σs σr : SEnv) (hrel : Rel σs σr)
    (hgs : guardVals σr Γ = some gs) (hΓ : ∀ p ∈ Γ, isIfTarg p.1 = true) :
    Both (fun σs' σr' => (∃ w, σs' = σs.set t w) ∧ Rel σs' σr' ∧ ∀ n, isIfTarg n = true → σr' n = σr n)
      ((semW σs (toP e)).bind (assignG gs σs t)) (runA σr (wrapF Γ (L.map toStmt))) := by
  have hti : isIfTarg t = false := userName_not_iftarg ht
  have hold : oldOf t = t := by simp [oldOf, userName_not_dunder ht]
  have hdi : isIfTarg ("__" ++ t) = false := isIfTarg_dunder t
  have hsrc : (semW σs (toP e)).bind (assignG gs σs t)
      = ((semW σs (toP e)).bind (storeW gs (σs t))).map (σs.set t) := by
    cases semW σs (toP e) with
    | none => rfl
    | some v => exact assignG_eq gs σs t v
  have hx : semW σr (wrapE Γ t (toP e)) = (semW σs (toP e)).bind (storeW gs (σs t)) := by
    rw [semW_wrapE σr t _ Γ gs hgs, semW_congr' σr σs _ (fun n hn => hrel n (hpe n hn)), hrel t ht]
  rw [hsrc]
  rcases hL with rfl | rfl
  · show Both _ _ (runA σr (wrapF Γ [.assign t (toP e)]))
    rw [wrapF_assign Γ t _ hti, hold, runA_cons, hx]
    cases (semW σs (toP e)).bind (storeW gs (σs t)) with
    | none => exact both_none
    | some x => exact both_some ⟨⟨x, rfl⟩, hrel.set_user t x, fun n hn => set_ne _ _ _ _ (ne_of_iftarg hn hti)⟩
  · have hsplit : wrapF Γ [Front.Stmt.assign ("__" ++ t) (toP e), .assign t (.name ("__" ++ t))]
        = [.assign ("__" ++ t) (wrapE Γ t (toP e)), .assign t (wrapE Γ t (.name ("__" ++ t)))] := by
      rw [show [Front.Stmt.assign ("__" ++ t) (toP e), .assign t (.name ("__" ++ t))]
          = [Front.Stmt.assign ("__" ++ t) (toP e)] ++ [.assign t (.name ("__" ++ t))] from rfl,
        wrapF_append, wrapF_assign Γ _ _ hdi, wrapF_assign Γ t _ hti, hold]
      simp [oldOf, isDunder_dunder, dropDunder_dunder]
    show Both _ _ (runA σr (wrapF Γ [.assign ("__" ++ t) (toP e), .assign t (.name ("__" ++ t))]))
    rw [hsplit, runA_cons, hx]
    cases hX : (semW σs (toP e)).bind (storeW gs (σs t)) with
    | none => exact both_none
    | some x =>
      obtain ⟨v, _, hw⟩ := Option.bind_eq_some_iff.mp hX
      have hne : t ≠ "__" ++ t := fun h => by
        have := isDunder_dunder t
        rw [← h, userName_not_dunder ht] at this; cases this
      -- wrapping the stored value again does not change it
      have hx2 : semW (σr.set ("__" ++ t) x) (wrapE Γ t (.name ("__" ++ t))) = some x := by
        rw [semW_wrapE _ t _ Γ gs (by rw [guardVals_set σr Γ _ x hΓ hdi]; exact hgs), semW_name, set_eq,
          set_ne _ _ _ _ hne, hrel t ht]
        exact storeW_idem gs _ v x hw
      show Both _ (some (σs.set t x)) (runA (σr.set ("__" ++ t) x) _)
      rw [runA_cons, hx2]
      refine both_some ⟨⟨x, rfl⟩, (hrel.set_temp _ x (userName_dunder t)).set_user t x, fun n hn => ?_⟩
      rw [set_ne _ _ _ _ (ne_of_iftarg hn hti), set_ne _ _ _ _ (ne_of_iftarg hn hdi)]

end QV.A2A
