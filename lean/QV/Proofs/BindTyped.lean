import QV.Model.BindAnn
/-!
For a keyword value that is a value of the declared type (`isValueOf`), the width-aware cast
(`wCast`, the translator's typecast `T(v)`) never fails and gives exactly the declared-width
encoding: `Qint_w.const(v)` for an integer, element-wise for tuples.
-/
namespace QV.Bind

theorem wfill_eq (w : Nat) (l : List Bool) :
    wfill w l = l ++ List.replicate (w - l.length) false := by
  unfold wfill
  split
  · have : w - l.length = 0 := by omega
    simp [this]
  · rfl

theorem wfill_length (w : Nat) (l : List Bool) (h : l.length ≤ w) : (wfill w l).length = w := by
  rw [wfill_eq]; simp; omega

theorem natBitsLE_length (f : Nat) : ∀ (n w : Nat), n < 2 ^ w → 0 < w → (natBitsLE f n).length ≤ w := by
  induction f with
  | zero => intro n w _ _; simp [natBitsLE]
  | succ f ih =>
    intro n w hn hw
    unfold natBitsLE
    split
    · simp; omega
    · rename_i h2
      obtain ⟨w', rfl⟩ : ∃ w', w = w' + 1 := ⟨w - 1, by omega⟩
      have hw' : 0 < w' := by
        rcases Nat.eq_zero_or_pos w' with h0 | h0
        · subst h0; simp at hn; omega
        · exact h0
      have hdiv : n / 2 < 2 ^ w' := by
        rw [Nat.pow_succ] at hn
        exact Nat.div_lt_of_lt_mul (by omega)
      have := ih (n / 2) w' hdiv hw'
      simp only [List.length_cons]
      omega

theorem drop_fill_all_false (l : List Bool) (w k : Nat) (h : l.length ≤ w) :
    ((l ++ List.replicate k false).drop w).all (!·) = true := by
  rw [List.all_eq_true]
  intro x hx
  rw [List.drop_append, List.drop_eq_nil_of_le h, List.nil_append] at hx
  have := List.mem_of_mem_drop hx
  rw [List.mem_replicate] at this
  simp [this.2]

theorem fill_take_fill (l : List Bool) (w k : Nat) (h : l.length ≤ w) :
    wfill w ((l ++ List.replicate k false).take w) = wfill w l := by
  rw [List.take_append, List.take_of_length_le h, List.take_replicate]
  rw [wfill_eq, wfill_eq, List.append_assoc, List.replicate_append_replicate]
  congr 2
  simp only [List.length_append, List.length_replicate]
  omega

theorem qintTypes_widths : ∀ w ∈ QV.Gen.qintTypes.map (·.2), 2 ≤ w ∧ w ≤ 16 := by decide

/-- `const_to_qtype` types every `0 ≤ v < 2^16` -/
theorem constToQint_of_lt (v : Int) (h0 : 0 ≤ v) (h16 : v < ((2 ^ 16 : Nat) : Int)) :
    ∃ w', v < ((2 ^ w' : Nat) : Int) ∧ constToQint v = some (qintConst w' v) := by
  unfold constToQint
  cases hf : (QV.Gen.constQintCandidates.map (·.2)).find? (fun w => v < ((2 ^ w : Nat) : Int)) with
  | none =>
    have := List.find?_eq_none.mp hf 16 (by decide)
    simp at this
    omega
  | some w' =>
    have := List.find?_some hf
    exact ⟨w', by simpa using this, rfl⟩

theorem wCast_const_qint (w : Nat) (v : Int)
    (h : isValueOf (.qint w) (.atom (.i v)) = true) :
    (constToQint v).bind (fun l => wCast (.qint w) (.q l)) = some (.q (qintConst w v)) := by
  simp only [isValueOf, Bool.and_eq_true, decide_eq_true_eq] at h
  obtain ⟨⟨hw, h0⟩, hlt⟩ := h
  have hww := qintTypes_widths w (by simpa using hw)
  have h16 : v < ((2 ^ 16 : Nat) : Int) := by
    have : (2 ^ w : Nat) ≤ 2 ^ 16 := Nat.pow_le_pow_right (by omega) hww.2
    omega
  obtain ⟨w', hlt', hc⟩ := constToQint_of_lt v h0 h16
  rw [hc]
  simp only [Option.bind, wCast]
  -- both encodings are fills of the digits of `v`
  have hm' : (v % ((2 ^ w' : Nat) : Int)) = v := Int.emod_eq_of_lt h0 hlt'
  have hm : (v % ((2 ^ w : Nat) : Int)) = v := Int.emod_eq_of_lt h0 hlt
  have hn : v.toNat < 2 ^ w := by omega
  have hlen := natBitsLE_length 64 v.toNat w hn (by omega)
  unfold qintConst
  simp only [hm', hm]
  rw [wfill_eq w']
  rw [drop_fill_all_false _ _ _ hlen, if_pos rfl, fill_take_fill _ _ _ hlen]

theorem isValueOf_qint_pos {w : Nat} {v : Int} (h : isValueOf (.qint w) (.atom (.i v)) = true) : 0 < w := by
  simp only [isValueOf, Bool.and_eq_true, decide_eq_true_eq] at h
  have := qintTypes_widths w (by simpa using h.1.1)
  omega

theorem constVal_int (q : Quirks) (t : Ty) (v : Int) :
    constVal (WAlg q) (some t) (.atom (.i v)) = (constToQint v).bind fun l => wCast t (.q l) := by
  simp only [constVal, toVal, evalExp, WAlg]
  cases constToQint v <;> rfl

def hasTy : Ty → WV → Prop
  | .bool, .b _ => True
  | .qint w, .q l => l.length = w
  | .tuple ts, .tup vs => hasTyList ts vs
  | _, _ => False
where hasTyList : List Ty → List WV → Prop
  | [], [] => True
  | t :: ts, v :: vs => hasTy t v ∧ hasTyList ts vs
  | _, _ => False

theorem qintConst_length (w : Nat) (v : Int) (hw : 0 < w) : (qintConst w v).length = w := by
  unfold qintConst
  apply wfill_length
  apply natBitsLE_length _ _ _ _ hw
  have hpos : (0 : Int) < ((2 ^ w : Nat) : Int) := by
    have : 0 < 2 ^ w := Nat.two_pow_pos w
    omega
  have h1 := Int.emod_nonneg v (show ((2 ^ w : Nat) : Int) ≠ 0 by omega)
  have h2 := Int.emod_lt_of_pos v hpos
  generalize (2 ^ w : Nat) = m at *
  omega

mutual
theorem typed_defined (q : Quirks) : ∀ (t : Ty) (v : PyVal), isValueOf t v = true →
    ∃ y x, evalExp (WAlg q) Env.empty (toVal v) = some y ∧ wCast t y = some x ∧ hasTy t x
  | .bool, .atom (.b b), _ => ⟨.b b, .b b, by simp [toVal, evalExp, WAlg], by simp [wCast], trivial⟩
  | .bool, .atom (.i _), h => nomatch h
  | .bool, .atom (.s _), h => nomatch h
  | .bool, .iter _, h => nomatch h
  | .qint w, .atom (.i v), h => by
      have hc := wCast_const_qint w v h
      cases hl : constToQint v with
      | none => simp [hl] at hc
      | some l =>
        simp only [hl, Option.bind] at hc
        exact ⟨.q l, .q (qintConst w v), by simp [toVal, evalExp, WAlg, hl], hc,
          qintConst_length w v (isValueOf_qint_pos h)⟩
  | .qint _, .atom (.b _), h => nomatch h
  | .qint _, .atom (.s _), h => nomatch h
  | .qint _, .iter _, h => nomatch h
  | .tuple ts, .iter vs, h => by
      simp only [isValueOf, Bool.and_eq_true] at h
      obtain ⟨ys, xs, he, hc, ht⟩ := typed_defined_list q ts vs h.2
      refine ⟨.tup ys, .tup xs, ?_, by simp [wCast, hc], ht⟩
      simp only [toVal, evalExp, he]
      rfl
  | .tuple _, .atom _, h => nomatch h
  | .other _, _, h => nomatch h
theorem typed_defined_list (q : Quirks) : ∀ (ts : List Ty) (vs : List PyVal), isValueOfList ts vs = true →
    ∃ ys xs, evalList (WAlg q) Env.empty (toValList vs) = some ys ∧ wCastList ts ys = some xs ∧
      hasTy.hasTyList ts xs
  | [], [], _ => ⟨[], [], by simp [toValList, evalList], by simp [wCastList], trivial⟩
  | t :: ts, v :: vs, h => by
      simp only [isValueOfList, Bool.and_eq_true] at h
      obtain ⟨y, x, he, hc, ht⟩ := typed_defined q t v h.1
      obtain ⟨ys, xs, hes, hcs, hts⟩ := typed_defined_list q ts vs h.2
      exact ⟨y :: ys, x :: xs, by simp [toValList, evalList, he, hes], by simp [wCastList, hc, hcs],
        ⟨ht, hts⟩⟩
  | [], _ :: _, h => nomatch h
  | _ :: _, [], h => nomatch h
end

/-! ## `is_value_of` on written annotations: the helper loops -/

theorem allValueOf_iff (t : AnnE) (xs : List PyVal) :
    allValueOf t xs = true ↔ ∀ x ∈ xs, isValueOfAnn t x = true := by
  induction xs with
  | nil => simp [allValueOf]
  | cons x xs ih => simp [allValueOf, ih]

theorem isIter_iff (n : Nat) (v : PyVal) : isIter n v = true ↔ ∃ xs, v = .iter xs ∧ xs.length = n := by
  cases v with
  | atom a => simp [isIter]
  | iter l => simp [isIter]

/-- the two row loops of the `Qmatrix` branch together -/
theorem rows_iff (t : AnnE) (m : Nat) (rs : List PyVal) :
    (rs.all (isIter m) && allRowsValueOf t rs) = true ↔
      ∀ r ∈ rs, ∃ xs, r = .iter xs ∧ xs.length = m ∧ ∀ x ∈ xs, isValueOfAnn t x = true := by
  induction rs with
  | nil => simp [allRowsValueOf]
  | cons r rs ih =>
    cases r with
    | atom a => simp [allRowsValueOf, isIter]
    | iter xs =>
      simp only [List.all_cons, isIter, allRowsValueOf, Bool.and_eq_true, beq_iff_eq, List.mem_cons,
        forall_eq_or_imp, PyVal.iter.injEq, exists_eq_left', allValueOf_iff] at ih ⊢
      constructor
      · rintro ⟨⟨h1, h2⟩, h3, h4⟩
        exact ⟨⟨h1, h3⟩, ih.mp ⟨h2, h4⟩⟩
      · rintro ⟨⟨h1, h3⟩, h⟩
        have := ih.mpr h
        exact ⟨⟨h1, this.1⟩, h3, this.2⟩

/-- the `zip` loop of the `Tuple` branch (Python's `zip` stops at the shorter list) -/
theorem zip_iff (es : List AnnE) (xs : List PyVal) :
    zipValueOf es xs = true ↔ ∀ p ∈ es.zip xs, isValueOfAnn p.1 p.2 = true := by
  induction es generalizing xs with
  | nil => simp [zipValueOf]
  | cons e es ih =>
    cases xs with
    | nil => simp [zipValueOf]
    | cons x xs => simp [zipValueOf, ih xs]

end QV.Bind
