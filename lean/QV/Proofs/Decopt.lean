import QV.Model.Decopt
import QV.Proofs.Decompiler
/-!
# The circuit boolean optimizer: equivalence of gate lists and the splice loop

`SameUnitary n A B`: the gate lists `A` and `B` send every state to the same state under every gate semantics on
amplitude functions that meets `SemLaws`.  Two lists of classical gates with the same classical action are
`SameUnitary`, and `SameUnitary` is a congruence for `P ++ · ++ T`; with that the invariant of the splice loop
(`spliceLoop_inv`, for any transitive relation that splicing respects) gives the result from a condition on each
accepted section (`SectionOK`), which holds for a splice of the `xonly` shape (`xonly_ok`).  Nothing here looks
inside the compiler model; that is `Decopt2.lean`.
-/
namespace QV.Decopt
open QV.Decompiler

abbrev Amp (α : Type) := BState → α

def runSem {α : Type} (sem : AGate → Amp α → Amp α) (gs : List AGate) (ψ : Amp α) : Amp α :=
  gs.foldl (fun ψ g => sem g ψ) ψ

/-- what is assumed of the meaning of gates on `n` qubits: X/CX/CCX/MCX/MCtrl(X) permute the
basis states as `applyClassical` says (they are involutions, so `(P ψ)(b) = ψ(P b)`), `I`,
barriers and no-ops do nothing, and every gate maps states that agree on the `n`-qubit basis
states to states that agree there (the amplitudes of bit lists of another length are junk) -/
structure SemLaws {α : Type} (n : Nat) (sem : AGate → Amp α → Amp α) : Prop where
  perm : ∀ g, g.cls.isMCXLike = true → ∀ ψ b, sem g ψ b = ψ (g.applyClassical b)
  skip : ∀ g, (g.cls.isNop = true ∨ g.cls = .I) → ∀ ψ, sem g ψ = ψ
  loc : ∀ g ψ φ, (∀ b, b.length = n → ψ b = φ b) → ∀ b, b.length = n → sem g ψ b = sem g φ b

def SameUnitary (n : Nat) (A B : List AGate) : Prop :=
  ∀ (α : Type) (sem : AGate → Amp α → Amp α), SemLaws n sem →
    ∀ ψ b, b.length = n → runSem sem A ψ b = runSem sem B ψ b

/-- a gate the decompiler may put into a section, or a no-op -/
def Cish (g : AGate) : Prop := g.cls.isMCXLike = true ∨ g.cls.isNop = true ∨ g.cls = .I

theorem runSem_cons {α : Type} (sem : AGate → Amp α → Amp α) (g : AGate) (gs : List AGate) (ψ : Amp α) :
    runSem sem (g :: gs) ψ = runSem sem gs (sem g ψ) := rfl

theorem runSem_append {α : Type} (sem : AGate → Amp α → Amp α) (a b : List AGate) (ψ : Amp α) :
    runSem sem (a ++ b) ψ = runSem sem b (runSem sem a ψ) := by
  unfold runSem; rw [List.foldl_append]

theorem runSem_loc {α : Type} {n : Nat} {sem : AGate → Amp α → Amp α} (hs : SemLaws n sem)
    (S : List AGate) : ∀ ψ φ : Amp α, (∀ b, b.length = n → ψ b = φ b) →
      ∀ b, b.length = n → runSem sem S ψ b = runSem sem S φ b := by
  induction S with
  | nil => intro ψ φ h b hb; exact h b hb
  | cons g S ih =>
    intro ψ φ h b hb
    rw [runSem_cons, runSem_cons]
    exact ih _ _ (hs.loc g ψ φ h) b hb

theorem isMCXLike_not_nop {c : GClass} (h : c.isMCXLike = true) : c.isNop = false ∧ c ≠ .I :=
  ⟨GClass.not_isNop_of_isMCXLike h, fun e => by rw [e] at h; cases h⟩

/-- a list of classical gates acts on amplitudes by the inverse permutation of its classical
action, which is the classical action of the reversed list -/
theorem runSem_cish {α : Type} {n : Nat} {sem : AGate → Amp α → Amp α} (hs : SemLaws n sem)
    (A : List AGate) (hA : ∀ g ∈ A, Cish g) :
    ∀ (ψ : Amp α) (b : BState), runSem sem A ψ b = ψ (runClassical A.reverse b) := by
  refine foldl_precomp_classical sem A (fun g hg ψ b => ?_)
  unfold stepClassical
  by_cases hm : g.cls.isMCXLike = true
  · rw [hs.perm g hm, if_pos hm]
  · rw [if_neg hm, hs.skip g ((hA g hg).resolve_left hm)]

theorem classicalSem_laws (α : Type) (n : Nat) : SemLaws (α := α) n
    (fun g ψ => if g.cls.isMCXLike then fun b => ψ (g.applyClassical b) else ψ) where
  perm := by intro g hg ψ b; simp [hg]
  skip := by
    intro g hg ψ
    have : g.cls.isMCXLike = false := Bool.eq_false_iff.mpr fun hm =>
      have ⟨h1, h2⟩ := isMCXLike_not_nop hm
      hg.elim (fun h => Bool.false_ne_true (h1.symm.trans h)) h2
    simp [this]
  loc := by
    intro g ψ φ h b hb
    by_cases hm : g.cls.isMCXLike = true
    · simp only [hm, if_true]; exact h _ (by rw [applyClassical_length]; exact hb)
    · simp only [hm]; exact h b hb

theorem runClassical_reverse_eq {n : Nat} (A B : List AGate) (hA : ∀ g ∈ A, g.wires.Nodup)
    (hB : ∀ g ∈ B, g.wires.Nodup)
    (h : ∀ st : BState, st.length = n → runClassical A st = runClassical B st) :
    ∀ b : BState, b.length = n → runClassical A.reverse b = runClassical B.reverse b := by
  intro b hb
  have hl : (runClassical B.reverse b).length = n := by rw [runClassical_length]; exact hb
  -- `b = B (B⁻¹ b) = A (B⁻¹ b)`, and `A⁻¹` undoes `A`
  calc runClassical A.reverse b
      = runClassical A.reverse (runClassical A (runClassical B.reverse b)) := by
        rw [h _ hl, runClassical_reverse_right B (fun g hg _ => hB g hg)]
    _ = runClassical B.reverse b := runClassical_reverse_left A (fun g hg _ => hA g hg) _

theorem sameUnitary_of_classical {n : Nat} (A B : List AGate) (hA : ∀ g ∈ A, Cish g ∧ g.wires.Nodup)
    (hB : ∀ g ∈ B, Cish g ∧ g.wires.Nodup)
    (h : ∀ st : BState, st.length = n → runClassical A st = runClassical B st) :
    SameUnitary n A B := by
  intro α sem hs ψ b hb
  rw [runSem_cish hs A (fun g hg => (hA g hg).1), runSem_cish hs B (fun g hg => (hB g hg).1),
    runClassical_reverse_eq A B (fun g hg => (hA g hg).2) (fun g hg => (hB g hg).2) h b hb]

theorem SameUnitary.refl (n : Nat) (A : List AGate) : SameUnitary n A A := fun _ _ _ _ _ _ => rfl

theorem SameUnitary.trans {n : Nat} {A B C : List AGate} (h1 : SameUnitary n A B)
    (h2 : SameUnitary n B C) : SameUnitary n A C := fun α sem hs ψ b hb =>
  (h1 α sem hs ψ b hb).trans (h2 α sem hs ψ b hb)

theorem SameUnitary.congr {n : Nat} {A B : List AGate} (h : SameUnitary n A B) (P T : List AGate) :
    SameUnitary n (P ++ A ++ T) (P ++ B ++ T) := by
  intro α sem hs ψ b hb
  rw [runSem_append, runSem_append, runSem_append, runSem_append]
  exact runSem_loc hs T _ _ (fun b' hb' => h α sem hs (runSem sem P ψ) b' hb') b hb

/-- Python `gs[start:stop]` -/
def rangeOf (gs : List AGate) (start stop : Nat) : List AGate := (gs.drop start).take (stop - start)

theorem take_split (gs : List AGate) (start stop : Nat) (h1 : start ≤ stop) :
    gs.take stop = gs.take start ++ rangeOf gs start stop := by
  unfold rangeOf
  have : stop = start + (stop - start) := by omega
  conv => lhs; rw [this]
  rw [List.take_add]

theorem rangeOf_take (l : List AGate) {a b B : Nat} (h : b ≤ B) : rangeOf (l.take B) a b = rangeOf l a b := by
  unfold rangeOf
  rw [List.drop_take, List.take_take, Nat.min_eq_left (by omega)]

theorem splice_congr {E : List AGate → List AGate → Prop}
    (Econgr : ∀ {x y}, E x y → ∀ P T, E (P ++ x ++ T) (P ++ y ++ T)) (acc : List AGate) {a b : Nat} (hab : a ≤ b)
    {new : List AGate} (h : E new (rangeOf acc a b)) : E (splice acc a b new) acc := by
  have := Econgr h (acc.take a) (acc.drop b)
  rw [← take_split acc a b hab, List.take_append_drop] at this
  unfold splice
  rwa [Nat.max_eq_right hab]

/-- index facts about one reported section (from `QV.Decompiler.SecGood`) -/
structure RangeGood (q : Quirks) (gs : List AGate) (s : Section) : Prop where
  lt : s.start < s.stop
  hi : s.stop ≤ gs.length
  inside : ∀ g ∈ rangeOf gs s.start s.stop, cl q g = true ∨ np g = true
  gates_eq : s.gates = (rangeOf gs s.start s.stop).filter (cl q)

theorem rangeGood_of_secGood {q : Quirks} {gs : List AGate} {s : Section} (h : SecGood q 0 gs s) :
    RangeGood q gs s := by
  refine ⟨h.lt, by simpa using h.hi, ?_, by simpa [rangeOf] using h.gates_eq⟩
  intro g hg
  unfold rangeOf at hg
  obtain ⟨i, hi, rfl⟩ := List.mem_iff_getElem.mp hg
  have hlen : i < s.stop - s.start := by
    have := hi; simp at this; omega
  obtain ⟨g', hg', hc⟩ := h.inside (s.start + i) (by omega) (by omega)
  have : ((gs.drop s.start).take (s.stop - s.start))[i]? = gs[s.start + i]? := by
    rw [List.getElem?_take, if_pos hlen, List.getElem?_drop]
  rw [List.getElem?_eq_getElem hi] at this
  simp only [Nat.sub_zero] at hg'
  rw [hg'] at this
  cases this
  exact hc

theorem RangeGood.gates_sub {q : Quirks} {gs : List AGate} {s : Section} (h : RangeGood q gs s) :
    ∀ g ∈ s.gates, g ∈ rangeOf gs s.start s.stop := fun g hg => by
  rw [h.gates_eq] at hg; exact (List.mem_filter.mp hg).1

theorem cl_cish {q : Quirks} {g : AGate} (h : cl q g = true) : Cish g := by
  unfold cl at h; rw [isZB_eq] at h
  unfold Cish
  cases hc : g.cls <;> simp_all [GClass.isMCXLike, GClass.isNop]

theorem np_isNop {g : AGate} (h : np g = true) : g.cls.isNop = true :=
  (isNopClass_eq g.cls).symm.trans h

theorem runClassical_filter_cl (q : Quirks) (R : List AGate)
    (h : ∀ g ∈ R, cl q g = true ∨ np g = true) :
    ∀ st : BState, runClassical (R.filter (cl q)) st = runClassical R st := by
  induction R with
  | nil => intro st; rfl
  | cons g R ih =>
    intro st
    have ihR := ih (fun x hx => h x (List.mem_cons_of_mem _ hx))
    by_cases hc : cl q g = true
    · rw [List.filter_cons_of_pos hc, runClassical_cons, runClassical_cons, ihR]
    · rw [List.filter_cons_of_neg hc, runClassical_cons, ihR]
      rcases h g (List.mem_cons_self) with h' | h'
      · exact absurd h' hc
      · rw [stepClassical_nop g (np_isNop h')]

/-- what has to hold of a re-synthesised section for the splice to be harmless.  Argument order (old, new): the reverse
of `SameUnitary n new old` in `range_sameUnitary` and the loop invariant -/
def SectionOK (n : Nat) (old new : List AGate) : Prop :=
  (∀ g ∈ new, (g.cls.isMCXLike = true ∨ g.cls.isNop = true) ∧ g.wires.Nodup) ∧
  ∀ st : BState, st.length = n → runClassical new st = runClassical old st

theorem sectionOKb_sound {n : Nat} {old new : List AGate} (h : sectionOKb n old new = true) :
    SectionOK n old new := by
  simp only [sectionOKb, Bool.and_eq_true, List.all_eq_true, Bool.or_eq_true, decide_eq_true_eq,
    beq_iff_eq] at h
  exact ⟨fun g hg => h.1 g hg, fun st hst => h.2 st (mem_allBits' hst)⟩

theorem sectionOKb_complete {n : Nat} {old new : List AGate} (h : SectionOK n old new) :
    sectionOKb n old new = true := by
  simp only [sectionOKb, Bool.and_eq_true, List.all_eq_true, Bool.or_eq_true, decide_eq_true_eq,
    beq_iff_eq]
  exact ⟨fun g hg => h.1 g hg, fun st hst => h.2 st (allBits_length hst)⟩

theorem range_sameUnitary {q : Quirks} {n : Nat} {gs : List AGate} {s : Section} {new : List AGate}
    (hwf : ∀ g ∈ gs, g.wires.Nodup) (hg : RangeGood q gs s) (hok : SectionOK n s.gates new) :
    SameUnitary n new (rangeOf gs s.start s.stop) := by
  refine sameUnitary_of_classical new _ ?_ ?_ ?_
  · intro g hgn
    obtain ⟨h1, h2⟩ := hok.1 g hgn
    exact ⟨h1.elim Or.inl (fun h => Or.inr (Or.inl h)), h2⟩
  · intro g hgr
    refine ⟨(hg.inside g hgr).elim cl_cish fun h => Or.inr (Or.inl (np_isNop h)), hwf g ?_⟩
    unfold rangeOf at hgr
    exact List.mem_of_mem_drop (List.mem_of_mem_take hgr)
  · intro st hst
    rw [hok.2 st hst, hg.gates_eq, runClassical_filter_cl q _ hg.inside]

theorem mem_wiresOf {gs : List AGate} {i : Nat} : i ∈ wiresOf gs ↔ ∃ g ∈ gs, i ∈ g.wires := by
  unfold wiresOf; simp [List.mem_flatMap]

theorem accept_wires {q : Quirks} {n : Nat} {s : Section} {r : SecResult} (h : accept q n s r = true) :
    ∀ g ∈ r.gates, ∀ i ∈ g.wires, i ∈ wiresOf s.gates := by
  simp only [accept, Bool.and_eq_true, List.all_eq_true, List.contains_iff_mem] at h
  intro g hg i hi
  exact h.1.2 i (mem_wiresOf.mpr ⟨g, hg, hi⟩)

theorem accept_length {q : Quirks} {n : Nat} {s : Section} {r : SecResult} (h : accept q n s r = true) :
    r.gates.length ≤ s.gates.length := by
  simp only [accept, Bool.and_eq_true, decide_eq_true_eq] at h
  exact h.1.1

theorem accept_stable {n : Nat} {s : Section} {r : SecResult} (h : accept Quirks.none n s r = true) :
    nameStable n r.qmap = true := by
  simp only [accept, Bool.and_eq_true, Quirks.none, Bool.false_or] at h
  exact h.2

/-- `l` is the list of sections to process, in the order of the loop (decreasing positions); below `B` the list
is the original one -/
theorem spliceLoop_inv (q : Quirks) (n : Nat) (resyn : Section → Except String SecResult)
    (gs : List AGate) (E : List AGate → List AGate → Prop)
    (Etrans : ∀ {a b c}, E a b → E b c → E a c)
    (Econgr : ∀ {a b}, E a b → ∀ P T, E (P ++ a ++ T) (P ++ b ++ T)) :
    ∀ (l : List Section) (acc out : List AGate) (B : Nat),
      l.Pairwise (fun x y => y.stop < x.start) →
      (∀ s ∈ l, s.stop ≤ B) → B ≤ gs.length →
      acc.take B = gs.take B →
      (∀ s ∈ l, RangeGood q gs s) →
      (∀ s ∈ l, ∀ r, resyn s = .ok r → accept q n s r = true → E r.gates (rangeOf gs s.start s.stop)) →
      E acc gs → spliceLoop q n resyn l acc = .ok out → E out gs := by
  intro l
  induction l with
  | nil =>
    intro acc out B _ _ _ _ _ _ heq h
    simp only [spliceLoop] at h
    cases h
    exact heq
  | cons s rest ih =>
    intro acc out B hpw hB hBlen hacc hgood hok heq h
    have hpw' := (List.pairwise_cons.mp hpw)
    have hgs := hgood s (List.mem_cons_self)
    have hrest_good : ∀ s' ∈ rest, RangeGood q gs s' := fun s' hs' => hgood s' (List.mem_cons_of_mem _ hs')
    have hrest_ok : ∀ s' ∈ rest, ∀ r, resyn s' = .ok r → accept q n s' r = true →
        E r.gates (rangeOf gs s'.start s'.stop) := fun s' hs' => hok s' (List.mem_cons_of_mem _ hs')
    simp only [spliceLoop] at h
    cases hr : resyn s with
    | error e => rw [hr] at h; cases h
    | ok r =>
      rw [hr] at h
      simp only at h
      by_cases ha : accept q n s r = true
      · rw [if_pos ha] at h
        have hsB : s.stop ≤ B := hB s (List.mem_cons_self)
        have hle : s.start ≤ s.stop := Nat.le_of_lt hgs.lt
        -- the range of `s` lies below `B`, where `acc` is still `gs`
        have hrange : rangeOf acc s.start s.stop = rangeOf gs s.start s.stop := by
          rw [← rangeOf_take acc hsB, hacc, rangeOf_take gs hsB]
        have hequiv : E (splice acc s.start s.stop r.gates) acc :=
          splice_congr Econgr acc hle (hrange ▸ hok s (List.mem_cons_self) r hr ha)
        have hlen : s.start ≤ acc.length := by
          have := congrArg List.length hacc
          simp only [List.length_take] at this
          omega
        refine ih (splice acc s.start s.stop r.gates) out s.start hpw'.2
          (fun s' hs' => Nat.le_of_lt (hpw'.1 s' hs')) (by omega) ?_ hrest_good hrest_ok
          (Etrans hequiv heq) h
        unfold splice
        rw [List.append_assoc, List.take_left' (by rw [List.length_take]; omega)]
        have := congrArg (List.take s.start) hacc
        rwa [List.take_take, List.take_take, Nat.min_eq_left (by omega)] at this
      · rw [if_neg ha] at h
        exact ih acc out B hpw'.2 (fun s' hs' => hB s' (List.mem_cons_of_mem _ hs')) hBlen hacc
          hrest_good hrest_ok heq h

/-- the sections of a decompilation, reversed, are what `spliceLoop_inv` needs.  `splice_equiv`, `no_larger` and
`same_qubits` of C12 are the instances `SameUnitary`, "not longer" and "on wires of". -/
theorem optimizeWith_inv {q : Quirks} {K : Kernel} {n : Nat} {resyn : Section → Except String SecResult}
    {gs out : List AGate} (E : List AGate → List AGate → Prop) (Erefl : E gs gs)
    (Etrans : ∀ {a b c}, E a b → E b c → E a c)
    (Econgr : ∀ {a b}, E a b → ∀ P T, E (P ++ a ++ T) (P ++ b ++ T))
    (hok : ∀ secs, decompile q K n gs = .ok secs → ∀ s ∈ secs, RangeGood q gs s → ∀ r, resyn s = .ok r →
      accept q n s r = true → E r.gates (rangeOf gs s.start s.stop))
    (h : optimizeWith q K n resyn gs = .ok out) : E out gs := by
  unfold optimizeWith at h
  cases hdec : decompile q K n gs with
  | error e => rw [hdec] at h; cases h
  | ok secs =>
    rw [hdec] at h
    have hd := decompile_decomp q K n gs secs hdec
    have hgood : ∀ s ∈ secs.reverse, RangeGood q gs s := fun s hs =>
      rangeGood_of_secGood (hd.secGood s (List.mem_reverse.mp hs))
    exact spliceLoop_inv q n resyn gs E Etrans Econgr secs.reverse gs out gs.length
      (List.pairwise_reverse.mpr hd.ordered) (fun s hs => (hgood s hs).hi) (Nat.le_refl _) rfl hgood
      (fun s hs => hok secs hdec s (List.mem_reverse.mp hs) (hgood s hs)) Erefl h

/-- the run tests `validated` and `xonlyRun` say that every accepted splice passes a test `P` -/
theorem all_accepted {q : Quirks} {n : Nat} {resyn : Section → Except String SecResult}
    {P : Section → SecResult → Bool} {secs : List Section} :
    (secs.all fun s => match resyn s with
      | .ok r => !accept q n s r || P s r
      | .error _ => true) = true ↔
    ∀ s ∈ secs, ∀ r, resyn s = .ok r → accept q n s r = true → P s r = true := by
  rw [List.all_eq_true]
  refine forall₂_congr fun s _ => ?_
  cases resyn s with
  | error e => exact ⟨fun _ _ hr => (nomatch hr), fun _ => rfl⟩
  | ok r =>
    show (!accept q n s r || P s r) = true ↔ _
    refine ⟨fun h r' hr ha => ?_, fun h => ?_⟩
    · cases hr; simpa [ha] using h
    · cases ha : accept q n s r
      · rfl
      · simpa using h r rfl ha

theorem rawKernel4_sound : rawKernel4.Sound where
  not_eval := fun _ _ => rfl
  and_eval := fun _ _ => rfl
  or_eval := fun _ _ => rfl
  xor_eval := fun _ _ => rfl

section
variable {simp : BExp → BExp} {K : Kernel4}

mutual
theorem customSimplify_eval (hK : K.Sound) (hs : ∀ ρ e, (simp e).eval ρ = e.eval ρ) (ρ : Env) :
    ∀ e, (customSimplify simp K e).eval ρ = e.eval ρ
  | .xor args => by
      unfold customSimplify
      split
      · next l he => rw [← he]; exact hs ρ _
      · next e he => rw [← he]; exact hs ρ _
      · next s he => rw [← he]; exact hs ρ _
      · rw [hK.xor_eval, (customSimplifyList_eval hK hs ρ args).2.2, BExp.eval]
  | .and args => by
      unfold customSimplify
      rw [hK.and_eval, (customSimplifyList_eval hK hs ρ args).1, BExp.eval]
  | .or args => by
      unfold customSimplify
      rw [hK.or_eval, (customSimplifyList_eval hK hs ρ args).2.1, BExp.eval]
  | .not a => by
      unfold customSimplify
      rw [hK.not_eval, customSimplify_eval hK hs ρ a, BExp.eval]
  | .tt => by unfold customSimplify; exact hs ρ _
  | .ff => by unfold customSimplify; exact hs ρ _
  | .sym s => by unfold customSimplify; exact hs ρ _
  | .ite c t e => by unfold customSimplify; exact hs ρ _
  | .imp a b => by unfold customSimplify; exact hs ρ _
theorem customSimplifyList_eval (hK : K.Sound) (hs : ∀ ρ e, (simp e).eval ρ = e.eval ρ) (ρ : Env) :
    ∀ l, evalAnd ρ (customSimplifyList simp K l) = evalAnd ρ l ∧
         evalOr ρ (customSimplifyList simp K l) = evalOr ρ l ∧
         evalXor ρ (customSimplifyList simp K l) = evalXor ρ l
  | [] => by unfold customSimplifyList; exact ⟨rfl, rfl, rfl⟩
  | e :: es => by
      unfold customSimplifyList
      have h1 := customSimplify_eval hK hs ρ e
      have h2 := customSimplifyList_eval hK hs ρ es
      simp only [evalAnd, evalOr, evalXor, h1, h2.1, h2.2.1, h2.2.2]
      exact ⟨trivial, trivial, trivial⟩
end
end

/-- the per-section trigger of `spliceIgnoresRename` (`Decopt.triggers` is the flag `&&` `secs.any secTriggers`:
`triggers_eq`, not `Decompiler.triggers_eq`) -/
def secTriggers (q : Quirks) (n : Nat) (resyn : Section → Except String SecResult) (s : Section) : Bool :=
  match resyn s with
  | .ok r => accept q n s r && !nameStable n r.qmap
  | .error _ => false

theorem triggers_eq (q : Quirks) (n : Nat) (resyn : Section → Except String SecResult)
    (secs : List Section) :
    triggers q n resyn secs = (q.spliceIgnoresRename && secs.any (secTriggers q n resyn)) := rfl

theorem accept_congr {q : Quirks} {n : Nat} {s : Section} {r : SecResult}
    (h : (q.spliceIgnoresRename && (accept q n s r && !nameStable n r.qmap)) = false) :
    accept q n s r = accept Quirks.none n s r := by
  unfold accept at *
  simp only [Quirks.none]
  generalize q.spliceIgnoresRename = f at *
  generalize nameStable n r.qmap = st at *
  generalize (decide (r.gates.length ≤ s.gates.length) &&
    (wiresOf r.gates).all (fun i => (wiresOf s.gates).contains i)) = A at *
  cases f <;> cases st <;> cases A <;> simp_all

theorem spliceLoop_congr (q : Quirks) (n : Nat) (resyn : Section → Except String SecResult) :
    ∀ (l : List Section) (acc : List AGate),
      (∀ s ∈ l, (q.spliceIgnoresRename && secTriggers q n resyn s) = false) →
      spliceLoop q n resyn l acc = spliceLoop Quirks.none n resyn l acc := by
  intro l
  induction l with
  | nil => intro acc _; rfl
  | cons s rest ih =>
    intro acc h
    have hs := h s (List.mem_cons_self)
    have hrest : ∀ s' ∈ rest, (q.spliceIgnoresRename && secTriggers q n resyn s') = false :=
      fun s' hs' => h s' (List.mem_cons_of_mem _ hs')
    simp only [spliceLoop]
    cases hr : resyn s with
    | error e => rfl
    | ok r =>
      simp only
      have : accept q n s r = accept Quirks.none n s r := by
        apply accept_congr
        simpa [secTriggers, hr] using hs
      rw [this, ih _ hrest, ih _ hrest]

/-! Sections that reduce to X gates, with the list `F` of flipped qubits given explicitly (`xonly_ok` reads `F` off the
simplified definitions; `Decopt2.lean` shows that the repaired splice test accepts nothing else). -/

theorem runClassical_xs : ∀ (F : List Nat) (new : List AGate) (st : BState),
    new.map (fun g => (g.cls, g.wires)) = F.map (fun i => (GClass.X, [i])) →
    runClassical new st = F.foldl (fun s i => s.flip i) st := by
  intro F
  induction F with
  | nil =>
    intro new st h
    cases new with
    | nil => rfl
    | cons g gs => simp at h
  | cons i F ih =>
    intro new st h
    cases new with
    | nil => simp at h
    | cons g gs =>
      simp only [List.map_cons, List.cons.injEq, Prod.mk.injEq] at h
      obtain ⟨⟨hc, hw⟩, hrest⟩ := h
      rw [runClassical_cons, List.foldl_cons]
      have : stepClassical st g = st.flip i := by
        unfold stepClassical AGate.applyClassical
        rw [hc, hw]
        simp [GClass.isMCXLike]
      rw [this]
      exact ih gs _ hrest

theorem foldl_flip_length (F : List Nat) : ∀ st : BState, (F.foldl (fun s i => s.flip i) st).length = st.length := by
  induction F with
  | nil => intro st; rfl
  | cons i F ih => intro st; rw [List.foldl_cons, ih, flip_length]

theorem foldl_flip_getD (F : List Nat) (hF : F.Nodup) : ∀ (st : BState) (j : Nat), j < st.length →
    (F.foldl (fun s i => s.flip i) st).getD j false = if j ∈ F then !(st.getD j false) else st.getD j false := by
  induction F with
  | nil => intro st j _; simp
  | cons i F ih =>
    intro st j hj
    have hnd := List.nodup_cons.mp hF
    rw [List.foldl_cons, ih hnd.2 _ j (by rw [flip_length]; exact hj), flip_getD]
    by_cases hij : i = j
    · subst hij
      simp [hnd.1, hj]
    · have : ¬ (i = j ∧ j < st.length) := fun h => hij h.1
      simp only [this, if_false, List.mem_cons]
      have hji : ¬ j = i := fun h => hij h.symm
      simp [hji]

/-- re-exported as `C12.xonly_section_ok`; the predicate `xonly` is not used here (that is `xonly_ok` =
`C12.xonly_splice_ok`).  By the soundness of the symbolic execution (C11). -/
theorem xonly_sectionOK (K : Kernel) (hK : K.Sound) (q : Quirks) (n : Nat) (sec : List AGate) (d : Dict)
    (hd : expsOfSection q K n sec = .ok d) (new : List AGate) (F : List Nat) (hF : F.Nodup)
    (hnew : new.map (fun g => (g.cls, g.wires)) = F.map (fun i => (GClass.X, [i])))
    (hflip : ∀ i ∈ F, ∀ ρ, (expOf d i).eval ρ = !ρ (qname i))
    (hid : ∀ i, i < n → i ∉ F → ∀ ρ, (expOf d i).eval ρ = ρ (qname i)) :
    SectionOK n sec new := by
  refine ⟨?_, ?_⟩
  · intro g hg
    have : (g.cls, g.wires) ∈ new.map (fun g => (g.cls, g.wires)) := List.mem_map_of_mem hg
    rw [hnew] at this
    obtain ⟨i, _, hi⟩ := List.mem_map.mp this
    simp only [Prod.mk.injEq] at hi
    rw [← hi.1, ← hi.2]
    exact ⟨Or.inl rfl, by simp⟩
  · intro st hst
    rw [runClassical_xs F new st hnew]
    apply BState.ext_getD
    · rw [foldl_flip_length, runClassical_length]
    · intro j hj
      rw [foldl_flip_length] at hj
      have hjn : j < n := hst ▸ hj
      rw [foldl_flip_getD F hF st j hj]
      have hs := expsOfSection_sound hK q hd st hst j
      rw [← hs]
      by_cases hm : j ∈ F
      · rw [if_pos hm, hflip j hm, stateEnv_qname st hjn]
      · rw [if_neg hm, hid j hjn hm, stateEnv_qname st hjn]

theorem bexp_beqList_eq : ∀ a b : List BExp, BExp.beqList a b = true → a = b := BExp.beqList_eq

theorem qidx_some {n : Nat} {k : String} {i : Nat} (h : qidx n k = some i) : i < n ∧ k = qname i := by
  unfold qidx at h
  refine ⟨List.mem_range.mp (List.mem_of_find?_eq_some h), ?_⟩
  have := List.find?_some h
  exact (by simpa using this : qname i = k).symm

theorem qidx_qname {n i : Nat} (hi : i < n) : qidx n (qname i) = some i := by
  unfold qidx
  exact find_unique (i := i) (List.mem_range.mpr hi) (by simp)
    (fun j _ hj => qname_inj (by simpa using hj))

theorem negated_nodup_aux (n : Nat) : ∀ l : List (String × BExp), (l.map (·.1)).Nodup →
    (l.filterMap fun p => qidx n p.1).Nodup
  | [], _ => by simp
  | p :: l, h => by
    rw [List.map_cons] at h
    have hnd := List.nodup_cons.mp h
    have ih := negated_nodup_aux n l hnd.2
    rw [List.filterMap_cons]
    cases hq : qidx n p.1 with
    | none => simpa using ih
    | some i =>
      refine List.nodup_cons.mpr ⟨?_, ih⟩
      intro hi
      obtain ⟨p', hp', hq'⟩ := List.mem_filterMap.mp hi
      have h1 := (qidx_some hq).2
      have h2 := (qidx_some hq').2
      exact hnd.1 (List.mem_map.mpr ⟨p', hp', h2.trans h1.symm⟩)

theorem negated_nodup {n : Nat} {l : List (String × BExp)} (h : (l.map (·.1)).Nodup) :
    (negated n l).Nodup := by
  unfold negated
  apply negated_nodup_aux
  exact List.Nodup.sublist (List.Sublist.map _ List.filter_sublist) h

theorem mem_negated {n : Nat} {l : List (String × BExp)} {i : Nat} :
    i ∈ negated n l ↔ ∃ p ∈ l, selfNeg p = true ∧ qidx n p.1 = some i := by
  unfold negated
  simp only [List.mem_filterMap, List.mem_filter]
  constructor
  · rintro ⟨p, ⟨hp, hs⟩, hq⟩; exact ⟨p, hp, hs, hq⟩
  · rintro ⟨p, hp, hs, hq⟩; exact ⟨p, ⟨hp, hs⟩, hq⟩

/-- re-exported as `C12.xonly_splice_ok`.  The expressions tested are the section's decompiled expressions after a
meaning-preserving rewriting `f` (`custom_simplify_logic2`). -/
theorem xonly_ok {K : Kernel} (hK : K.Sound) (q : Quirks) (n : Nat) (sec : List AGate) (d : Dict)
    (hd : expsOfSection q K n sec = .ok d) (f : BExp → BExp) (hf : ∀ ρ e, (f e).eval ρ = e.eval ρ)
    (new : List AGate) (hx : xonly n (d.map fun p => (p.1, f p.2)) new = true) :
    SectionOK n sec new := by
  obtain ⟨hnd, hent⟩ := expsOfSection_entries hK q hd
  simp only [xonly, Bool.and_eq_true, List.all_eq_true, Bool.or_eq_true, beq_iff_eq] at hx
  obtain ⟨hall, hnew⟩ := hx
  have hkeys : ((d.map fun p => (p.1, f p.2)).map (·.1)) = Dict.keys d := by
    unfold Dict.keys; rw [List.map_map]; rfl
  have hget : ∀ p0 ∈ d, d.get p0.1 = p0.2 := fun p0 hp0 =>
    Dict.get_of_mem d hnd (k := p0.1) (e := p0.2) hp0
  refine xonly_sectionOK K hK q n sec d hd new (negated n (d.map fun p => (p.1, f p.2)))
    (negated_nodup (by rw [hkeys]; exact hnd)) hnew ?_ ?_
  · intro i hi ρ
    obtain ⟨p, hp, hs, hq⟩ := mem_negated.mp hi
    obtain ⟨p0, hp0, rfl⟩ := List.mem_map.mp hp
    have hk := (qidx_some hq).2
    dsimp only at hk
    have he : f p0.2 = .not (.sym p0.1) := BExp.eq_of_beq hs
    unfold expOf
    rw [← hk, hget p0 hp0, ← hf ρ p0.2, he]
    rfl
  · intro i hi hni ρ
    unfold expOf
    by_cases hm : qname i ∈ Dict.keys d
    · obtain ⟨p0, hp0, hk⟩ := List.mem_map.mp hm
      have hp : (p0.1, f p0.2) ∈ d.map fun p => (p.1, f p.2) := List.mem_map.mpr ⟨p0, hp0, rfl⟩
      rw [← hk, hget p0 hp0, ← hf ρ p0.2]
      rcases hall _ hp with hid | hs
      · have he : f p0.2 = .sym p0.1 := BExp.eq_of_beq hid
        rw [he]; rfl
      · exact absurd (mem_negated.mpr ⟨_, hp, hs, by dsimp only; rw [hk]; exact qidx_qname hi⟩) hni
    · rw [Dict.get_of_not_mem d _ hm]; rfl

theorem simplifySection_keysOK {K : Kernel} (hK : K.Sound) {q : Quirks} {n : Nat} {s : Section}
    (hd : expsOfSection q K n s.gates = .ok s.exps) (simp : BExp → BExp) (K4 : Kernel4) :
    keysOK n (simplifySection simp K4 s) = true := by
  obtain ⟨hnd, hent⟩ := expsOfSection_entries hK q hd
  unfold keysOK simplifySection
  simp only [Bool.and_eq_true, decide_eq_true_eq, List.all_eq_true, List.map_map]
  refine ⟨hnd, ?_⟩
  intro p hp
  obtain ⟨p0, hp0, rfl⟩ := List.mem_map.mp hp
  obtain ⟨i, hi, hk, _⟩ := hent p0.1 p0.2 hp0
  dsimp only
  rw [hk, qidx_qname hi]; rfl

end QV.Decopt
