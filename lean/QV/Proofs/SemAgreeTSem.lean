import QV.Proofs.SemAgreeTOps
namespace QV.Sem
open QV.Front

def EnvAgreeT (σX : XTEnv) (σW : TEnv) : Prop :=
  ∀ n xv sv, σX n = some xv → σW n = some sv → AgreeT xv sv

mutual
theorem semT_rel (σX : XTEnv) (σW : TEnv) (henv : EnvAgreeT σX σW) :
    ∀ e : PExp, ORel AgreeT (semXT σX e) (semT σW e)
  | .name n => fun xv sv hx hw => henv n xv sv (by simpa only [semXT] using hx) (by simpa only [semT] using hw)
  | .cbool b => by simp only [semXT, semT]; exact ORel.some (by simp [AgreeT, Agree])
  | .cchar c => by
    simp only [semXT, semT]
    split
    · rename_i hc; exact ORel.some (by simp [AgreeT, hc])
    · exact ORel.none_left
  | .unsupported _ => by simp only [semXT]; exact ORel.none_left
  | .cint v => by
    simp only [semXT, semT]
    cases hc : constWidth v with
    | none => exact ORel.none_left
    | some w => exact ORel.some (cint_agree v w hc)
  | .subs n path => by
    rw [semXT_subs, semT_subs]
    exact ORel.bind (henv n) fun x s => index_agree path x s
  | .not e => by
    rw [semXT_not, semT_not]
    exact (semT_rel σX σW henv e).bind fun _ _ => notT_agree
  | .inv e => by
    rw [semXT_inv, semT_inv]
    exact (semT_rel σX σW henv e).bind fun _ _ => invT_agree
  | .boolop isAnd vs => by
    rw [semXT_boolop, semT_boolop]
    exact (semTList_rel σX σW henv vs).bind fun _ _ => boolopT_agree isAnd
  | .ite c a b => by
    rw [semXT_ite, semT_ite]
    exact (semT_rel σX σW henv c).bind fun _ _ hc => (semT_rel σX σW henv a).bind fun _ _ ha =>
      (semT_rel σX σW henv b).bind fun _ _ hb => iteT_agree hc ha hb
  | .cmp op l r => by
    rw [semXT_cmp, semT_cmp]
    exact (semT_rel σX σW henv l).bind fun _ _ hl => (semT_rel σX σW henv r).bind fun _ _ hr =>
      cmpT_agree op hl hr
  | .tuple es => by
    rw [semXT_tuple, semT_tuple]
    exact (semTList_rel σX σW henv es).map fun _ _ h => h
  | .bin op l r => by
    rw [semXT_bin, semT_bin]
    refine (semT_rel σX σW henv l).bind fun _ _ hl => ?_
    split
    · exact shiftT_agree op r hl
    · exact (semT_rel σX σW henv r).bind fun _ _ hr => arithT_agree op hl hr
theorem semTList_rel (σX : XTEnv) (σW : TEnv) (henv : EnvAgreeT σX σW) :
    ∀ es : List PExp, ORel AgreeTList (semXTList σX es) (semTList σW es)
  | [] => by simp only [semXTList, semTList]; exact ORel.some trivial
  | e :: es => by
    rw [semXTList_cons, semTList_cons]
    exact (semT_rel σX σW henv e).bind fun _ _ h => (semTList_rel σX σW henv es).map fun _ _ hs => ⟨h, hs⟩
end

theorem semTList_agree (σX : XTEnv) (σW : TEnv) (henv : EnvAgreeT σX σW) :
    ∀ (es : List PExp) (ss : List TVal) (xs : List XT), semTList σW es = some ss →
      semXTList σX es = some xs → AgreeTList xs ss :=
  fun es ss xs hw hx => semTList_rel σX σW henv es xs ss hx hw

theorem envAgreeT_set {σX : XTEnv} {σW : TEnv} (h : EnvAgreeT σX σW) (t : String) {xv : XT} {sv : TVal}
    (ha : AgreeT xv sv) : EnvAgreeT (σX.set t xv) (σW.set t sv) := by
  intro n xv' sv' hx hw
  simp only [XTEnv.set] at hx
  simp only [TEnv.set] at hw
  by_cases hn : (n == t) = true
  · simp only [hn, if_true, Option.some.injEq] at hx hw
    subst hx; subst hw; exact ha
  · simp only [hn] at hx hw
    exact h n xv' sv' hx hw

theorem coerceRetT_agree (ret : Ty) {xv : XT} {sv : TVal} (h : AgreeT xv sv) :
    ORel AgreeT (coerceRetXT ret xv) (coerceRetT ret sv) := by
  intro xv' sv' hx hw
  cases xv with
  | leaf x =>
    have key : ∀ s0 : SVal, sv = s0.toT → AgreeT xv' sv' := by
      intro s0 hs0
      subst hs0
      rw [coerceRetT_of_toT] at hw
      exact ORel.map (R := Agree) (fun x1 s1 hx0 hw0 => coerceRet_agree ret x s0 (agreeT_leaf.mp h) s1 x1 hw0 hx0)
        (fun _ _ => agreeT_leaf.mpr) xv' sv' hx hw
    cases sv with
    | bool b => exact key (.bool b) rfl
    | int w y => exact key (.int w y) rfl
    | char _ => simp [AgreeT] at h
    | tuple _ => simp [AgreeT] at h
  | char c k =>
    cases sv with
    | char c' =>
      cases ret <;> simp only [coerceRetT, coerceRetXT, Option.some.injEq, reduceCtorEq] at hw hx
      subst hw; subst hx; exact h
    | bool _ => simp [AgreeT] at h
    | int _ _ => simp [AgreeT] at h
    | tuple _ => simp [AgreeT] at h
  | tuple xs =>
    cases sv with
    | tuple vs =>
      cases ret with
      | tuple ts =>
        simp only [coerceRetT] at hw
        simp only [coerceRetXT] at hx
        split at hw
        · split at hx
          · simp only [Option.some.injEq] at hw hx
            subst hw; subst hx; exact h
          · cases hx
        · cases hw
      | bool => simp [coerceRetT] at hw
      | qint _ => simp [coerceRetT] at hw
      | qchar => simp [coerceRetT] at hw
    | bool _ => simp [AgreeT] at h
    | int _ _ => simp [AgreeT] at h
    | char _ => simp [AgreeT] at h

theorem semBodyT_agree (ret : Ty) : ∀ (ss : List Stmt) (σX : XTEnv) (σW : TEnv), EnvAgreeT σX σW →
    ORel AgreeT (semBodyXT ret σX ss) (semBodyT ret σW ss)
  | [], _, _, _ => ORel.none_left
  | .assign t e :: ss, σX, σW, henv => by
    rw [semBodyXT_assign, semBodyT_assign]
    exact (semT_rel σX σW henv e).bind fun _ _ h => semBodyT_agree ret ss _ _ (envAgreeT_set henv t h)
  | .ret e :: ss, σX, σW, henv => by
    rw [semBodyXT_ret, semBodyT_ret]
    exact (semT_rel σX σW henv e).bind fun _ _ => coerceRetT_agree ret
  | .expr e :: ss, σX, σW, henv => by
    simp only [semBodyXT, semBodyT]; exact semBodyT_agree ret ss σX σW henv
  | .unsupported _ :: ss, _, _, _ => ORel.none_left

theorem decodeXTList_cons (ρ : QV.Env) (base : String) (i : Nat) (t : Ty) (ts : List Ty) :
    decodeXTList ρ base i (t :: ts) = decodeXT ρ (bitName base i) t :: decodeXTList ρ base (i + 1) ts := by
  simp only [decodeXTList]
  rfl

mutual
/-- the decoded arguments of the two semantics agree (both are the value of the bits, exact and in range) -/
theorem decode_agree (ρ : QV.Env) : ∀ (t : Ty) (base : String), AgreeT (decodeXT ρ base t) (decodeT ρ base t)
  | .bool, base => by simp [decodeXT, decodeT, AgreeT, Agree]
  | .qint w, base => by
    have := valLE_lt ((Ty.names base (.qint w)).map ρ)
    rw [List.length_map, names_length] at this
    simp only [decodeXT, decodeT, AgreeT, Agree]
    exact ⟨trivial, by simpa [Ty.bits] using this, fun _ => trivial, fun j hj => by cases hj⟩
  | .qchar, base => by
    have := valLE_lt ((Ty.names base .qchar).map ρ)
    rw [List.length_map, names_length] at this
    simp only [decodeXT, decodeT, AgreeT]
    exact ⟨by simpa [Ty.bits] using this, fun _ => trivial⟩
  | .tuple ts, base => by
    simp only [decodeXT, decodeT, AgreeT]
    exact decodeList_agree ρ ts base 0
theorem decodeList_agree (ρ : QV.Env) : ∀ (ts : List Ty) (base : String) (i : Nat),
    AgreeTList (decodeXTList ρ base i ts) (decodeTList ρ base i ts)
  | [], _, _ => by simp [decodeXTList, decodeTList, AgreeTList]
  | t :: ts, base, i => by
    rw [decodeXTList_cons, decodeTList_cons]
    exact ⟨decode_agree ρ t _, decodeList_agree ρ ts base (i + 1)⟩
end

theorem envAgreeT_args (args : List (String × Ty)) (ρ : QV.Env) :
    EnvAgreeT (argsEnvXT args ρ) (argsEnvT args ρ) := by
  intro n xv sv hx hw
  simp only [argsEnvXT] at hx
  simp only [argsEnvT] at hw
  cases hf : args.find? (·.1 == n) with
  | none => simp [hf] at hw
  | some p =>
    obtain ⟨m, ty⟩ := p
    simp only [hf, Option.some.injEq] at hx hw
    subst hx; subst hw
    exact decode_agree ρ ty n

theorem semProgT_agree (p : Prog) (ρ : QV.Env) (sv : TVal) (xv : XT)
    (hw : semProgT p ρ = some sv) (hx : semProgXT p ρ = some xv) : AgreeT xv sv :=
  semBodyT_agree p.ret p.body _ _ (envAgreeT_args p.args ρ) xv sv hx hw

theorem xval_claim_length (x : XVal) (sv : SVal) (h : Agree x sv) : x.claim.length = sv.bits.length := by
  obtain ⟨v, k⟩ := x
  cases sv with
  | bool b =>
    cases v with
    | bool a => simp [XVal.claim, SVal.bits]
    | int _ _ => exact h.elim
  | int w' y =>
    cases v with
    | bool _ => exact h.elim
    | int w x =>
      obtain ⟨rfl, _⟩ := h
      simp only [XVal.claim, SVal.bits, List.length_append, List.length_map, toBitsLE_length,
        List.length_replicate]
      have : claimWidth w' k ≤ w' := by
        cases k <;> simp only [claimWidth] <;> omega
      omega

mutual
theorem agreeT_claim_length : ∀ (x : XT) (v : TVal), AgreeT x v → x.claim.length = v.bits.length
  | x, .bool b, h => by
    obtain ⟨a, k, rfl, _⟩ := agreeT_bool_inv h
    simp only [AgreeT] at h
    simpa [XT.claim, TVal.bits, SVal.bits] using xval_claim_length _ (.bool b) h
  | x, .int w y, h => by
    obtain ⟨a, k, rfl, _⟩ := agreeT_int_inv h
    simp only [AgreeT] at h
    simpa [XT.claim, TVal.bits, SVal.bits] using xval_claim_length _ (.int w y) h
  | x, .char c', h => by
    obtain ⟨c, k, rfl, _⟩ := agreeT_char_inv h
    cases k <;> simp [XT.claim, TVal.bits]
  | x, .tuple vs, h => by
    obtain ⟨xs, rfl, hl⟩ := agreeT_tuple_inv h
    rw [XT.claim, TVal.bits]; exact agreeTList_claim_length xs vs hl
theorem agreeTList_claim_length : ∀ (xs : List XT) (vs : List TVal), AgreeTList xs vs →
    (XT.claimList xs).length = (TVal.bitsList vs).length
  | [], [], _ => rfl
  | x :: xs, v :: vs, h => by
    rw [XT.claimList, TVal.bitsList, List.length_append, List.length_append,
      agreeT_claim_length x v h.1, agreeTList_claim_length xs vs h.2]
  | [], _ :: _, h => by simp [AgreeTList] at h
  | _ :: _, [], h => by simp [AgreeTList] at h
end

mutual
theorem agreeT_claim : ∀ (x : XT) (v : TVal), AgreeT x v → ∀ (i : Nat) (b : Bool),
    x.claim[i]? = some (some b) → v.bits[i]? = some b
  | x, .bool b0, h, i, b, hc => by
    obtain ⟨a, k, rfl, _⟩ := agreeT_bool_inv h
    simp only [AgreeT] at h
    exact agree_claim h i b (by simpa [XT.claim] using hc)
  | x, .int w y, h, i, b, hc => by
    obtain ⟨a, k, rfl, _⟩ := agreeT_int_inv h
    simp only [AgreeT] at h
    exact agree_claim h i b (by simpa [XT.claim] using hc)
  | x, .char c', h, i, b, hc => by
    obtain ⟨c, k, rfl, _, hk⟩ := agreeT_char_inv h
    cases k with
    | none =>
      rw [hk rfl]
      simp only [XT.claim, List.getElem?_map, Option.map_eq_some_iff, Option.some.injEq] at hc
      obtain ⟨a, ha, rfl⟩ := hc
      simpa [TVal.bits] using ha
    | some _ =>
      simp only [XT.claim, List.getElem?_replicate] at hc
      split at hc <;> simp at hc
  | x, .tuple vs, h, i, b, hc => by
    obtain ⟨xs, rfl, hl⟩ := agreeT_tuple_inv h
    rw [TVal.bits]
    exact agreeTList_claim xs vs hl i b (by simpa [XT.claim] using hc)
theorem agreeTList_claim : ∀ (xs : List XT) (vs : List TVal), AgreeTList xs vs → ∀ (i : Nat) (b : Bool),
    (XT.claimList xs)[i]? = some (some b) → (TVal.bitsList vs)[i]? = some b
  | [], [], _, i, b, hc => by simp [XT.claimList] at hc
  | x :: xs, v :: vs, h, i, b, hc => by
    have hl := agreeT_claim_length x v h.1
    rw [XT.claimList] at hc
    rw [TVal.bitsList]
    by_cases hi : i < x.claim.length
    · rw [List.getElem?_append_left hi] at hc
      rw [List.getElem?_append_left (by omega)]
      exact agreeT_claim x v h.1 i b hc
    · rw [List.getElem?_append_right (by omega)] at hc
      rw [List.getElem?_append_right (by omega), ← hl]
      exact agreeTList_claim xs vs h.2 _ b hc
  | [], _ :: _, h, _, _, _ => by simp [AgreeTList] at h
  | _ :: _, [], h, _, _, _ => by simp [AgreeTList] at h
end

end QV.Sem
