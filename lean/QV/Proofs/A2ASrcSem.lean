import QV.Model.SemSrc
import QV.Proofs.FrontSemW
namespace QV.A2A
open QV.Front QV.Sem

theorem semW_ite (σ : SEnv) (c a b : PExp) :
    semW σ (.ite c a b) = match semW σ c, semW σ a, semW σ b with
      | some g, some x, some y => selW g x y
      | _, _, _ => none := by
  simp only [semW]
  cases h1 : semW σ c with
  | none => rfl
  | some g =>
    cases h2 : semW σ a with
    | none => cases g <;> rfl
    | some x =>
      cases h3 : semW σ b with
      | none => cases g <;> cases x <;> rfl
      | some y => cases g <;> cases x <;> cases y <;> rfl

theorem semW_name (σ : SEnv) (n : String) : semW σ (.name n) = σ n := by simp only [semW]

-- the general form; `Sem.semW_congr` (`FrontStmtNames.lean`) is the case "all variables but one"
mutual
theorem semW_congr' (σ σ' : SEnv) :
    ∀ e : PExp, (∀ n, mentions n e = true → σ n = σ' n) → semW σ e = semW σ' e
  | .name n, h => by
    simp only [semW]
    exact h n (by simp [mentions])
  | .subs n p, h => by
    simp only [semW, h n (by simp [mentions])]
  | .cbool _, _ => by simp only [semW]
  | .cint _, _ => by simp only [semW]
  | .cchar _, _ => by simp only [semW]
  | .unsupported _, _ => by simp only [semW]
  | .tuple _, _ => by simp only [semW]
  | .not e, h => by
    simp only [semW, semW_congr' σ σ' e (fun n hn => h n (by simpa only [mentions] using hn))]
  | .inv e, h => by
    simp only [semW, semW_congr' σ σ' e (fun n hn => h n (by simpa only [mentions] using hn))]
  | .boolop _ vs, h => by
    simp only [semW, semWList_congr' σ σ' vs (fun n hn => h n (by simpa only [mentions] using hn))]
  | .ite c a b, h => by
    simp only [semW, semW_congr' σ σ' c (fun n hn => h n (by simp only [mentions, hn, Bool.true_or])),
      semW_congr' σ σ' a (fun n hn => h n (by simp only [mentions, hn, Bool.true_or, Bool.or_true])),
      semW_congr' σ σ' b (fun n hn => h n (by simp only [mentions, hn, Bool.or_true]))]
  | .cmp _ l r, h => by
    simp only [semW, semW_congr' σ σ' l (fun n hn => h n (by simp only [mentions, hn, Bool.true_or])),
      semW_congr' σ σ' r (fun n hn => h n (by simp only [mentions, hn, Bool.or_true]))]
  | .bin _ l r, h => by
    simp only [semW, semW_congr' σ σ' l (fun n hn => h n (by simp only [mentions, hn, Bool.true_or])),
      semW_congr' σ σ' r (fun n hn => h n (by simp only [mentions, hn, Bool.or_true]))]
theorem semWList_congr' (σ σ' : SEnv) :
    ∀ es : List PExp, (∀ n, mentionsList n es = true → σ n = σ' n) → semWList σ es = semWList σ' es
  | [], _ => by simp only [semWList]
  | e :: es, h => by
    simp only [semWList, semW_congr' σ σ' e (fun n hn => h n (by simp only [mentionsList, hn, Bool.true_or])),
      semWList_congr' σ σ' es (fun n hn => h n (by simp only [mentionsList, hn, Bool.or_true]))]
end

/-! ### the closed form of `wrapW`: one if-expression, whose test is "every guard holds" -/

def allBool : List (SVal × Bool) → Bool
  | [] => true
  | (.bool _, _) :: gs => allBool gs
  | (.int _ _, _) :: _ => false

/-- every guard has its polarity: this is the branch that runs -/
def allHold : List (SVal × Bool) → Bool
  | [] => true
  | (.bool b, w) :: gs => (b == w) && allHold gs
  | (.int _ _, _) :: gs => allHold gs

theorem wrapW_cons (g : SVal) (w : Bool) (gs : List (SVal × Bool)) (v o : SVal) :
    wrapW ((g, w) :: gs) v o = (wrapW gs v o).bind fun x => if w then selW g x o else selW g o x := by
  cases w <;> simp only [wrapW] <;> cases wrapW gs v o <;> rfl

theorem selW_flip (c w : Bool) (v o : SVal) :
    (if w then selW (.bool c) v o else selW (.bool c) o v) = selW (.bool (c == w)) v o := by
  cases v <;> cases o <;> cases c <;> cases w <;> simp only [selW, Nat.max_comm] <;> rfl

theorem selW_nest (c w h : Bool) (v o x : SVal) (hx : selW (.bool h) v o = some x) :
    (if w then selW (.bool c) x o else selW (.bool c) o x) = selW (.bool ((c == w) && h)) v o := by
  rw [selW_flip]
  cases v <;> cases o <;> simp only [selW, Option.some.injEq, reduceCtorEq] at hx <;> subst hx
  · cases c <;> cases w <;> cases h <;> rfl
  · rename_i a xa b xb
    have : max (max a b) b = max a b := by omega
    cases c <;> cases w <;> cases h <;> simp only [selW, this] <;> rfl

theorem selW_none (h : Bool) (v o : SVal) (hx : selW (.bool h) v o = none) : ∀ h', selW (.bool h') v o = none := by
  intro h'
  cases v <;> cases o <;> simp [selW] at hx ⊢

theorem wrapW_closed : ∀ (gs : List (SVal × Bool)), gs ≠ [] → ∀ (v o : SVal),
    wrapW gs v o = if allBool gs then selW (.bool (allHold gs)) v o else none
  | [], h, _, _ => absurd rfl h
  | [(g, w)], _, v, o => by
    rw [wrapW_cons]
    cases g with
    | int a x => cases w <;> rfl
    | bool c =>
      simp only [wrapW, Option.bind, selW_flip, allBool, allHold, if_true, Bool.and_true]
  | (g, w) :: p :: gs, _, v, o => by
    rw [wrapW_cons, wrapW_closed (p :: gs) (by simp) v o]
    cases g with
    | int a x =>
      simp only [allBool, Bool.false_eq_true, if_false]
      cases (if allBool (p :: gs) = true then selW (.bool (allHold (p :: gs))) v o else none) <;> cases w <;> rfl
    | bool c =>
      simp only [allBool, allHold]
      by_cases hb : allBool (p :: gs) = true
      · simp only [hb, if_true]
        cases hj : selW (.bool (allHold (p :: gs))) v o with
        | none => rw [selW_none _ v o hj]; rfl
        | some x => exact selW_nest c w _ v o x hj
      · simp only [hb, Bool.false_eq_true, if_false]; rfl

theorem selW_idem (h : Bool) (v o x : SVal) (hx : selW (.bool h) v o = some x) : selW (.bool h) x o = some x := by
  cases v <;> cases o <;> simp [selW] at hx <;> subst hx
  all_goals cases h <;> simp [selW]

/-- wrapping twice is wrapping once (what the `__x` temporary of a self-reading assignment relies on) -/
theorem wrapW_idem (gs : List (SVal × Bool)) (v o x : SVal) (hx : wrapW gs v o = some x) :
    wrapW gs x o = some x := by
  cases gs with
  | nil => rfl
  | cons p gs =>
    rw [wrapW_closed (p :: gs) (by simp)] at hx ⊢
    split at hx
    · rename_i hb
      simp only [hb, if_true]
      exact selW_idem _ v o x hx
    · cases hx

theorem set_ne (σ : SEnv) (t n : String) (v : SVal) (h : n ≠ t) : (σ.set t v) n = σ n := by
  simp [SEnv.set, h]

theorem set_eq (σ : SEnv) (t : String) (v : SVal) : (σ.set t v) t = some v := by
  simp [SEnv.set]

/-- what `assignG` puts into its target: outside every `if` the new value; under guards `wrapW` of the new value and
the one the target holds (it has to hold one) -/
def storeW (gs : List (SVal × Bool)) (old : Option SVal) (v : SVal) : Option SVal :=
  match gs with
  | [] => some v
  | _ :: _ => old.bind (wrapW gs v)

theorem assignG_eq (gs : List (SVal × Bool)) (σ : SEnv) (t : String) (v : SVal) :
    assignG gs σ t v = (storeW gs (σ t) v).map (σ.set t) := by
  cases gs with
  | nil => rfl
  | cons p gs =>
    simp only [assignG, storeW]
    cases σ t with
    | none => rfl
    | some o => simp only [Option.bind]; cases wrapW (p :: gs) v o <;> rfl

theorem storeW_some (gs : List (SVal × Bool)) (o v : SVal) : storeW gs (some o) v = wrapW gs v o := by
  cases gs <;> rfl

theorem storeW_idem (gs : List (SVal × Bool)) (old : Option SVal) (v x : SVal) (h : storeW gs old v = some x) :
    storeW gs old x = some x := by
  cases old with
  | none => cases gs with
    | nil => rfl
    | cons p gs => cases h
  | some o => rw [storeW_some] at h ⊢; exact wrapW_idem gs v o x h

theorem execList_cons (gs : List (SVal × Bool)) (σ : SEnv) (s : SStmt) (ss : List SStmt) :
    execList gs σ (s :: ss) = (exec gs σ s).bind (execList gs · ss) := by
  simp only [execList]; cases exec gs σ s <;> rfl

theorem exec_assign (gs : List (SVal × Bool)) (σ : SEnv) (t : String) (e : SExp) :
    exec gs σ (.assign [.name t] e) = (semW σ (toP e)).bind (assignG gs σ t) := by
  simp only [exec]; cases semW σ (toP e) <;> rfl

theorem exec_aug (gs : List (SVal × Bool)) (σ : SEnv) (t op : String) (e : SExp) :
    exec gs σ (.aug (.name t) op e) = (semW σ (toP (.bin op (.name t) e))).bind (assignG gs σ t) := by
  simp only [exec]; cases semW σ (toP (.bin op (.name t) e)) <;> rfl

theorem exec_ifs (gs : List (SVal × Bool)) (σ : SEnv) (c : SExp) (b e : List SStmt) :
    exec gs σ (.ifs c b e) = (semW σ (toP c)).bind fun g =>
      (execList (gs ++ [(g, true)]) σ b).bind (execList (gs ++ [(g, false)]) · e) := by
  simp only [exec]
  cases semW σ (toP c) with
  | none => rfl
  | some g => simp only [Option.bind]; cases execList (gs ++ [(g, true)]) σ b <;> rfl

def forStep (gs : List (SVal × Bool)) (v : String) (b : List SStmt) (σ : SEnv) (val : SExp) : Option SEnv :=
  match semW σ (toP val) with
  | some x =>
    match assignG gs σ v x with
    | some σ1 => execList gs σ1 b
    | none => none
  | none => none

theorem forStep_eq (gs : List (SVal × Bool)) (v : String) (b : List SStmt) (σ : SEnv) (val : SExp) :
    forStep gs v b σ val = (semW σ (toP val)).bind fun x => (assignG gs σ v x).bind (execList gs · b) := by
  simp only [forStep]
  cases semW σ (toP val) with
  | none => rfl
  | some x => simp only [Option.bind]; cases assignG gs σ v x <;> rfl

theorem exec_for (gs : List (SVal × Bool)) (σ : SEnv) (v : String) (it : SExp) (b e : List SStmt) :
    exec gs σ (.for_ (.name v) it b e) = (staticVals it).bind fun vals =>
      (vals.foldlM (forStep gs v b) σ).bind (execList gs · e) := by
  have h : exec gs σ (.for_ (.name v) it b e) = match staticVals it with
      | some vals =>
        match vals.foldlM (forStep gs v b) σ with
        | some σ1 => execList gs σ1 e
        | none => none
      | none => none := by
    simp only [exec]
    rfl
  rw [h]
  cases staticVals it with
  | none => rfl
  | some vals => simp only [Option.bind]; cases vals.foldlM (forStep gs v b) σ <;> rfl

end QV.A2A
