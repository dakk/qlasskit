import QV.Proofs.Mul
import QV.Model.ArithStaged
/-! The row-by-row evaluation of the product (`QV/Model/ArithStaged.lean`: the driver's way to evaluate the model of
`QintImp.mul` on operands of the largest widths) gives every bit the value the bit of `QV.Arith.qMul` has:
`mulRow` reads the product list and the carry only through constructors, and `eval` is a homomorphism. -/
namespace QV.Arith

theorem eval_litB (ρ : Env) (b : Bool) : (litB b).eval ρ = b := by
  cases b <;> simp [litB, BExp.eval]

theorem evalBits_map_litB (ρ : Env) (l : List BExp) :
    evalBits ρ (l.map fun e => litB (e.eval ρ)) = evalBits ρ l := by
  unfold evalBits
  rw [List.map_map]
  exact List.map_congr_left fun e _ => eval_litB ρ (e.eval ρ)

theorem getD_eval_congr (ρ : Env) (P P' : List BExp) (k : Nat) (h : evalBits ρ P = evalBits ρ P') :
    (P.getD k .ff).eval ρ = (P'.getD k .ff).eval ρ := by
  rw [← evalBits_getD, ← evalBits_getD, h]

theorem fullAdder_congr (ρ : Env) (c c' a b b' : BExp) (hc : c.eval ρ = c'.eval ρ) (hb : b.eval ρ = b'.eval ρ) :
    (fullAdder c a b).1.eval ρ = (fullAdder c' a b').1.eval ρ ∧
    (fullAdder c a b).2.eval ρ = (fullAdder c' a b').2.eval ρ := by
  obtain ⟨h1, h2⟩ := fullAdder_eval ρ c a b
  obtain ⟨h1', h2'⟩ := fullAdder_eval ρ c' a b'
  rw [h1, h2, h1', h2', hc, hb]; exact ⟨rfl, rfl⟩

theorem mulRow_congr (ρ : Env) (li : BExp) (last : Nat) (rs : List BExp) :
    ∀ (c c' : BExp) (k : Nat) (P P' : List BExp),
      c.eval ρ = c'.eval ρ → evalBits ρ P = evalBits ρ P' →
      evalBits ρ (mulRow li last c k rs P) = evalBits ρ (mulRow li last c' k rs P') := by
  induction rs with
  | nil =>
    intro c c' k P P' hc hP
    simp only [mulRow, evalBits_set, hc, hP]
  | cons rj rs ih =>
    intro c c' k P P' hc hP
    simp only [mulRow]
    have hg := getD_eval_congr ρ P P' k hP
    by_cases hk : k < last
    · simp only [hk, if_true]
      have hfa := fullAdder_congr ρ c c' (BExp.and [li, rj]) (P.getD k .ff) (P'.getD k .ff) hc hg
      apply ih
      · exact hfa.1
      · simp only [evalBits_set, hP, hfa.2]
    · simp only [hk, if_false]
      apply ih
      · exact hc
      · simp only [evalBits_set, hP]
        congr 1
        simp [BExp.eval, evalXor, hc]

theorem mulRowsLit_eval (ρ : Env) (r : List BExp) (last : Nat) (ls : List BExp) :
    ∀ (i : Nat) (P P' : List BExp), evalBits ρ P = evalBits ρ P' →
      evalBits ρ (mulRowsLit ρ r last i ls P) = evalBits ρ (mulRows r last i ls P') := by
  induction ls with
  | nil => intro i P P' h; simpa [mulRowsLit, mulRows] using h
  | cons li ls ih =>
    intro i P P' h
    simp only [mulRowsLit, mulRows]
    apply ih
    rw [evalBits_map_litB]
    exact mulRow_congr ρ li last r .ff .ff i P P' rfl h

theorem schoolbookLit_eval (ρ : Env) (l r : List BExp) :
    evalBits ρ (schoolbookLit ρ l r) = evalBits ρ (schoolbook l r) := by
  unfold schoolbookLit schoolbook
  exact mulRowsLit_eval ρ r _ l 0 _ _ rfl

theorem evalBits_fill_congr (ρ : Env) (n : Nat) (a b : List BExp) (h : evalBits ρ a = evalBits ρ b) :
    evalBits ρ (fill n a) = evalBits ρ (fill n b) := by
  have hl : a.length = b.length := by simpa using congrArg List.length h
  rw [evalBits_fill, evalBits_fill, h, hl]

theorem evalBits_crop_congr (ρ : Env) (n : Nat) (a b : List BExp) (h : evalBits ρ a = evalBits ρ b) :
    evalBits ρ (crop n a) = evalBits ρ (crop n b) := by
  rw [evalBits_crop, evalBits_crop, h]

theorem qMulLit_eval (ρ : Env) (cl cr : Bool) (nl nr : Nat) (l r : List BExp) :
    (qMulLit ρ cl cr nl nr l r).1 = (qMul Quirks.none cl cr nl nr l r).1 ∧
    evalBits ρ (qMulLit ρ cl cr nl nr l r).2 = evalBits ρ (qMul Quirks.none cl cr nl nr l r).2 := by
  have hq : Quirks.none.mulEvenConst = false := rfl
  unfold qMulLit qMul
  simp only [hq, Bool.false_and, Bool.false_eq_true, if_false, true_and]
  apply evalBits_crop_congr
  apply evalBits_fill_congr
  exact schoolbookLit_eval ρ _ _

end QV.Arith
