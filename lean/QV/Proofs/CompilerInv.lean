import QV.Proofs.StateExcept
import QV.Proofs.Assoc
import QV.Proofs.Circuit
/-! Hoare-style reasoning about `QV.Compiler.compile` in `M := StateT CState (Except String)`: a state invariant
`Good`, a two-state relation `Step B s s'` and the lemmas of the primitives.  A primitive `p` has several, here and in
the modules above, told apart by suffix: `p_eq` / `p_eff` / `p_run` / `p_shape` give the successor state of a
successful run (in full, or the part its callers read), `p_ok` is `Step`, `p_emit` is `Emit`; `p_sem`, `p_semK` /
`p_own`, `p_gi` / `p_g`, `p_cl` are the same run under the invariants `Sem`, `SemK`, `GI`, `Cl` of those modules.
The branches of `compileExpr` are restated once in named pieces (`cachedM`, `destOr`, `finishM`, `orGatesM`, …) and
its recursion is the induction principle `compile_induction`; every proof about what the gates compute or about
their shape walks over the same pieces. -/
namespace QV.Compiler
open QV

theorem run_bind_ok {α β} {m : M α} {f : α → M β} {s : CState} {b : β} {s'' : CState} :
    (m >>= f).run s = .ok (b, s'') ↔ ∃ a s', m.run s = .ok (a, s') ∧ (f a).run s' = .ok (b, s'') :=
  SE.run_bind_ok m f s (b, s'')

theorem run_pure_ok {α} {a b : α} {s s' : CState} :
    (pure a : M α).run s = .ok (b, s') ↔ b = a ∧ s' = s := SE.run_pure_ok a s b s'

theorem run_throw_ok {α} {e : String} {b : α} {s s' : CState} :
    (throw e : M α).run s = .ok (b, s') ↔ False := SE.run_throw_ok e s (b, s')

theorem run_get_ok {a s s' : CState} :
    (get : M CState).run s = .ok (a, s') ↔ a = s ∧ s' = s := SE.run_get_ok s a s'

theorem run_set_ok {t s s' : CState} {u : PUnit} :
    (set t : M PUnit).run s = .ok (u, s') ↔ s' = t := SE.run_set_ok t s u s'

theorem run_modify_ok {f : CState → CState} {s s' : CState} {u : PUnit} :
    (modify f : M PUnit).run s = .ok (u, s') ↔ s' = f s := SE.run_modify_ok f s u s'

/-- how the examples exhibit runs of the model -/
theorem run_ok_of_toBool {res : Except String (Unit × CState)} (h : res.toBool = true) :
    ∃ s, res = .ok ((), s) :=
  let ⟨(), s, e⟩ := SE.ok_pair_of_isOk h
  ⟨s, e⟩

theorem run_get_bind_ok {β} {f : CState → M β} {s s' : CState} {b : β} :
    ((get : M CState) >>= f).run s = .ok (b, s') ↔ (f s).run s = .ok (b, s') := by
  rw [run_bind_ok]
  constructor
  · rintro ⟨a, s1, hg, h⟩
    obtain ⟨rfl, rfl⟩ := run_get_ok.mp hg
    exact h
  · intro h; exact ⟨s, s, run_get_ok.mpr ⟨rfl, rfl⟩, h⟩

theorem run_ite_ok {α} {c : Prop} [Decidable c] {m1 m2 : M α} {s : CState} {r : α × CState} :
    (if c then m1 else m2).run s = .ok r ↔ (c ∧ m1.run s = .ok r) ∨ (¬ c ∧ m2.run s = .ok r) :=
  SE.run_ite_ok c m1 m2 s r

theorem run_discard_ok {α} {m : M α} {u : Unit} {s s' : CState} :
    (discard m).run s = .ok (u, s') ↔ ∃ a, m.run s = .ok (a, s') := SE.run_discard_ok m s u s'

theorem getQC_run {a : QC} {s s' : CState} (h : getQC.run s = .ok (a, s')) : a = s.qc ∧ s' = s := by
  unfold getQC at h
  simp only [run_bind_ok, run_get_ok, run_pure_ok] at h
  obtain ⟨a1, s1, ⟨rfl, rfl⟩, rfl, rfl⟩ := h
  exact ⟨rfl, rfl⟩

theorem modQC_run {f : QC → QC} {u : Unit} {s s' : CState} (h : (modQC f).run s = .ok (u, s')) :
    s' = { s with qc := f s.qc } := by
  unfold modQC at h
  exact run_modify_ok.mp h

theorem event_run {e : String} {u : Unit} {s s' : CState} (h : (event e).run s = .ok (u, s')) :
    s' = { s with events := s.events ++ [e] } := by
  unfold event at h
  exact run_modify_ok.mp h

def GateOK (n : Nat) (g : AGate) : Prop :=
  g.cls.isMCXLike = true ∧ g.wires.Nodup ∧ (∀ w ∈ g.wires, w < n) ∧ g.wires.length = g.cls.nQubits

theorem GateOK.nodup {n : Nat} {g : AGate} (h : GateOK n g) : g.wires.Nodup := h.2.1

theorem GateOK.lt {n : Nat} {g : AGate} (h : GateOK n g) : ∀ w ∈ g.wires, w < n := h.2.2.1

theorem GateOK.mono {n m : Nat} {g : AGate} (h : GateOK n g) (hnm : n ≤ m) : GateOK m g :=
  ⟨h.1, h.nodup, fun w hw => Nat.lt_of_lt_of_le (h.lt w hw) hnm, h.2.2.2⟩

theorem GateOK.wires_ne_nil {n : Nat} {g : AGate} (h : GateOK n g) : g.wires ≠ [] := by
  intro e
  have h1 := h.1
  have h4 := h.2.2.2
  rw [e] at h4
  cases hc : g.cls <;> rw [hc] at h1 h4 <;> simp [GClass.isMCXLike, GClass.nQubits] at h1 h4

/-- state invariant of the compiler: gate lists well formed, every stored qubit index below
`numQubits`, ancilla set duplicate-free, names of ancilla qubits are scratch names (`anc_…`) -/
structure Good (s : CState) : Prop where
  gates_ok : ∀ g ∈ s.qc.gates.toList, GateOK s.qc.numQubits g
  comp_ok : ∀ g ∈ s.qc.gatesComputed.toList, GateOK s.qc.numQubits g
  qmap_lt : ∀ p ∈ s.qc.qmap, p.2 < s.qc.numQubits
  expq_lt : ∀ p ∈ s.expq, p.2 < s.qc.numQubits
  anc_lt : ∀ a ∈ s.qc.anc, a < s.qc.numQubits
  free_lt : ∀ a ∈ s.qc.free, a < s.qc.numQubits
  marked_lt : ∀ a ∈ s.qc.marked, a < s.qc.numQubits
  anc_nodup : s.qc.anc.Nodup
  anc_named : ∀ p ∈ s.qc.qmap, p.2 ∈ s.qc.anc → scratchName p.1 = true
  kept_lt : ∀ a ∈ s.qc.kept, a < s.qc.numQubits

/-- with `n` the number of argument qubits: no argument qubit is ever handed out as scratch space -/
def ScratchGe (n : Nat) (s : CState) : Prop :=
  (∀ a ∈ s.qc.anc, n ≤ a) ∧ (∀ a ∈ s.qc.free, n ≤ a) ∧ (∀ a ∈ s.qc.marked, n ≤ a) ∧
    (∀ a ∈ s.qc.kept, n ≤ a)

/-- `s'` is reachable from `s` by compiler steps that bind only names in `B` or reserved names: no qubit disappears,
non-scratch keys of `qubit_map` stay keys, names outside `B` that are not reserved keep their qubit, and scratch
sets that avoided the qubits below `n` still do -/
structure Step (B : String → Prop) (s s' : CState) : Prop where
  good : Good s'
  nq_le : s.qc.numQubits ≤ s'.qc.numQubits
  inputs_eq : s'.inputs = s.inputs
  keys_keep : ∀ x, scratchName x = false → (dictGet? s.qc.qmap x).isSome = true →
    (dictGet? s'.qc.qmap x).isSome = true
  qmap_keep : ∀ x, ¬ B x → reservedName x = false → dictGet? s'.qc.qmap x = dictGet? s.qc.qmap x
  ge_keep : ∀ n, n ≤ s.qc.numQubits → ScratchGe n s → ScratchGe n s'

theorem Step.refl {B : String → Prop} {s : CState} (h : Good s) : Step B s s :=
  ⟨h, Nat.le_refl _, rfl, fun _ _ h => h, fun _ _ _ => rfl, fun _ _ h => h⟩

theorem Step.trans {B : String → Prop} {s s' s'' : CState} (h1 : Step B s s') (h2 : Step B s' s'') :
    Step B s s'' :=
  ⟨h2.good, Nat.le_trans h1.nq_le h2.nq_le, h2.inputs_eq.trans h1.inputs_eq,
   fun x hx h => h2.keys_keep x hx (h1.keys_keep x hx h),
   fun x hb hr => (h2.qmap_keep x hb hr).trans (h1.qmap_keep x hb hr),
   fun n hn h => h2.ge_keep n (Nat.le_trans hn h1.nq_le) (h1.ge_keep n hn h)⟩

theorem Step.mono {B B' : String → Prop} {s s' : CState} (h : Step B s s') (hb : ∀ x, B x → B' x) :
    Step B' s s' :=
  ⟨h.good, h.nq_le, h.inputs_eq, h.keys_keep, fun x hx hr => h.qmap_keep x (fun hbx => hx (hb x hbx)) hr,
   h.ge_keep⟩

theorem Step.lt {B : String → Prop} {s s' : CState} (st : Step B s s') {x : Nat} (h : x < s.qc.numQubits) :
    x < s'.qc.numQubits := Nat.lt_of_lt_of_le h st.nq_le

variable {B : String → Prop}

/-- the qubits a state holds as scratch space -/
def Scr (s : CState) (x : Nat) : Prop := x ∈ s.qc.anc ∨ x ∈ s.qc.free ∨ x ∈ s.qc.marked ∨ x ∈ s.qc.kept

theorem Scr.anc {s : CState} {x : Nat} (h : x ∈ s.qc.anc) : Scr s x := Or.inl h
theorem Scr.free {s : CState} {x : Nat} (h : x ∈ s.qc.free) : Scr s x := Or.inr (Or.inl h)
theorem Scr.marked {s : CState} {x : Nat} (h : x ∈ s.qc.marked) : Scr s x := Or.inr (Or.inr (Or.inl h))
theorem Scr.kept {s : CState} {x : Nat} (h : x ∈ s.qc.kept) : Scr s x := Or.inr (Or.inr (Or.inr h))

theorem Good.scr_lt {s : CState} (hg : Good s) {x : Nat} (h : Scr s x) : x < s.qc.numQubits :=
  h.elim (hg.anc_lt x) fun h => h.elim (hg.free_lt x) fun h => h.elim (hg.marked_lt x) (hg.kept_lt x)

theorem ScratchGe.scr {n : Nat} {s : CState} (h : ScratchGe n s) {x : Nat} (hx : Scr s x) : n ≤ x :=
  hx.elim (h.1 x) fun hx => hx.elim (h.2.1 x) fun hx => hx.elim (h.2.2.1 x) (h.2.2.2 x)

/-- a step that allocates no qubit, binds no name and makes no ancilla: for what it puts into the free, marked or
kept set the bounds `< numQubits` of `Good` and `n ≤` of `ScratchGe` are both read off `Scr` -/
theorem Step.quiet {s s' : CState} (hg : Good s) (hn : s'.qc.numQubits = s.qc.numQubits)
    (hq : s'.qc.qmap = s.qc.qmap) (ha : s'.qc.anc = s.qc.anc) (hi : s'.inputs = s.inputs)
    (gates : ∀ g ∈ s'.qc.gates.toList, GateOK s.qc.numQubits g)
    (comp : ∀ g ∈ s'.qc.gatesComputed.toList, GateOK s.qc.numQubits g)
    (expq : ∀ p ∈ s'.expq, p.2 < s.qc.numQubits)
    (free : ∀ x ∈ s'.qc.free, Scr s x) (marked : ∀ x ∈ s'.qc.marked, Scr s x)
    (kept : ∀ x ∈ s'.qc.kept, Scr s x) : Step B s s' :=
  ⟨⟨hn ▸ gates, hn ▸ comp, by rw [hn, hq]; exact hg.qmap_lt, hn ▸ expq, by rw [hn, ha]; exact hg.anc_lt,
      fun x hx => hn ▸ hg.scr_lt (free x hx), fun x hx => hn ▸ hg.scr_lt (marked x hx), ha ▸ hg.anc_nodup,
      by rw [ha, hq]; exact hg.anc_named, fun x hx => hn ▸ hg.scr_lt (kept x hx)⟩,
    Nat.le_of_eq hn.symm, hi, fun x _ h => hq ▸ h, fun x _ _ => by rw [hq],
    fun n _ hS => ⟨ha ▸ hS.1, fun x hx => hS.scr (free x hx), fun x hx => hS.scr (marked x hx),
      fun x hx => hS.scr (kept x hx)⟩⟩

theorem dictGet?_isSome {d : List (String × Nat)} {k : String} :
    (dictGet? d k).isSome = d.any (·.1 == k) := Assoc.get?_isSome d k

theorem mem_dictSet {d : List (String × Nat)} {k : String} {v : Nat} {p : String × Nat}
    (h : p ∈ dictSet d k v) : p ∈ d ∨ p = (k, v) := (Assoc.mem_set h).symm

theorem dictGet?_dictSet_self {d : List (String × Nat)} {k : String} {v : Nat} :
    dictGet? (dictSet d k v) k = some v := (Assoc.get?_set d k v k).trans (if_pos rfl)

theorem dictGet?_dictSet_ne {d : List (String × Nat)} {k x : String} {v : Nat} (hx : x ≠ k) :
    dictGet? (dictSet d k v) x = dictGet? d x := (Assoc.get?_set d k v x).trans (if_neg hx)

theorem dictGet?_filter_ne {d : List (String × Nat)} {k x : String} (hx : x ≠ k) :
    dictGet? (d.filter (·.1 != k)) x = dictGet? d x := Assoc.get?_filter_ne d hx

theorem dictGet?_mem {d : List (String × Nat)} {k : String} {v : Nat} (h : dictGet? d k = some v) :
    (k, v) ∈ d := Assoc.get?_mem h

theorem keyByIndex?_mem {d : List (String × Nat)} {i : Nat} {k : String} (h : keyByIndex? d i = some k) :
    (k, i) ∈ d := by
  unfold keyByIndex? at h
  cases hf : d.reverse.find? (·.2 == i) with
  | none => simp [hf] at h
  | some p =>
    simp only [hf, Option.map_some, Option.some.injEq] at h
    have hm := List.mem_of_find?_eq_some hf
    have hk := List.find?_some hf
    have : p.2 = i := by simpa using hk
    subst h; subst this
    simpa using hm

theorem ancLike_anc (k : Nat) : ancLike s!"anc_{k}" = true := by
  simp [ancLike, toString]

theorem scratch_anc (k : Nat) : scratchName s!"anc_{k}" = true := by
  unfold scratchName; exact ancLike_anc k

theorem reserved_of_scratch {x : String} (h : scratchName x = true) : reservedName x = true := by
  simp [reservedName, h]

/-- a successful `QCircuit.append` of one gate: the gate (a new object or a replayed one) is pushed on `gates`, and on
`gates_computed` or not; nothing else that the invariants read changes -/
structure Appended (cls : GClass) (wires : List Nat) (s s' : CState) : Prop where
  noerr : appendError s.qc.numQubits { cls := cls, wires := wires } = none
  gates : ∃ g : AGate, g.cls = cls ∧ g.wires = wires ∧ s'.qc.gates = s.qc.gates.push g ∧
    (s'.qc.gatesComputed = s.qc.gatesComputed ∨ s'.qc.gatesComputed = s.qc.gatesComputed.push g)
  nq : s'.qc.numQubits = s.qc.numQubits
  qmap : s'.qc.qmap = s.qc.qmap
  anc : s'.qc.anc = s.qc.anc
  free : s'.qc.free = s.qc.free
  marked : s'.qc.marked = s.qc.marked
  kept : s'.qc.kept = s.qc.kept
  expq : s'.expq = s.expq
  inputs : s'.inputs = s.inputs

theorem appendG_run {cls : GClass} {wires : List Nat} {gid : Option (Nat × Nat)} {b : Bool} {s s' : CState}
    (h : (appendG cls wires gid).run s = .ok (b, s')) : Appended cls wires s s' := by
  unfold appendG at h
  simp only [run_bind_ok] at h
  obtain ⟨qc, s1, hq, h⟩ := h
  obtain ⟨rfl, rfl⟩ := getQC_run hq
  split at h
  · exact (run_throw_ok.mp h).elim
  · next herr =>
    -- a new gate object or a replayed one: the two branches differ in the version bookkeeping only
    split at h <;>
    · simp only [run_bind_ok, run_pure_ok] at h
      obtain ⟨u, s2, hm, rfl, rfl⟩ := h
      have := modQC_run hm
      subst this
      refine ⟨herr, ⟨_, rfl, rfl, rfl, ?_⟩, rfl, rfl, rfl, rfl, rfl, rfl, rfl, rfl⟩
      dsimp only
      split
      · exact Or.inl rfl
      · exact Or.inr rfl

theorem appendError_none {n : Nat} {g : AGate} (h : appendError n g = none) :
    g.wires.Nodup ∧ g.wires.length = g.cls.nQubits := by
  unfold appendError at h
  split at h
  · simp at h
  · split at h
    · simp at h
    · split at h
      · simp at h
      · next h2 h3 => exact ⟨by simpa using h2, by simpa using h3⟩

theorem Appended.step {cls : GClass} {wires : List Nat} {s s' : CState}
    (ha : Appended cls wires s s') (hg : Good s) (hc : cls.isMCXLike = true)
    (hw : ∀ w ∈ wires, w < s.qc.numQubits) : Step B s s' := by
  obtain ⟨hn, hl⟩ := appendError_none ha.noerr
  obtain ⟨g, hgc, hgw, hgates, hcomp⟩ := ha.gates
  have hgok : GateOK s.qc.numQubits g :=
    ⟨hgc ▸ hc, hgw ▸ hn, hgw ▸ hw, by rw [hgw, hgc]; exact hl⟩
  have push : ∀ {l : Array AGate}, (∀ x ∈ l.toList, GateOK s.qc.numQubits x) →
      ∀ x ∈ (l.push g).toList, GateOK s.qc.numQubits x := fun h x hx => by
    rw [Array.toList_push, List.mem_append, List.mem_singleton] at hx
    exact hx.elim (h x) (· ▸ hgok)
  refine Step.quiet hg ha.nq ha.qmap ha.anc ha.inputs (hgates ▸ push hg.gates_ok) ?_ (ha.expq ▸ hg.expq_lt)
    (ha.free ▸ fun _ => Scr.free) (ha.marked ▸ fun _ => Scr.marked) (ha.kept ▸ fun _ => Scr.kept)
  rcases hcomp with hcomp | hcomp <;> rw [hcomp]
  · exact hg.comp_ok
  · exact push hg.comp_ok

theorem append_ok {cls : GClass} {wires : List Nat} {u : Unit} {s s' : CState}
    (h : (append cls wires).run s = .ok (u, s')) (hg : Good s) (hc : cls.isMCXLike = true)
    (hw : ∀ w ∈ wires, w < s.qc.numQubits) : Step B s s' := by
  unfold append at h
  obtain ⟨b, h⟩ := run_discard_ok.mp h
  exact (appendG_run h).step hg hc hw

theorem xGate_ok {w : Nat} {u : Unit} {s s' : CState}
    (h : (xGate w).run s = .ok (u, s')) (hg : Good s) (hw : w < s.qc.numQubits) : Step B s s' :=
  append_ok h hg rfl (by simpa using hw)

theorem cx_ok {a b : Nat} {u : Unit} {s s' : CState}
    (h : (cx a b).run s = .ok (u, s')) (hg : Good s) (ha : a < s.qc.numQubits) (hb : b < s.qc.numQubits) :
    Step B s s' :=
  append_ok h hg rfl (by intro w hw; simp at hw; rcases hw with rfl | rfl <;> assumption)

theorem mcx_ok {cs : List Nat} {t : Nat} {u : Unit} {s s' : CState}
    (h : (mcx cs t).run s = .ok (u, s')) (hg : Good s) (hc : ∀ c ∈ cs, c < s.qc.numQubits)
    (ht : t < s.qc.numQubits) : Step B s s' :=
  append_ok h hg rfl (by intro w hw; simp at hw; rcases hw with hw | rfl; exact hc w hw; exact ht)

theorem appendG_push {cls : GClass} {wires : List Nat} {gid : Option (Nat × Nat)} {b : Bool} {s s' : CState}
    (h : (appendG cls wires gid).run s = .ok (b, s')) (hn : cls.isNop = false) :
    ∃ g : AGate, g.cls = cls ∧ g.wires = wires ∧ s'.qc.gates = s.qc.gates.push g ∧
      s'.qc.gatesComputed = s.qc.gatesComputed.push g := by
  unfold appendG at h
  replace h := run_bind_ok.mp h
  obtain ⟨qc, s1, hq, h⟩ := h
  obtain ⟨rfl, rfl⟩ := getQC_run hq
  dsimp only at h
  split at h
  · exact (run_throw_ok.mp h).elim
  · split at h <;>
    · obtain ⟨u, s2, hm, hp⟩ := run_bind_ok.mp h
      obtain ⟨rfl, rfl⟩ := run_pure_ok.mp hp
      have := modQC_run hm; subst this
      exact ⟨_, rfl, rfl, rfl, by simp [hn]⟩

/-- the part of a gate its classical action depends on (replays are new gate objects) -/
def gcore (g : AGate) : GClass × List Nat := (g.cls, g.wires)

theorem mem_of_map_gcore {U L : List AGate} (h : U.map gcore = L.map gcore) {g : AGate} (hg : g ∈ U) :
    ∃ g' ∈ L, g'.cls = g.cls ∧ g'.wires = g.wires := by
  have hm : gcore g ∈ U.map gcore := List.mem_map.mpr ⟨g, hg, rfl⟩
  rw [h] at hm
  obtain ⟨g', hg', e⟩ := List.mem_map.mp hm
  exact ⟨g', hg', congrArg Prod.fst e, congrArg Prod.snd e⟩

/-- `s'` comes from `s` by appending, up to gate identity, the gates `gs`; besides the gate lists only the free
set (and what the invariants do not read) may differ -/
structure Replay (gs : List AGate) (s s' : CState) : Prop where
  gates : ∃ extra, s'.qc.gates.toList = s.qc.gates.toList ++ extra ∧ extra.map gcore = gs.map gcore ∧
    ∀ g ∈ s'.qc.gatesComputed.toList, g ∈ s.qc.gatesComputed.toList ∨ g ∈ extra
  nq : s'.qc.numQubits = s.qc.numQubits
  qmap : s'.qc.qmap = s.qc.qmap
  anc : s'.qc.anc = s.qc.anc
  marked : s'.qc.marked = s.qc.marked
  kept : s'.qc.kept = s.qc.kept
  expq : s'.expq = s.expq
  inputs : s'.inputs = s.inputs

theorem Replay.nil (s : CState) : Replay [] s s :=
  ⟨⟨[], by simp, rfl, fun _ h => Or.inl h⟩, rfl, rfl, rfl, rfl, rfl, rfl, rfl⟩

theorem Replay.pre {gs : List AGate} {s t s' : CState} {ev : List String} {fr : List Nat}
    (e : t = { s with events := ev, qc := { s.qc with free := fr } }) (h : Replay gs t s') : Replay gs s s' := by
  subst e
  exact ⟨h.gates, h.nq, h.qmap, h.anc, h.marked, h.kept, h.expq, h.inputs⟩

theorem Replay.cons {g : AGate} {gs : List AGate} {s s1 s2 : CState} (ha : Appended g.cls g.wires s s1)
    (h : Replay gs s1 s2) : Replay (g :: gs) s s2 := by
  obtain ⟨g', hc, hw, hgates, hcomp⟩ := ha.gates
  obtain ⟨extra, e1, e2, e3⟩ := h.gates
  refine ⟨⟨g' :: extra, by rw [e1, hgates]; simp, ?_, fun x hx => ?_⟩, h.nq.trans ha.nq, h.qmap.trans ha.qmap,
    h.anc.trans ha.anc, h.marked.trans ha.marked, h.kept.trans ha.kept, h.expq.trans ha.expq,
    h.inputs.trans ha.inputs⟩
  · rw [List.map_cons, List.map_cons, e2]
    unfold gcore; rw [hc, hw]
  · rcases e3 x hx with hx | hx
    · rcases hcomp with hcomp | hcomp
      · rw [hcomp] at hx; exact Or.inl hx
      · rw [hcomp, Array.toList_push, List.mem_append, List.mem_singleton] at hx
        exact hx.imp id (fun e => by rw [e]; exact List.mem_cons_self)
    · exact Or.inr (List.mem_cons_of_mem _ hx)

theorem replayG_run {α : Type} {g : AGate} {gid : Nat × Nat} {k : M α} {r : α} {s s' : CState}
    (h : StateT.run (do
      let b ← appendG g.cls g.wires (some gid)
      if b = true then do
        event "staleReplay"
        k
      else k : M α) s = .ok (r, s')) :
    ∃ t, (∀ {gs s''}, Replay gs t s'' → Replay (g :: gs) s s'') ∧ t.qc.free = s.qc.free ∧ t.qc.anc = s.qc.anc ∧
      k.run t = .ok (r, s') := by
  obtain ⟨b, s1, happ, h1⟩ := run_bind_ok.mp h
  have ha := appendG_run happ
  have fin : ∀ {t : CState} {ev : List String}, t = { s1 with events := ev } → k.run t = .ok (r, s') →
      ∃ t, (∀ {gs s''}, Replay gs t s'' → Replay (g :: gs) s s'') ∧ t.qc.free = s.qc.free ∧
        t.qc.anc = s.qc.anc ∧ k.run t = .ok (r, s') := fun e hk =>
    ⟨_, fun rp => Replay.cons ha (Replay.pre (fr := s1.qc.free) e rp), by rw [e]; exact ha.free,
      by rw [e]; exact ha.anc, hk⟩
  rcases run_ite_ok.mp h1 with ⟨_, h1⟩ | ⟨_, h1⟩
  · obtain ⟨u, t, hev, hk⟩ := run_bind_ok.mp h1
    exact fin (event_run hev) hk
  · exact fin (ev := s1.events) rfl h1

theorem Replay.step {gs : List AGate} {s s' : CState} (h : Replay gs s s') (hg : Good s)
    (hgs : ∀ g ∈ gs, GateOK s.qc.numQubits g) (hf : ∀ x ∈ s'.qc.free, x ∈ s.qc.free ∨ x ∈ s.qc.anc) :
    Step B s s' := by
  obtain ⟨extra, e1, e2, e3⟩ := h.gates
  have hex : ∀ g ∈ extra, GateOK s.qc.numQubits g := by
    intro g hg'
    obtain ⟨g0, h0, hc, hw⟩ := mem_of_map_gcore e2 hg'
    have := hgs g0 h0
    exact ⟨hc ▸ this.1, hw ▸ this.2.1, hw ▸ this.2.2.1, hw ▸ hc ▸ this.2.2.2⟩
  exact Step.quiet hg h.nq h.qmap h.anc h.inputs
    (fun g hg' => (List.mem_append.mp (e1 ▸ hg')).elim (hg.gates_ok g) (hex g))
    (fun g hg' => (e3 g hg').elim (hg.comp_ok g) (hex g)) (h.expq ▸ hg.expq_lt)
    (fun x hx => (hf x hx).elim .free .anc) (h.marked ▸ fun _ => Scr.marked) (h.kept ▸ fun _ => Scr.kept)

/-- a gate as the compiler writes it down (`append` chooses the object identity) -/
abbrev gt (cls : GClass) (wires : List Nat) : AGate := { cls := cls, wires := wires }

/-- `s'` is `s` after `append` of the gates `gs`, up to object identity, on `gates` and on `gates_computed`; no other
field that an invariant reads changes -/
structure Emit (gs : List AGate) (s s' : CState) : Prop where
  gates : ∃ new, new.map gcore = gs.map gcore ∧ s'.qc.gates.toList = s.qc.gates.toList ++ new ∧
    s'.qc.gatesComputed.toList = s.qc.gatesComputed.toList ++ new
  noerr : ∀ g ∈ gs, appendError s.qc.numQubits (gt g.cls g.wires) = none
  nq : s'.qc.numQubits = s.qc.numQubits
  qmap : s'.qc.qmap = s.qc.qmap
  anc : s'.qc.anc = s.qc.anc
  free : s'.qc.free = s.qc.free
  marked : s'.qc.marked = s.qc.marked
  kept : s'.qc.kept = s.qc.kept
  expq : s'.expq = s.expq
  inputs : s'.inputs = s.inputs

theorem Emit.nil (s : CState) : Emit [] s s :=
  ⟨⟨[], rfl, by simp, by simp⟩, fun _ h => (nomatch h), rfl, rfl, rfl, rfl, rfl, rfl, rfl, rfl⟩

theorem Emit.trans {g1 g2 : List AGate} {s s1 s2 : CState} (h1 : Emit g1 s s1) (h2 : Emit g2 s1 s2) :
    Emit (g1 ++ g2) s s2 := by
  obtain ⟨n1, c1, a1, b1⟩ := h1.gates
  obtain ⟨n2, c2, a2, b2⟩ := h2.gates
  refine ⟨⟨n1 ++ n2, by rw [List.map_append, List.map_append, c1, c2], by rw [a2, a1, List.append_assoc],
    by rw [b2, b1, List.append_assoc]⟩, fun g hg => ?_, h2.nq.trans h1.nq, h2.qmap.trans h1.qmap, h2.anc.trans h1.anc,
    h2.free.trans h1.free, h2.marked.trans h1.marked, h2.kept.trans h1.kept, h2.expq.trans h1.expq,
    h2.inputs.trans h1.inputs⟩
  rcases List.mem_append.mp hg with hg | hg
  · exact h1.noerr g hg
  · rw [← h1.nq]; exact h2.noerr g hg

theorem Emit.replay {gs : List AGate} {s s' : CState} (em : Emit gs s s') : Replay gs s s' := by
  obtain ⟨new, c, a, b⟩ := em.gates
  exact ⟨⟨new, a, c, fun g hg => by rw [b] at hg; exact List.mem_append.mp hg⟩, em.nq, em.qmap, em.anc, em.marked,
    em.kept, em.expq, em.inputs⟩

theorem Emit.good {gs : List AGate} {s s' : CState} (em : Emit gs s s') (hg : Good s)
    (hgs : ∀ g ∈ gs, g.cls.isMCXLike = true ∧ ∀ w ∈ g.wires, w < s.qc.numQubits) : Good s' :=
  (em.replay.step (B := fun _ => False) hg (fun g h =>
    have ⟨h1, h2⟩ := appendError_none (em.noerr g h)
    ⟨(hgs g h).1, h1, (hgs g h).2, h2⟩) (fun _ hx => Or.inl (em.free ▸ hx))).good

theorem append_emit {cls : GClass} {wires : List Nat} {u : Unit} {s s' : CState}
    (h : (append cls wires).run s = .ok (u, s')) (hn : cls.isNop = false) : Emit [gt cls wires] s s' := by
  unfold append at h
  obtain ⟨b, h⟩ := run_discard_ok.mp h
  have ha := appendG_run h
  obtain ⟨g, hc, hw, hg, hgc⟩ := appendG_push h hn
  refine ⟨⟨[g], by simp [gcore, hc, hw], by rw [hg]; simp, by rw [hgc]; simp⟩, fun g' hg' => ?_, ha.nq, ha.qmap,
    ha.anc, ha.free, ha.marked, ha.kept, ha.expq, ha.inputs⟩
  rw [List.mem_singleton.mp hg']; exact ha.noerr

theorem xGate_emit {w : Nat} {u : Unit} {s s' : CState} (h : (xGate w).run s = .ok (u, s')) :
    Emit [gt .X [w]] s s' := append_emit h rfl

theorem cx_emit {a b : Nat} {u : Unit} {s s' : CState} (h : (cx a b).run s = .ok (u, s')) :
    Emit [gt .CX [a, b]] s s' := append_emit h rfl

theorem mcx_emit {cs : List Nat} {t : Nat} {u : Unit} {s s' : CState} (h : (mcx cs t).run s = .ok (u, s')) :
    Emit [gt (.MCX cs.length) (cs ++ [t])] s s' := append_emit h rfl

theorem cxAll_emit {d : Nat} : ∀ (is : List Nat) {u : Unit} {s s' : CState},
    (cxAll d is).run s = .ok (u, s') → Emit (is.map fun i => gt .CX [i, d]) s s'
  | [], u, s, s', h => by
    unfold cxAll at h
    obtain ⟨_, rfl⟩ := run_pure_ok.mp h; exact Emit.nil _
  | i :: is, u, s, s', h => by
    unfold cxAll at h
    obtain ⟨u1, s1, h1, h2⟩ := run_bind_ok.mp h
    exact (cx_emit h1).trans (cxAll_emit is h2)

/-- `d ^= acc | i` -/
def orGates (acc i d : Nat) : List AGate := [gt .CX [acc, d], gt .CX [i, d], gt (.MCX 2) [acc, i, d]]

theorem orGate_emit {acc i d : Nat} {u : Unit} {s s' : CState}
    (h : StateT.run (do cx acc d; cx i d; mcx [acc, i] d : M Unit) s = .ok (u, s')) :
    Emit (orGates acc i d) s s' := by
  obtain ⟨u1, s1, h1, k1⟩ := run_bind_ok.mp h
  obtain ⟨u2, s2, h2, k2⟩ := run_bind_ok.mp k1
  exact ((cx_emit h1).trans (cx_emit h2)).trans (mcx_emit k2)

/-- the gates of `compile_or` for at most two distinct argument qubits -/
def orSmallGates (d : Nat) (es : List Nat) : List AGate :=
  (es.map fun i => gt .CX [i, d]) ++ if es.length == 2 then [gt (.MCX es.length) (es ++ [d])] else []

theorem orSmall_emit {d : Nat} {es : List Nat} {u : Unit} {s s' : CState}
    (h : StateT.run (do cxAll d es; if es.length == 2 then mcx es d : M Unit) s = .ok (u, s')) :
    Emit (orSmallGates d es) s s' := by
  obtain ⟨u1, s1, hcx, h1⟩ := run_bind_ok.mp h
  unfold orSmallGates
  by_cases h2 : (es.length == 2) = true
  · rw [if_pos h2] at h1 ⊢
    exact (cxAll_emit es hcx).trans (mcx_emit h1)
  · rw [if_neg h2] at h1 ⊢
    obtain ⟨_, rfl⟩ := run_pure_ok.mp h1
    rw [List.append_nil]; exact cxAll_emit es hcx

/-- `orWide` on more than two distinct argument qubits is `orChain` over an enumeration `a :: rest` of them
(the iteration order of the Python set, which the model checks to be a permutation of `es`) -/
theorem orWide_run {d : Nat} {erets es : List Nat} {u : Unit} {s s' : CState}
    (h : (orWide d erets es).run s = .ok (u, s')) (hlen : 2 < es.length) :
    ∃ a rest, rest ≠ [] ∧ (∀ x, x ∈ a :: rest ↔ x ∈ es) ∧ (orChain d a rest).run s = .ok (u, s') := by
  unfold orWide at h
  dsimp only at h
  rcases run_ite_ok.mp h with ⟨_, h⟩ | ⟨hne, h⟩
  · obtain ⟨_, _, hthrow, _⟩ := run_bind_ok.mp h
    exact (run_throw_ok.mp hthrow).elim
  · have heq : sortNat (pySetOrder erets) = es := by simpa using hne
    have hl : (pySetOrder erets).length = es.length := by
      rw [← heq]; unfold sortNat; exact (List.length_mergeSort _).symm
    match ho : pySetOrder erets, h, hl with
    | [], _, hl => simp at hl; omega
    | [_], _, hl => simp at hl; omega
    | a :: i :: rest, h, _ =>
      exact ⟨a, i :: rest, List.cons_ne_nil _ _, fun x => by
        rw [← ho, ← heq]; unfold sortNat; exact List.mem_mergeSort.symm, h⟩

theorem Good.of_eq {s s' : CState} (hg : Good s) (hn : s'.qc.numQubits = s.qc.numQubits)
    (h1 : s'.qc.gates = s.qc.gates) (h2 : s'.qc.gatesComputed = s.qc.gatesComputed)
    (h3 : s'.qc.qmap = s.qc.qmap) (h4 : s'.expq = s.expq) (h5 : s'.qc.anc = s.qc.anc)
    (h6 : s'.qc.free = s.qc.free) (h7 : s'.qc.marked = s.qc.marked) (h8 : s'.qc.kept = s.qc.kept) : Good s' := by
  refine ⟨?_, ?_, ?_, ?_, ?_, ?_, ?_, ?_, ?_, ?_⟩
  · rw [hn, h1]; exact hg.gates_ok
  · rw [hn, h2]; exact hg.comp_ok
  · rw [hn, h3]; exact hg.qmap_lt
  · rw [hn, h4]; exact hg.expq_lt
  · rw [hn, h5]; exact hg.anc_lt
  · rw [hn, h6]; exact hg.free_lt
  · rw [hn, h7]; exact hg.marked_lt
  · rw [h5]; exact hg.anc_nodup
  · rw [h5, h3]; exact hg.anc_named
  · rw [hn, h8]; exact hg.kept_lt

theorem event_ok {e : String} {u : Unit} {s s' : CState}
    (h : (event e).run s = .ok (u, s')) (hg : Good s) : Step B s s' := by
  have := event_run h; subst this
  exact Step.quiet hg rfl rfl rfl rfl hg.gates_ok hg.comp_ok hg.expq_lt (fun _ h => .free h) (fun _ h => .marked h)
    (fun _ h => .kept h)

theorem addQubit_run {name : String} {a : Nat} {s s' : CState} (h : (addQubit name).run s = .ok (a, s')) :
    a = s.qc.numQubits ∧ s' = { s with qc := { s.qc with qmap := dictSet s.qc.qmap name s.qc.numQubits,
                                                          numQubits := s.qc.numQubits + 1 } } := by
  unfold addQubit at h
  simp only [run_bind_ok, run_pure_ok] at h
  obtain ⟨qc, s1, hq, u, s2, hm, rfl, rfl⟩ := h
  obtain ⟨rfl, rfl⟩ := getQC_run hq
  exact ⟨rfl, modQC_run hm⟩

theorem Good.grow {s : CState} (hg : Good s) {n : Nat} (hn : s.qc.numQubits ≤ n) :
    Good { s with qc := { s.qc with numQubits := n } } :=
  ⟨fun g h => (hg.gates_ok g h).mono hn, fun g h => (hg.comp_ok g h).mono hn,
    fun p h => Nat.lt_of_lt_of_le (hg.qmap_lt p h) hn, fun p h => Nat.lt_of_lt_of_le (hg.expq_lt p h) hn,
    fun a h => Nat.lt_of_lt_of_le (hg.anc_lt a h) hn, fun a h => Nat.lt_of_lt_of_le (hg.free_lt a h) hn,
    fun a h => Nat.lt_of_lt_of_le (hg.marked_lt a h) hn, hg.anc_nodup, hg.anc_named,
    fun a h => Nat.lt_of_lt_of_le (hg.kept_lt a h) hn⟩

/-- Binding a name, the one place where `qubit_map` is written.  `s2` is the state just before the assignment
`qubit_map[name] = index`; it may have more qubits than `s` and other scratch names and scratch sets
(`add_qubit`: one more qubit; `get_free_ancilla`: that qubit an ancilla; `map_qubit`: the promoted ancilla and its
`anc_…` name gone). -/
theorem Step.named {name : String} {index : Nat} {s s2 : CState} (hb : B name ∨ reservedName name = true)
    (hg2 : Good s2) (hi : index < s2.qc.numQubits) (hle : s.qc.numQubits ≤ s2.qc.numQubits)
    (hin : s2.inputs = s.inputs) (hidx : index ∈ s2.qc.anc → scratchName name = true)
    (hkeep : ∀ x, scratchName x = false → dictGet? s2.qc.qmap x = dictGet? s.qc.qmap x)
    (hge : ∀ n, n ≤ s.qc.numQubits → ScratchGe n s → ScratchGe n s2) :
    Step B s { s2 with qc := { s2.qc with qmap := dictSet s2.qc.qmap name index } } := by
  refine ⟨⟨hg2.gates_ok, hg2.comp_ok, ?_, hg2.expq_lt, hg2.anc_lt, hg2.free_lt, hg2.marked_lt, hg2.anc_nodup, ?_,
    hg2.kept_lt⟩, hle, hin, ?_, ?_, hge⟩
  · intro p hp
    rcases mem_dictSet hp with hp | rfl
    · exact hg2.qmap_lt p hp
    · exact hi
  · intro p hp ha
    rcases mem_dictSet hp with hp | rfl
    · exact hg2.anc_named p hp ha
    · exact hidx ha
  · intro x hx hsome
    show (dictGet? (dictSet _ _ _) _).isSome = true
    by_cases hxn : x = name
    · subst hxn; rw [dictGet?_dictSet_self]; rfl
    · rw [dictGet?_dictSet_ne hxn, hkeep x hx]; exact hsome
  · intro x hbx hrx
    have hxn : x ≠ name := by
      rintro rfl
      exact hb.elim hbx (fun h => by rw [h] at hrx; cases hrx)
    have hxs : scratchName x = false := by
      cases hs : scratchName x
      · rfl
      · rw [reserved_of_scratch hs] at hrx; cases hrx
    show dictGet? (dictSet _ _ _) _ = _
    rw [dictGet?_dictSet_ne hxn, hkeep x hxs]

theorem addQubit_ok {name : String} {a : Nat} {s s' : CState}
    (h : (addQubit name).run s = .ok (a, s')) (hg : Good s) (hb : B name ∨ reservedName name = true) :
    Step B s s' ∧ a = s.qc.numQubits ∧ a < s'.qc.numQubits ∧ s'.qc.anc = s.qc.anc ∧
      (∀ p ∈ s'.qc.qmap, p.2 = a → p.1 = name) := by
  obtain ⟨rfl, rfl⟩ := addQubit_run h
  refine ⟨Step.named hb (hg.grow (Nat.le_succ _)) (Nat.lt_succ_self _) (Nat.le_succ _) rfl
    (fun ha => absurd (hg.anc_lt _ ha) (Nat.lt_irrefl _)) (fun _ _ => rfl) (fun _ _ h => h),
    rfl, Nat.lt_succ_self _, rfl, fun p hp hpa => ?_⟩
  rcases mem_dictSet hp with hp | rfl
  · exact absurd (hg.qmap_lt p hp) (by rw [hpa]; exact Nat.lt_irrefl _)
  · rfl

theorem lookup_run {n : String} {a : Nat} {s s' : CState} (h : (lookup n).run s = .ok (a, s')) :
    s' = s ∧ dictGet? s.qc.qmap n = some a := by
  unfold lookup at h
  obtain ⟨qc, s1, hq, h⟩ := run_bind_ok.mp h
  obtain ⟨rfl, rfl⟩ := getQC_run hq
  split at h
  · next i hi =>
    obtain ⟨rfl, rfl⟩ := run_pure_ok.mp h
    exact ⟨rfl, hi⟩
  · exact (run_throw_ok.mp h).elim

theorem lookup_ok {n : String} {a : Nat} {s s' : CState} (h : (lookup n).run s = .ok (a, s')) (hg : Good s) :
    s' = s ∧ dictGet? s.qc.qmap n = some a ∧ a < s.qc.numQubits := by
  obtain ⟨rfl, hi⟩ := lookup_run h
  exact ⟨rfl, hi, hg.qmap_lt _ (dictGet?_mem hi)⟩

theorem mem_setIns_iff {l : List Nat} {x y : Nat} : y ∈ setIns l x ↔ y ∈ l ∨ y = x := by
  unfold setIns
  split
  · next h =>
    constructor
    · exact Or.inl
    · rintro (h' | rfl)
      · exact h'
      · simpa using h
  · simp

theorem mem_setIns {l : List Nat} {x y : Nat} (h : y ∈ setIns l x) : y ∈ l ∨ y = x := mem_setIns_iff.mp h

theorem setIns_nodup {l : List Nat} {x : Nat} (h : l.Nodup) : (setIns l x).Nodup := by
  unfold setIns
  split
  · exact h
  · next hc =>
    rw [List.nodup_append]
    refine ⟨h, by simp, ?_⟩
    intro a ha b hb
    simp at hb; subst hb
    rintro rfl
    exact hc (by simpa using ha)

theorem getFreeAncilla_eff {a : Nat} {s s' : CState} (h : getFreeAncilla.run s = .ok (a, s')) :
    ∃ ch nq qm an fr,
      s' = { s with choices := ch, qc := { s.qc with numQubits := nq, qmap := qm, anc := an, free := fr } } ∧
      ((s.qc.free = [] ∧ a = s.qc.numQubits ∧ nq = s.qc.numQubits + 1 ∧ fr = [] ∧ an = setIns s.qc.anc a ∧
          qm = dictSet s.qc.qmap s!"anc_{s.qc.anc.length}" s.qc.numQubits) ∨
       (a ∈ s.qc.free ∧ nq = s.qc.numQubits ∧ fr = s.qc.free.erase a ∧ an = s.qc.anc ∧ qm = s.qc.qmap)) := by
  unfold getFreeAncilla at h
  rw [run_get_bind_ok] at h
  split at h
  · exact (run_throw_ok.mp h).elim
  · next c rest _ =>
    obtain ⟨u, s1, hset, h⟩ := run_bind_ok.mp h
    have := run_set_ok.mp hset; subst this
    split at h
    · next he =>
      obtain ⟨i, s2, hadd, h⟩ := run_bind_ok.mp h
      obtain ⟨rfl, rfl⟩ := addQubit_run hadd
      obtain ⟨u2, s3, hm, h⟩ := run_bind_ok.mp h
      have := modQC_run hm; subst this
      rcases run_ite_ok.mp h with ⟨_, h⟩ | ⟨_, h⟩
      · obtain ⟨_, _, hf, _⟩ := run_bind_ok.mp h
        exact (run_throw_ok.mp hf).elim
      · obtain ⟨rfl, rfl⟩ := run_pure_ok.mp h
        have hf := List.isEmpty_iff.mp he
        exact ⟨rest, _, _, _, _, rfl, Or.inl ⟨hf, rfl, rfl, hf, rfl, rfl⟩⟩
    · rcases run_ite_ok.mp h with ⟨_, h⟩ | ⟨hc, h⟩
      · obtain ⟨_, _, hf, _⟩ := run_bind_ok.mp h
        exact (run_throw_ok.mp hf).elim
      · obtain ⟨u3, s3, hm, hp⟩ := run_bind_ok.mp h
        obtain ⟨rfl, rfl⟩ := run_pure_ok.mp hp
        have := modQC_run hm; subst this
        exact ⟨rest, _, _, _, _, rfl, Or.inr ⟨by simpa using hc, rfl, rfl, rfl, rfl⟩⟩

theorem getFreeAncilla_ok {a : Nat} {s s' : CState}
    (h : getFreeAncilla.run s = .ok (a, s')) (hg : Good s) :
    Step B s s' ∧ a < s'.qc.numQubits := by
  obtain ⟨rest, _, _, _, _, rfl, ⟨_, rfl, rfl, rfl, rfl, rfl⟩ | ⟨hm, rfl, rfl, rfl, rfl⟩⟩ := getFreeAncilla_eff h
  · -- a new qubit `anc_k`, an ancilla from the start
    have hg1 := hg.grow (Nat.le_succ _)
    refine ⟨Step.named
      (s2 := { s with
        choices := rest
        qc := { s.qc with numQubits := s.qc.numQubits + 1, anc := setIns s.qc.anc s.qc.numQubits, free := [] } })
      (Or.inr (reserved_of_scratch (scratch_anc _)))
      ⟨hg1.gates_ok, hg1.comp_ok, hg1.qmap_lt, hg1.expq_lt, ?_, nofun, hg1.marked_lt, setIns_nodup hg.anc_nodup, ?_,
        hg1.kept_lt⟩
      (Nat.lt_succ_self _) (Nat.le_succ _) rfl (fun _ => scratch_anc _) (fun _ _ => rfl) ?_, Nat.lt_succ_self _⟩
    · exact fun x hx => (mem_setIns hx).elim (hg1.anc_lt x) (· ▸ Nat.lt_succ_self _)
    · intro p hp hpa
      rcases mem_setIns hpa with hpa | hpa
      · exact hg.anc_named p hp hpa
      · exact absurd (hg.qmap_lt p hp) (by rw [hpa]; exact Nat.lt_irrefl _)
    · exact fun n hn hS => ⟨fun x hx => (mem_setIns hx).elim (hS.1 x) (· ▸ hn), nofun, hS.2.2.1, hS.2.2.2⟩
  · exact ⟨Step.quiet hg rfl rfl rfl rfl hg.gates_ok hg.comp_ok hg.expq_lt
      (fun _ h => .free (List.mem_of_mem_erase h)) (fun _ h => .marked h) (fun _ h => .kept h), hg.free_lt a hm⟩

theorem mem_foldl_setIns {l f : List Nat} {x : Nat} (h : x ∈ l.foldl setIns f) : x ∈ f ∨ x ∈ l := by
  induction l generalizing f with
  | nil => exact Or.inl h
  | cons a l ih =>
    rcases ih h with h' | h'
    · rcases mem_setIns h' with h'' | rfl
      · exact Or.inl h''
      · exact Or.inr List.mem_cons_self
    · exact Or.inr (List.mem_cons_of_mem _ h')

theorem mem_foldl_setIns_of_mem : ∀ (l f : List Nat) (x : Nat), x ∈ f ∨ x ∈ l → x ∈ l.foldl setIns f
  | [], f, x, h => h.elim id (fun h => nomatch h)
  | a :: l, f, x, h => by
    apply mem_foldl_setIns_of_mem l (setIns f a) x
    rcases h with h | h
    · exact Or.inl (mem_setIns_iff.mpr (Or.inl h))
    · exact (List.mem_cons.mp h).imp (fun e => mem_setIns_iff.mpr (Or.inr e)) id

theorem markAncilla_eq {w : Nat} {u : Unit} {s s' : CState} (h : (markAncilla w).run s = .ok (u, s')) :
    s' = if s.qc.anc.contains w && !s.qc.kept.contains w
      then { s with qc := { s.qc with marked := setIns s.qc.marked w } } else s := by
  unfold markAncilla at h
  obtain ⟨qc, s1, hq, h⟩ := run_bind_ok.mp h
  obtain ⟨rfl, rfl⟩ := getQC_run hq
  split at h
  · next hc => rw [if_pos hc]; exact modQC_run h
  · next hc => rw [if_neg hc]; exact (run_pure_ok.mp h).2

theorem markAll_single (w : Nat) : markAll [w] = markAncilla w := by
  unfold markAll markAll; exact bind_pure _

theorem markAll_eff : ∀ (ws : List Nat) {u : Unit} {s s' : CState}, (markAll ws).run s = .ok (u, s') →
    ∃ M, s' = { s with qc := { s.qc with marked := M } } ∧
      ∀ m, m ∈ M ↔ m ∈ s.qc.marked ∨ (m ∈ ws ∧ m ∈ s.qc.anc ∧ m ∉ s.qc.kept)
  | [], u, s, s', h => by
    unfold markAll at h
    obtain ⟨_, rfl⟩ := run_pure_ok.mp h
    exact ⟨s'.qc.marked, rfl, fun m => by simp⟩
  | w :: ws, u, s, s', h => by
    unfold markAll at h
    obtain ⟨u1, s1, h1, h2⟩ := run_bind_ok.mp h
    have e1 := markAncilla_eq h1
    obtain ⟨M, rfl, hM⟩ := markAll_eff ws h2
    refine ⟨M, ?_, fun m => ?_⟩
    · subst e1; split <;> rfl
    · rw [hM]; subst e1
      by_cases hc : (s.qc.anc.contains w && !s.qc.kept.contains w) = true
      · have hc' : w ∈ s.qc.anc ∧ w ∉ s.qc.kept := by simpa using hc
        rw [if_pos hc]
        simp only [mem_setIns_iff, List.mem_cons]
        constructor
        · rintro ((hm | hm) | ⟨hm, hk⟩)
          · exact Or.inl hm
          · exact Or.inr ⟨Or.inl hm, hm ▸ hc'⟩
          · exact Or.inr ⟨Or.inr hm, hk⟩
        · rintro (hm | ⟨hm | hm, hk⟩)
          · exact Or.inl (Or.inl hm)
          · exact Or.inl (Or.inr hm)
          · exact Or.inr ⟨hm, hk⟩
      · rw [if_neg hc]
        have hc' : ¬ (w ∈ s.qc.anc ∧ w ∉ s.qc.kept) := by simpa using hc
        simp only [List.mem_cons]
        constructor
        · rintro (hm | ⟨hm, hk⟩)
          · exact Or.inl hm
          · exact Or.inr ⟨Or.inr hm, hk⟩
        · rintro (hm | ⟨hm | hm, hk⟩)
          · exact Or.inl hm
          · exact absurd (hm ▸ hk) hc'
          · exact Or.inr ⟨hm, hk⟩

theorem markAncilla_eff {w : Nat} {u : Unit} {s s' : CState} (h : (markAncilla w).run s = .ok (u, s')) :
    ∃ M, s' = { s with qc := { s.qc with marked := M } } ∧
      ∀ m, m ∈ M ↔ m ∈ s.qc.marked ∨ (m = w ∧ w ∈ s.qc.anc ∧ w ∉ s.qc.kept) := by
  obtain ⟨M, e, hM⟩ := markAll_eff [w] (markAll_single w ▸ h)
  refine ⟨M, e, fun m => (hM m).trans (or_congr_right ?_)⟩
  constructor
  · rintro ⟨h1, h2⟩; have := List.mem_singleton.mp h1; subst this; exact ⟨rfl, h2⟩
  · rintro ⟨rfl, h2⟩; exact ⟨List.mem_singleton.mpr rfl, h2⟩

theorem markAll_ok (ws : List Nat) {u : Unit} {s s' : CState}
    (h : (markAll ws).run s = .ok (u, s')) (hg : Good s) : Step B s s' := by
  obtain ⟨M, rfl, hM⟩ := markAll_eff ws h
  exact Step.quiet hg rfl rfl rfl rfl hg.gates_ok hg.comp_ok hg.expq_lt (fun _ h => .free h)
    (fun m hm => ((hM m).mp hm).elim .marked (.anc ·.2.1)) (fun _ h => .kept h)

theorem markAncilla_ok {w : Nat} {u : Unit} {s s' : CState}
    (h : (markAncilla w).run s = .ok (u, s')) (hg : Good s) : Step B s s' :=
  markAll_ok [w] (markAll_single w ▸ h) hg

theorem keepAncillas_ok {u : Unit} {s s' : CState}
    (h : keepAncillas.run s = .ok (u, s')) (hg : Good s) : Step B s s' := by
  unfold keepAncillas at h
  have := modQC_run h; subst this
  exact Step.quiet hg rfl rfl rfl rfl hg.gates_ok hg.comp_ok hg.expq_lt (fun _ h => .free h) nofun
    (fun x hx => (mem_foldl_setIns hx).elim .kept (.anc <| List.mem_filter.mp · |>.1))

theorem expqRemove_eff {qs : List Nat} {u : Unit} {s s' : CState} (h : (expqRemove qs).run s = .ok (u, s')) :
    s' = { s with expq := s.expq.filter (fun p => !qs.contains p.2) } :=
  run_modify_ok.mp h

theorem expqSet_eff {e : BExp} {q : Nat} {u : Unit} {s s' : CState} (h : (expqSet e q).run s = .ok (u, s')) :
    ∃ X, s' = { s with expq := X } ∧ ∀ p ∈ X, (p ∈ s.expq ∧ p.2 ≠ q) ∨ p = (e, q) := by
  unfold expqSet at h
  obtain ⟨u1, s1, h1, h2⟩ := run_bind_ok.mp h
  have := expqRemove_eff h1; subst this
  have := run_modify_ok.mp h2; subst this
  have hfil : ∀ p0 ∈ s.expq.filter (fun p => !([q] : List Nat).contains p.2), p0 ∈ s.expq ∧ p0.2 ≠ q :=
    fun p0 hp0 => ⟨(List.mem_filter.mp hp0).1, by simpa using (List.mem_filter.mp hp0).2⟩
  split
  · refine ⟨_, rfl, fun p hp => ?_⟩
    obtain ⟨p0, hp0, rfl⟩ := List.mem_map.mp hp
    split
    · exact Or.inr rfl
    · exact Or.inl (hfil p0 hp0)
  · refine ⟨_, rfl, fun p hp => ?_⟩
    rcases List.mem_append.mp hp with hp | hp
    · exact Or.inl (hfil p hp)
    · exact Or.inr (List.mem_singleton.mp hp)

theorem expqRemove_run {qs : List Nat} {u : Unit} {s s' : CState} (h : (expqRemove qs).run s = .ok (u, s')) :
    s'.qc = s.qc := by
  rw [expqRemove_eff h]

theorem expqRemove_sub {qs : List Nat} {u : Unit} {s s' : CState} (h : (expqRemove qs).run s = .ok (u, s')) :
    ∀ p ∈ s'.expq, p ∈ s.expq ∧ p.2 ∉ qs := by
  rw [expqRemove_eff h]
  intro p hp
  obtain ⟨m1, m2⟩ := List.mem_filter.mp hp
  exact ⟨m1, by simpa using m2⟩

theorem expqSet_run {e : BExp} {q : Nat} {u : Unit} {s s' : CState} (h : (expqSet e q).run s = .ok (u, s')) :
    s'.qc = s.qc ∧ ∀ p ∈ s'.expq, (p ∈ s.expq ∧ p.2 ≠ q) ∨ p = (e, q) := by
  obtain ⟨X, rfl, hX⟩ := expqSet_eff h
  exact ⟨rfl, hX⟩

theorem Step.with_expq {s : CState} {X : List (BExp × Nat)} (hg : Good s) (he : ∀ p ∈ X, p.2 < s.qc.numQubits) :
    Step B s { s with expq := X } :=
  Step.quiet hg rfl rfl rfl rfl hg.gates_ok hg.comp_ok he (fun _ h => .free h) (fun _ h => .marked h) (fun _ h => .kept h)

theorem expqRemove_ok {qs : List Nat} {u : Unit} {s s' : CState}
    (h : (expqRemove qs).run s = .ok (u, s')) (hg : Good s) : Step B s s' := by
  rw [expqRemove_eff h]
  exact Step.with_expq hg fun p hp => hg.expq_lt p (List.mem_filter.mp hp).1

theorem expqSet_ok {e : BExp} {q : Nat} {u : Unit} {s s' : CState}
    (h : (expqSet e q).run s = .ok (u, s')) (hg : Good s) (hq : q < s.qc.numQubits) : Step B s s' := by
  obtain ⟨X, rfl, hX⟩ := expqSet_eff h
  refine Step.with_expq hg fun p hp => ?_
  rcases hX p hp with hp | rfl
  · exact hg.expq_lt p hp.1
  · exact hq

theorem expqGet?_ok {e : BExp} {r : Option Nat} {s s' : CState}
    (h : (expqGet? e).run s = .ok (r, s')) (hg : Good s) :
    s' = s ∧ ∀ q, r = some q → q < s.qc.numQubits := by
  unfold expqGet? at h
  simp only [run_bind_ok, run_get_ok, run_pure_ok] at h
  obtain ⟨s0, s1, ⟨rfl, rfl⟩, rfl, rfl⟩ := h
  refine ⟨rfl, fun q hq => ?_⟩
  cases hf : List.find? (fun x => x.fst == e) s'.expq with
  | none => simp [hf] at hq
  | some p =>
    simp only [hf, Option.map_some, Option.some.injEq] at hq
    subst hq
    exact hg.expq_lt p (List.mem_of_find?_eq_some hf)

theorem mapQubit_eq {name : String} {index : Nat} {promote : Bool} {u : Unit} {s s' : CState}
    (h : (mapQubit name index promote).run s = .ok (u, s')) :
    s' = { s with qc := { s.qc with
      anc := if promote && s.qc.anc.contains index then s.qc.anc.erase index else s.qc.anc,
      qmap := dictSet (if promote && s.qc.anc.contains index then
          match keyByIndex? s.qc.qmap index with
          | some k => s.qc.qmap.filter (·.1 != k)
          | none => s.qc.qmap
        else s.qc.qmap) name index } } := by
  unfold mapQubit at h
  dsimp only at h
  obtain ⟨qc, s1, hq, h⟩ := run_bind_ok.mp h
  obtain ⟨rfl, rfl⟩ := getQC_run hq
  split at h
  · next hc =>
    rw [if_pos hc, if_pos hc]
    obtain ⟨u2, s3, hm1, hmatch⟩ := run_bind_ok.mp h
    have := modQC_run hm1; subst this
    split at hmatch
    · next k hk =>
      obtain ⟨u3, s4, hm2, hm3⟩ := run_bind_ok.mp hmatch
      have := modQC_run hm2; subst this
      rw [modQC_run hm3, hk]
    · next hk => rw [modQC_run hmatch, hk]
  · next hc => rw [if_neg hc, if_neg hc]; exact modQC_run h

theorem mapQubit_shape {name : String} {index : Nat} {promote : Bool} {u : Unit} {s s' : CState}
    (h : (mapQubit name index promote).run s = .ok (u, s')) (hg : Good s) :
    ∃ an qm, s' = { s with qc := { s.qc with anc := an, qmap := dictSet qm name index } } ∧
      an.Sublist s.qc.anc ∧ (promote = true → index ∉ an) ∧ (∀ x ∈ s.qc.anc, x ≠ index → x ∈ an) ∧
      (∀ p ∈ qm, p ∈ s.qc.qmap) ∧ (∀ x, scratchName x = false → dictGet? qm x = dictGet? s.qc.qmap x) := by
  refine ⟨_, _, mapQubit_eq h, ?_⟩
  by_cases hc : (promote && s.qc.anc.contains index) = true
  · rw [if_pos hc, if_pos hc]
    have hia : index ∈ s.qc.anc := by simpa using (Bool.and_eq_true_iff.mp hc).2
    refine ⟨List.erase_sublist, fun _ h' => (hg.anc_nodup.mem_erase_iff.mp h').1 rfl,
      fun x hx hxi => (List.mem_erase_of_ne hxi).mpr hx, ?_⟩
    cases hk : keyByIndex? s.qc.qmap index with
    | none => exact ⟨fun _ hp => hp, fun _ _ => rfl⟩
    | some k =>
      have hks : scratchName k = true := hg.anc_named (k, index) (keyByIndex?_mem hk) hia
      exact ⟨fun p hp => (List.mem_filter.mp hp).1,
        fun x hx => dictGet?_filter_ne (by rintro rfl; rw [hks] at hx; cases hx)⟩
  · rw [if_neg hc, if_neg hc]
    refine ⟨List.Sublist.refl _, fun hpt hia => hc ?_, fun x hx _ => hx, fun _ hp => hp, fun _ _ => rfl⟩
    rw [hpt]; simpa using hia

theorem mapQubit_ok {name : String} {index : Nat} {promote : Bool} {u : Unit}
    {s s' : CState} (h : (mapQubit name index promote).run s = .ok (u, s')) (hg : Good s)
    (hi : index < s.qc.numQubits) (hb : B name) (hp : promote = false → scratchName name = true) :
    Step B s s' ∧ dictGet? s'.qc.qmap name = some index := by
  obtain ⟨an, qm, rfl, hsub, hni, _, hqm, hkeep⟩ := mapQubit_shape h hg
  refine ⟨?_, dictGet?_dictSet_self⟩
  refine Step.named (s2 := { s with qc := { s.qc with anc := an, qmap := qm } }) (Or.inl hb)
    ⟨hg.gates_ok, hg.comp_ok, fun p hp => hg.qmap_lt p (hqm p hp), hg.expq_lt,
      fun a ha => hg.anc_lt a (hsub.subset ha), hg.free_lt, hg.marked_lt, hg.anc_nodup.sublist hsub,
      fun p hp ha => hg.anc_named p (hqm p hp) (hsub.subset ha), hg.kept_lt⟩
    hi (Nat.le_refl _) rfl (fun hia => ?_) hkeep (fun n _ h => ⟨fun a ha => h.1 a (hsub.subset ha), h.2.1, h.2.2⟩)
  cases promote
  · exact hp rfl
  · exact absurd hia (hni rfl)

theorem cx_same_fails {a : Nat} {u : Unit} {s s' : CState} (h : (cx a a).run s = .ok (u, s')) : False := by
  unfold cx append at h
  obtain ⟨b, h⟩ := run_discard_ok.mp h
  have := (appendG_run h).noerr
  unfold appendError at this
  simp at this
  split at this <;> cases this

theorem compileSymbol_run {n : String} {sym : Option String} {a : Nat} {s s' : CState}
    (h : (compileSymbol n sym).run s = .ok (a, s')) :
    (s' = s ∧ dictGet? s.qc.qmap n = some a ∧
      ∀ sy, sym = some sy → sy.startsWith "_ret" = true → s.inputs.contains n = false ∧ ¬ a < s.inputs.length) ∨
    (∃ sy q s1, sym = some sy ∧ sy.startsWith "_ret" = true ∧
      (addQubit sy).run s = .ok (a, s1) ∧ (cx q a).run s1 = .ok ((), s') ∧ dictGet? s.qc.qmap n = some q) := by
  unfold compileSymbol at h
  dsimp only at h
  have fin : ∀ {s a s'}, StateT.run (do
      let qc ← getQC
      match dictGet? qc.qmap n with
        | some i => pure i
        | none => throw s!"CompilerException: Symbol not found in qc: {n}" : M Nat) s = .ok (a, s') →
      s' = s ∧ dictGet? s.qc.qmap n = some a := by
    intro s a s' h
    obtain ⟨qc, s1, hq, h⟩ := run_bind_ok.mp h
    obtain ⟨rfl, rfl⟩ := getQC_run hq
    split at h
    · next i hi =>
      obtain ⟨rfl, rfl⟩ := run_pure_ok.mp h
      exact ⟨rfl, hi⟩
    · exact (run_throw_ok.mp h).elim
  split at h
  · next sy =>
    split at h
    · next hr =>
      rw [run_get_bind_ok] at h
      split at h
      · next hc =>
        obtain ⟨iret, s2, hadd, h2⟩ := run_bind_ok.mp h
        obtain ⟨q, s3, hl, h3⟩ := run_bind_ok.mp h2
        obtain ⟨rfl, hq⟩ := lookup_run hl
        obtain ⟨u, s4, hcx, hp⟩ := run_bind_ok.mp h3
        obtain ⟨rfl, rfl⟩ := run_pure_ok.mp hp
        -- the new qubit is allocated first, then `n` is looked up: `n = sy` would copy the new qubit into itself
        obtain ⟨ha0, hs1⟩ := addQubit_run hadd
        refine Or.inr ⟨sy, q, s3, rfl, hr, hadd, hcx, ?_⟩
        rw [hs1] at hq
        have hq' : dictGet? (dictSet s.qc.qmap sy s.qc.numQubits) n = some q := hq
        by_cases hn : n = sy
        · subst hn
          rw [dictGet?_dictSet_self] at hq'
          cases hq'
          rw [ha0] at hcx
          exact (cx_same_fails hcx).elim
        · rwa [dictGet?_dictSet_ne hn] at hq'
      · next hc =>
        obtain ⟨q, s2, hl, h2⟩ := run_bind_ok.mp h
        obtain ⟨rfl, hq⟩ := lookup_run hl
        rw [run_get_bind_ok] at h2
        split at h2
        · obtain ⟨iret, s3, hadd, h3⟩ := run_bind_ok.mp h2
          obtain ⟨u, s4, hcx, hp⟩ := run_bind_ok.mp h3
          obtain ⟨rfl, rfl⟩ := run_pure_ok.mp hp
          exact Or.inr ⟨sy, q, s3, rfl, hr, hadd, hcx, hq⟩
        · next hlt =>
          obtain ⟨rfl, rfl⟩ := run_pure_ok.mp h2
          exact Or.inl ⟨rfl, hq, fun _ e _ => by cases e; exact ⟨by simpa using hc, hlt⟩⟩
    · next hret =>
      obtain ⟨rfl, hq⟩ := fin h
      exact Or.inl ⟨rfl, hq, fun _ e hr => by cases e; exact absurd hr hret⟩
  · obtain ⟨rfl, hq⟩ := fin h
    exact Or.inl ⟨rfl, hq, nofun⟩

theorem compileSymbol_ok {n : String} {sym : Option String} {a : Nat} {s s' : CState}
    (h : (compileSymbol n sym).run s = .ok (a, s')) (hg : Good s) (hb : ∀ x, sym = some x → B x) :
    Step B s s' ∧ a < s'.qc.numQubits := by
  rcases compileSymbol_run h with ⟨rfl, hq, _⟩ | ⟨sy, q, s1, rfl, _, hadd, hcx, hq⟩
  · exact ⟨Step.refl hg, hg.qmap_lt _ (dictGet?_mem hq)⟩
  · obtain ⟨st1, _, hlt, _, _⟩ := addQubit_ok (B := B) hadd hg (Or.inl (hb sy rfl))
    have hql : q < s1.qc.numQubits := st1.lt (hg.qmap_lt _ (dictGet?_mem hq))
    have st2 : Step B s1 s' := cx_ok hcx st1.good hql hlt
    exact ⟨st1.trans st2, st2.lt hlt⟩

/-- step 3 of `compile_expr`: answer from the expression cache, otherwise compute -/
def cachedM (e : BExp) (dest : Option Nat) (body : M Nat) : M Nat := do
  match ← expqGet? e with
  | some q => cacheHit q dest
  | none => body

/-- the destination of a `compile_*` method: the caller's accumulator, or a new ancilla -/
def destOr (dest : Option Nat) : M Nat :=
  match dest with
  | some d => pure d
  | none => getFreeAncilla

/-- the end of a `compile_*` method: a result computed into a new ancilla is cached -/
def cacheResult (dest : Option Nat) (e : BExp) (d : Nat) : M Nat := do
  if dest.isNone then expqSet e d
  pure d

/-- the common tail of `compile_and` / `compile_or`: mark the argument qubits, cache the result, return it -/
def finishM (es : List Nat) (dest : Option Nat) (e : BExp) (d : Nat) : M Nat := do
  markAll es
  cacheResult dest e d

/-- the argument qubits of `compile_and` / `compile_or` as the code holds them: `erets` without (one occurrence
of) the destination; `argQubits` is the same as a sorted duplicate-free list (the controls of the `MCX`) -/
def argList (erets : List Nat) (d : Nat) : List Nat := if erets.contains d then erets.erase d else erets
def argQubits (erets : List Nat) (d : Nat) : List Nat := sortNat (argList erets d).eraseDups

theorem argList_of_notMem {erets : List Nat} {d : Nat} (h : d ∉ erets) : argList erets d = erets :=
  if_neg (by simpa using h)

theorem argQubits_of_notMem {erets : List Nat} {d : Nat} (h : d ∉ erets) :
    argQubits erets d = sortNat erets.eraseDups := by
  rw [argQubits, argList_of_notMem h]

/-- step 4 of `compile_or`: `d ^= Or es` -/
def orGatesM (d : Nat) (erets es : List Nat) : M Unit := do
  if es.length ≤ 2 then
    cxAll d es
    if es.length == 2 then mcx es d
  else
    orWide d erets es

/-- `compile_not` without the in-place shortcut: copy the argument (`CX`), negate (`X`), mark the argument -/
def notCopyM (x : BExp) (eret : Nat) (dest : Option Nat) : M Nat := do
  let d ← destOr dest
  cx eret d
  xGate d
  markAncilla eret
  cacheResult dest (.not x) d

/-- one round of the `compile_xor` loop: accumulate `a` into `d` -/
def xorStepM (a : BExp) (as : List BExp) (d : Nat) : M Nat := do
  let d' ← compileExpr a (some d) none
  if d' != d then event "xorRepl"
  compileXorArgs as d'

/-- one round of the `compile_xor` loop for `Not inner` with a compound `inner`: accumulate `inner`, then `X` -/
def xorNotStepM (inner : BExp) (as : List BExp) (d : Nat) : M Nat := do
  let d' ← compileExpr inner (some d) none
  if d' != d then event "xorRepl"
  xGate d'
  compileXorArgs as d'

/-- `x = ~x`: the argument of `Not` is the symbol being defined -/
def isSelfNot (x : BExp) (sym : Option String) : Bool :=
  match x, sym with
  | .sym n, some s => n == s
  | _, _ => false

theorem compileExpr_not (x : BExp) (dest : Option Nat) (sym : Option String) :
    compileExpr (.not x) dest sym = cachedM (.not x) dest (do
      if isSelfNot x sym then
        match sym with
        | some s => do
          let iret ← lookup s
          xGate iret
          pure iret
        | none => throw "unreachable"
      else
        let shared := (← expqGet? x).isSome
        let eret ← compileExpr x none none
        if dest.isNone && (← getQC).anc.contains eret && !shared then
          event "inplaceNot"
          xGate eret
          expqSet (.not x) eret
          pure eret
        else notCopyM x eret dest) := by
  rw [compileExpr.eq_def]
  cases dest <;> rfl

theorem compileExpr_and (args : List BExp) (dest : Option Nat) (sym : Option String) :
    compileExpr (.and args) dest sym = cachedM (.and args) dest (do
      let erets ← compileArgs args
      let d ← destOr dest
      if erets.contains d then event "destAmongArgs"
      mcx (argQubits erets d) d
      finishM (argQubits erets d) dest (.and args) d) := by
  rw [compileExpr]
  cases dest <;> rfl

theorem orGatesM_bind {α} (d : Nat) (erets es : List Nat) (k : M α) :
    (orGatesM d erets es >>= fun _ => k) =
      if es.length ≤ 2 then cxAll d es >>= fun _ => if es.length == 2 then mcx es d >>= fun _ => k else k
      else orWide d erets es >>= fun _ => k := by
  unfold orGatesM
  split
  · split <;> simp only [bind_assoc, pure_bind]
  · rfl

theorem compileExpr_or (args : List BExp) (dest : Option Nat) (sym : Option String) :
    compileExpr (.or args) dest sym = cachedM (.or args) dest (do
      let erets ← compileArgs args
      let d ← destOr dest
      if erets.contains d then event "destAmongArgs"
      orGatesM d (argList erets d) (argQubits erets d)
      finishM (argQubits erets d) dest (.or args) d) := by
  rw [compileExpr]
  simp only [orGatesM_bind]
  cases dest <;> rfl

theorem compileExpr_xor (args : List BExp) (dest : Option Nat) (sym : Option String) :
    compileExpr (.xor args) dest sym = cachedM (.xor args) dest (do
      let d ← destOr dest
      let d' ← compileXorArgs args d
      cacheResult dest (.xor args) d') := by
  rw [compileExpr]
  cases dest <;> rfl

def stripNot : BExp → BExp
  | .not i => i
  | a => a

theorem compileXorArgs_cons (a : BExp) (as : List BExp) (d : Nat) :
    compileXorArgs (a :: as) d =
      match a with
      | .sym n => do
        let q ← lookup n
        if q == d then compileXorArgs as d
        else do
          cx q d
          compileXorArgs as d
      | .not inner => if isSym inner then xorStepM a as d else xorNotStepM inner as d
      | _ => xorStepM a as d := by
  rw [compileXorArgs.eq_def]
  cases a with
  | not inner => cases inner <;> rfl
  | _ => rfl

/-- the recursion of `compileExpr` / `compileArgs` / `compileXorArgs` as an induction principle; `compile_xor`
compiles a compound argument `Not x` through `x` itself, hence the hypothesis on `stripNot a` -/
theorem compile_induction {PE : BExp → Prop} {PA PX : List BExp → Prop}
    (ff : PE .ff) (tt : PE .tt) (sym : ∀ n, PE (.sym n))
    (ite : ∀ a b c, PE (.ite a b c)) (imp : ∀ a b, PE (.imp a b))
    (not : ∀ x, PE x → PE (.not x)) (and : ∀ l, PA l → PE (.and l)) (or : ∀ l, PA l → PE (.or l))
    (xor : ∀ l, PX l → PE (.xor l))
    (anil : PA []) (acons : ∀ a l, PE a → PA l → PA (a :: l))
    (xnil : PX []) (xcons : ∀ a l, PE a → PE (stripNot a) → PX l → PX (a :: l)) :
    (∀ e, PE e) ∧ (∀ l, PA l) ∧ (∀ l, PX l) :=
  ⟨go, goA, goX⟩
where
  go : ∀ e, PE e
    | .ff => ff
    | .tt => tt
    | .sym n => sym n
    | .ite a b c => ite a b c
    | .imp a b => imp a b
    | .not x => not x (go x)
    | .and l => and l (goA l)
    | .or l => or l (goA l)
    | .xor l => xor l (goX l)
  goA : ∀ l, PA l
    | [] => anil
    | a :: l => acons a l (go a) (goA l)
  goX : ∀ l, PX l
    | [] => xnil
    | .not i :: l => xcons _ l (go (.not i)) (go i) (goX l)
    | .ff :: l => xcons _ l (go .ff) (go .ff) (goX l)
    | .tt :: l => xcons _ l (go .tt) (go .tt) (goX l)
    | .sym n :: l => xcons _ l (go (.sym n)) (go (.sym n)) (goX l)
    | .xor k :: l => xcons _ l (go (.xor k)) (go (.xor k)) (goX l)
    | .and k :: l => xcons _ l (go (.and k)) (go (.and k)) (goX l)
    | .or k :: l => xcons _ l (go (.or k)) (go (.or k)) (goX l)
    | .ite x y z :: l => xcons _ l (go (.ite x y z)) (go (.ite x y z)) (goX l)
    | .imp x y :: l => xcons _ l (go (.imp x y)) (go (.imp x y)) (goX l)

theorem compile_induction₂ {PE : BExp → Prop} {PX : List BExp → Prop}
    (ff : PE .ff) (tt : PE .tt) (sym : ∀ n, PE (.sym n))
    (ite : ∀ a b c, PE (.ite a b c)) (imp : ∀ a b, PE (.imp a b))
    (not : ∀ x, PE x → PE (.not x)) (and : ∀ l, PE (.and l)) (or : ∀ l, PE (.or l))
    (xor : ∀ l, PX l → PE (.xor l))
    (xnil : PX []) (xcons : ∀ a l, PE a → PE (stripNot a) → PX l → PX (a :: l)) :
    (∀ e, PE e) ∧ (∀ l, PX l) :=
  have h := compile_induction (PA := fun _ => True) ff tt sym ite imp not (fun l _ => and l) (fun l _ => or l) xor
    (anil := trivial) (acons := fun _ _ _ _ => trivial) xnil xcons
  ⟨h.1, h.2.2⟩

theorem mem_argQubits {erets : List Nat} {d x : Nat} (h : x ∈ argQubits erets d) : x ∈ erets := by
  unfold argQubits argList sortNat at h
  rw [List.mem_mergeSort] at h
  have h := List.mem_eraseDups.mp h
  split at h
  · exact List.mem_of_mem_erase h
  · exact h

/-! `Step` (here) and `Decopt.QStep` are both established by following the text of `compile_expr` primitive by
primitive.  The walk is done once, for a relation `Rl` with an invariant `I` on its first state and a notion `In s x`
of "`x` is a qubit of `s`" that `Rl` preserves: `Walk` lists what is asked of the primitives.  `Spec` carries the
qubit indices in scope as a list `R` and says which qubits the result consists of (`Q a`); `Walk.bind` moves the
result of the first action into the scope of the second. -/

def Spec (I : CState → Prop) (Rl : CState → CState → Prop) (In : CState → Nat → Prop) {α : Type}
    (R : List Nat) (m : M α) (Q : α → List Nat) : Prop :=
  ∀ ⦃a : α⦄ ⦃s s' : CState⦄, m.run s = .ok (a, s') → I s → (∀ x ∈ R, In s x) → Rl s s' ∧ ∀ x ∈ Q a, In s' x

abbrev noQ {α : Type} : α → List Nat := fun _ => []
abbrev oneQ : Nat → List Nat := fun a => [a]

/-- `SymOK`: the names a statement may define (`compile_symbol` adds a qubit under the name being defined) -/
structure Walk (I : CState → Prop) (Rl : CState → CState → Prop) (In : CState → Nat → Prop)
    (SymOK : Option String → Prop) : Prop where
  refl : ∀ {s}, I s → Rl s s
  trans : ∀ {s s1 s2}, Rl s s1 → Rl s1 s2 → Rl s s2
  inv : ∀ {s s'}, Rl s s' → I s'
  mono : ∀ {s s' x}, Rl s s' → In s x → In s' x
  symNone : SymOK none
  xGate : ∀ {R w}, w ∈ R → Spec I Rl In R (xGate w) noQ
  cx : ∀ {R a b}, a ∈ R → b ∈ R → Spec I Rl In R (cx a b) noQ
  mcx : ∀ {R cs t}, (∀ c ∈ cs, c ∈ R) → t ∈ R → Spec I Rl In R (mcx cs t) noQ
  event : ∀ {R} e, Spec I Rl In R (event e) noQ
  markAncilla : ∀ {R} w, Spec I Rl In R (markAncilla w) noQ
  expqSet : ∀ {R e q}, q ∈ R → Spec I Rl In R (expqSet e q) noQ
  expqGet : ∀ {R} e, Spec I Rl In R (expqGet? e) Option.toList
  getFreeAncilla : ∀ {R}, Spec I Rl In R getFreeAncilla oneQ
  lookup : ∀ {R} n, Spec I Rl In R (lookup n) oneQ
  getQC : ∀ {R}, Spec I Rl In R getQC noQ
  addConst : ∀ {R name}, reservedName name = true → Spec I Rl In R (addQubit name) oneQ
  symbol : ∀ {R} n sym, SymOK sym → Spec I Rl In R (compileSymbol n sym) oneQ

namespace Walk

variable {I : CState → Prop} {Rl : CState → CState → Prop} {In : CState → Nat → Prop} {SymOK : Option String → Prop}
  (W : Walk I Rl In SymOK)
include W

theorem bind {α β : Type} {R : List Nat} {m : M α} {f : α → M β} {Q : α → List Nat} {Q' : β → List Nat}
    (hm : Spec I Rl In R m Q) (hf : ∀ a, Spec I Rl In (Q a ++ R) (f a) Q') : Spec I Rl In R (m >>= f) Q' := by
  intro b s s' h hi hr
  obtain ⟨a, s1, h1, h2⟩ := run_bind_ok.mp h
  obtain ⟨st1, hq⟩ := hm h1 hi hr
  obtain ⟨st2, hq'⟩ := hf a h2 (W.inv st1)
    (fun x hx => (List.mem_append.mp hx).elim (hq x) (fun hx => W.mono st1 (hr x hx)))
  exact ⟨W.trans st1 st2, hq'⟩

theorem pure {α : Type} {R : List Nat} {a : α} {Q : α → List Nat} (h : ∀ x ∈ Q a, x ∈ R) :
    Spec I Rl In R (Pure.pure a : M α) Q := by
  intro b s s' hr hi hR
  obtain ⟨rfl, rfl⟩ := run_pure_ok.mp hr
  exact ⟨W.refl hi, fun x hx => hR x (h x hx)⟩

omit W in
theorem throw {α : Type} {R : List Nat} {Q : α → List Nat} (e : String) :
    Spec I Rl In R (MonadExcept.throw e : M α) Q :=
  fun _ _ _ h => (run_throw_ok.mp h).elim

omit W in
theorem throwBind {α β : Type} {R : List Nat} {Q : β → List Nat} {e : String} {f : α → M β} :
    Spec I Rl In R ((MonadExcept.throw e : M α) >>= f) Q := fun _ _ _ h => by
  obtain ⟨_, _, hf, _⟩ := run_bind_ok.mp h
  exact (run_throw_ok.mp hf).elim

omit W in
theorem ite {α : Type} {R : List Nat} {Q : α → List Nat} {c : Prop} [Decidable c] {m1 m2 : M α}
    (h1 : Spec I Rl In R m1 Q) (h2 : Spec I Rl In R m2 Q) : Spec I Rl In R (if c then m1 else m2) Q := by
  split
  · exact h1
  · exact h2

omit W in
theorem weaken {α : Type} {R R' : List Nat} {m : M α} {Q : α → List Nat} (h : ∀ x ∈ R, x ∈ R')
    (hm : Spec I Rl In R m Q) : Spec I Rl In R' m Q :=
  fun _ _ _ hr hi hR => hm hr hi (fun x hx => hR x (h x hx))

/-- an `if c then m` with the statements `k` that follow it -/
theorem whenBind {α : Type} {R : List Nat} {Q : α → List Nat} {c : Prop} [Decidable c] {m : M Unit}
    {k : Unit → M α} (hm : Spec I Rl In R m noQ) (hk : Spec I Rl In R (k ()) Q) :
    Spec I Rl In R (if c then m >>= k else k ()) Q :=
  ite (W.bind hm fun _ => hk) hk

omit W in
theorem optionMatch {α : Type} {R : List Nat} {Q : α → List Nat} {o : Option Nat} {f : Nat → M α} {g : M α}
    (hf : ∀ b, o = some b → Spec I Rl In R (f b) Q) (hg : o = none → Spec I Rl In R g Q) :
    Spec I Rl In R (match o with | some b => f b | none => g) Q := by
  cases o
  · exact hg rfl
  · exact hf _ rfl

omit W in
theorem discard {α : Type} {R : List Nat} {m : M α} {Q : α → List Nat} (hm : Spec I Rl In R m Q) :
    Spec I Rl In R (discard m) noQ := by
  intro u s s' h hi hr
  obtain ⟨a, h1⟩ := run_discard_ok.mp h
  exact ⟨(hm h1 hi hr).1, nofun⟩

theorem markAll : ∀ (ws : List Nat) {R : List Nat}, Spec I Rl In R (Compiler.markAll ws) noQ
  | [], _ => by unfold Compiler.markAll; exact W.pure nofun
  | w :: ws, _ => by unfold Compiler.markAll; exact W.bind (W.markAncilla w) fun _ => markAll ws

theorem cxAll {d : Nat} : ∀ (is : List Nat) {R : List Nat}, d ∈ R → (∀ i ∈ is, i ∈ R) →
    Spec I Rl In R (Compiler.cxAll d is) noQ
  | [], _, _, _ => by unfold Compiler.cxAll; exact W.pure nofun
  | i :: is, _, hd, hi => by
    unfold Compiler.cxAll
    exact W.bind (W.cx (hi i List.mem_cons_self) hd) fun _ =>
      cxAll is (by simp [hd]) (fun j hj => by simp [hi j (List.mem_cons_of_mem _ hj)])

theorem constFalse {R : List Nat} : Spec I Rl In R Compiler.constFalse oneQ := by
  unfold Compiler.constFalse
  exact W.bind W.getQC fun _ => W.whenBind (discard (W.addConst (by decide))) (W.lookup _)

theorem constTrue {R : List Nat} : Spec I Rl In R Compiler.constTrue oneQ := by
  unfold Compiler.constTrue
  exact W.bind W.getQC fun _ => ite
    (W.bind (discard (W.addConst (by decide))) fun _ => W.bind (W.lookup _) fun q =>
      W.bind (W.xGate (by simp)) fun _ => W.lookup _)
    (W.lookup _)

theorem cacheHit {R : List Nat} {q : Nat} {dest : Option Nat} (hq : q ∈ R) (hd : ∀ d, dest = some d → d ∈ R) :
    Spec I Rl In R (Compiler.cacheHit q dest) oneQ := by
  unfold Compiler.cacheHit
  refine W.bind (W.event _) fun _ => optionMatch (fun d h => ?_) (fun _ => W.pure (by simp [hq]))
  exact ite (W.bind (W.cx (by simp [hq]) (by simp [hd d h])) fun _ => W.pure (by simp [hd d h]))
    (W.pure (by simp [hq]))

theorem cachedM {R : List Nat} {e : BExp} {dest : Option Nat} {body : M Nat}
    (hd : ∀ d, dest = some d → d ∈ R) (hb : Spec I Rl In R body oneQ) : Spec I Rl In R (Compiler.cachedM e dest body) oneQ :=
  W.bind (W.expqGet e) fun r => optionMatch
    (fun q hq => W.cacheHit (by simp [hq]) (fun d h => List.mem_append_right _ (hd d h)))
    (fun _ => weaken (fun _ hx => List.mem_append_right _ hx) hb)

theorem destOr {R : List Nat} {dest : Option Nat} (hd : ∀ d, dest = some d → d ∈ R) :
    Spec I Rl In R (Compiler.destOr dest) oneQ :=
  optionMatch (fun d h => W.pure (by simpa using hd d h)) (fun _ => W.getFreeAncilla)

theorem cacheResult {R : List Nat} {dest : Option Nat} {e : BExp} {d : Nat} (hd : d ∈ R) :
    Spec I Rl In R (Compiler.cacheResult dest e d) oneQ := by
  unfold Compiler.cacheResult
  exact W.whenBind (k := fun _ => Pure.pure d) (W.expqSet hd) (W.pure (by simp [hd]))

theorem finishM {R : List Nat} {es : List Nat} {dest : Option Nat} {e : BExp} {d : Nat} (hd : d ∈ R) :
    Spec I Rl In R (Compiler.finishM es dest e d) oneQ :=
  W.bind (W.markAll es) fun _ => W.cacheResult (by simp [hd])

theorem notCopyM {R : List Nat} {x : BExp} {eret : Nat} {dest : Option Nat} (he : eret ∈ R)
    (hd : ∀ d, dest = some d → d ∈ R) : Spec I Rl In R (Compiler.notCopyM x eret dest) oneQ :=
  W.bind (W.destOr hd) fun d => W.bind (W.cx (by simp [he]) (by simp)) fun _ =>
    W.bind (W.xGate (by simp)) fun _ => W.bind (W.markAncilla eret) fun _ => W.cacheResult (by simp)

theorem orGate {R : List Nat} {acc i d : Nat} (ha : acc ∈ R) (hi : i ∈ R) (hd : d ∈ R) :
    Spec I Rl In R (do Compiler.cx acc d; Compiler.cx i d; Compiler.mcx [acc, i] d : M Unit) noQ :=
  W.bind (W.cx ha hd) fun _ => W.bind (W.cx (by simp [hi]) (by simp [hd])) fun _ =>
    W.mcx (by simp [ha, hi]) (by simp [hd])

theorem orChain {dest : Nat} : ∀ (rest : List Nat) (acc : Nat) {R : List Nat}, dest ∈ R → acc ∈ R →
    (∀ i ∈ rest, i ∈ R) → Spec I Rl In R (Compiler.orChain dest acc rest) noQ
  | [], _, _, _, _, _ => by unfold Compiler.orChain; exact W.pure nofun
  | [i], acc, _, hd, ha, hr => by unfold Compiler.orChain; exact W.orGate ha (hr i List.mem_cons_self) hd
  | i :: j :: rest, acc, R, hd, ha, hr => by
    unfold Compiler.orChain
    have hi : i ∈ R := hr i List.mem_cons_self
    exact W.bind W.getFreeAncilla fun d => W.bind (W.markAncilla d) fun _ =>
      W.bind (W.cx (by simp [ha]) (by simp)) fun _ => W.bind (W.cx (by simp [hi]) (by simp)) fun _ =>
      W.bind (W.mcx (by simp [ha, hi]) (by simp)) fun _ =>
      orChain (j :: rest) d (by simp [hd]) (by simp) (fun x hx => by simp [hr x (List.mem_cons_of_mem _ hx)])

theorem orWide {R : List Nat} {d : Nat} {erets es : List Nat} (hd : d ∈ R) (hes : ∀ x ∈ es, x ∈ R) :
    Spec I Rl In R (Compiler.orWide d erets es) noQ := by
  unfold Compiler.orWide
  dsimp only
  split
  · exact throwBind
  · next hne =>
    have heq : sortNat (pySetOrder erets) = es := by simpa using hne
    have hmem : ∀ x ∈ pySetOrder erets, x ∈ R := fun x hx =>
      hes x (heq ▸ by unfold sortNat; exact List.mem_mergeSort.mpr hx)
    cases ho : pySetOrder erets with
    | nil => exact W.pure nofun
    | cons a rest =>
      rw [ho] at hmem
      exact W.orChain rest a hd (hmem a List.mem_cons_self) (fun x hx => hmem x (List.mem_cons_of_mem _ hx))

theorem orGatesM {R : List Nat} {d : Nat} {erets es : List Nat} (hd : d ∈ R) (hes : ∀ x ∈ es, x ∈ R) :
    Spec I Rl In R (Compiler.orGatesM d erets es) noQ :=
  ite (W.bind (W.cxAll es hd hes) fun _ => ite (W.mcx (fun c hc => by simp [hes c hc]) (by simp [hd]))
    (W.pure nofun)) (W.orWide hd hes)

def Expr (_ : Walk I Rl In SymOK) (e : BExp) : Prop :=
  ∀ {R : List Nat} {dest : Option Nat} {sym : Option String}, (∀ d, dest = some d → d ∈ R) → SymOK sym →
    Spec I Rl In R (compileExpr e dest sym) oneQ
def Args (_ : Walk I Rl In SymOK) (as : List BExp) : Prop := ∀ {R : List Nat}, Spec I Rl In R (compileArgs as) id
def Xor (_ : Walk I Rl In SymOK) (as : List BExp) : Prop :=
  ∀ {R : List Nat} {d : Nat}, d ∈ R → Spec I Rl In R (compileXorArgs as d) oneQ

theorem expr_not {x : BExp} (ih : W.Expr x) : W.Expr (.not x) := by
  intro R dest sym hd _
  rw [compileExpr_not]
  refine W.cachedM hd (ite ?_ ?_)
  · cases sym with
    | none => exact throw _
    | some sy => exact W.bind (W.lookup sy) fun iret => W.bind (W.xGate (by simp)) fun _ => W.pure (by simp)
  · exact W.bind (W.expqGet x) fun sh => W.bind (ih nofun W.symNone) fun eret =>
      W.bind W.getQC fun qc => ite
        (W.bind (W.event _) fun _ => W.bind (W.xGate (by simp)) fun _ =>
          W.bind (W.expqSet (by simp)) fun _ => W.pure (by simp))
        (W.notCopyM (by simp) (fun d h => by simp [hd d h]))

theorem expr_and {args : List BExp} (ih : W.Args args) : W.Expr (.and args) := by
  intro R dest sym hd _
  rw [compileExpr_and]
  exact W.cachedM hd (W.bind ih fun erets => W.bind (W.destOr (fun d h => by simp [hd d h])) fun d =>
    W.whenBind (W.event _) (W.bind (W.mcx (fun c hc => by simp [mem_argQubits hc]) (by simp)) fun _ =>
      W.finishM (by simp)))

theorem expr_or {args : List BExp} (ih : W.Args args) : W.Expr (.or args) := by
  intro R dest sym hd _
  rw [compileExpr_or]
  exact W.cachedM hd (W.bind ih fun erets => W.bind (W.destOr (fun d h => by simp [hd d h])) fun d =>
    W.whenBind (W.event _) (W.bind (W.orGatesM (by simp) (fun c hc => by simp [mem_argQubits hc])) fun _ =>
      W.finishM (by simp)))

theorem expr_xor {args : List BExp} (ih : W.Xor args) : W.Expr (.xor args) := by
  intro R dest sym hd _
  rw [compileExpr_xor]
  exact W.cachedM hd (W.bind (W.destOr hd) fun d => W.bind (ih (by simp)) fun d' => W.cacheResult (by simp))

theorem xorStepM {a : BExp} {as : List BExp} (iha : W.Expr a) (ihs : W.Xor as) {R : List Nat} {d : Nat}
    (hd : d ∈ R) : Spec I Rl In R (Compiler.xorStepM a as d) oneQ :=
  W.bind (iha (by simpa using hd) W.symNone) fun d' => W.whenBind (W.event _) (ihs (by simp))

theorem xorNotStepM {i : BExp} {as : List BExp} (ihi : W.Expr i) (ihs : W.Xor as) {R : List Nat} {d : Nat}
    (hd : d ∈ R) : Spec I Rl In R (Compiler.xorNotStepM i as d) oneQ :=
  W.bind (ihi (by simpa using hd) W.symNone) fun d' => W.whenBind (W.event _)
    (W.bind (W.xGate (by simp)) fun _ => ihs (by simp))

theorem xor_cons {a : BExp} {as : List BExp} (iha : W.Expr a) (ihi : W.Expr (stripNot a)) (ihs : W.Xor as) :
    W.Xor (a :: as) := by
  intro R d hd
  rw [compileXorArgs_cons]
  split
  · exact W.bind (W.lookup _) fun q => ite (ihs (by simp [hd]))
      (W.bind (W.cx (by simp) (by simp [hd])) fun _ => ihs (by simp [hd]))
  · exact ite (W.xorStepM iha ihs hd) (W.xorNotStepM ihi ihs hd)
  · exact W.xorStepM iha ihs hd

theorem compile : (∀ e, W.Expr e) ∧ (∀ as, W.Args as) ∧ (∀ as, W.Xor as) :=
  compile_induction
    (by intro R dest sym _ _; unfold compileExpr; exact W.constFalse)
    (by intro R dest sym _ _; unfold compileExpr; exact W.constTrue)
    (fun n => by intro R dest sym _ hs; unfold compileExpr; exact W.symbol n _ hs)
    (fun _ _ _ => by intro R dest sym _ _; unfold compileExpr; exact throw _)
    (fun _ _ => by intro R dest sym _ _; unfold compileExpr; exact throw _)
    (fun _ => W.expr_not) (fun _ => W.expr_and) (fun _ => W.expr_or) (fun _ => W.expr_xor)
    (by intro R; unfold compileArgs; exact W.pure (by simp))
    (fun a as iha ihs => by
      intro R
      unfold compileArgs
      exact W.bind (iha nofun W.symNone) fun r => W.bind ihs fun rs => W.pure (by simp +contextual [or_comm]))
    (by intro R d hd; unfold compileXorArgs; exact W.pure (by simp [hd]))
    (fun _ _ => W.xor_cons)

end Walk

theorem stepWalk (B : String → Prop) :
    Walk Good (Step B) (fun s x => x < s.qc.numQubits) (fun sym => ∀ x, sym = some x → B x) where
  refl := Step.refl
  trans := Step.trans
  inv := Step.good
  mono := fun st h => st.lt h
  symNone := nofun
  xGate := fun hw _ _ _ h hg hr => ⟨xGate_ok h hg (hr _ hw), nofun⟩
  cx := fun ha hb _ _ _ h hg hr => ⟨cx_ok h hg (hr _ ha) (hr _ hb), nofun⟩
  mcx := fun hc ht _ _ _ h hg hr => ⟨mcx_ok h hg (fun c hc' => hr c (hc c hc')) (hr _ ht), nofun⟩
  event := fun _ _ _ _ h hg _ => ⟨event_ok h hg, nofun⟩
  markAncilla := fun _ _ _ _ h hg _ => ⟨markAncilla_ok h hg, nofun⟩
  expqSet := fun hq _ _ _ h hg hr => ⟨expqSet_ok h hg (hr _ hq), nofun⟩
  expqGet := fun _ _ _ _ h hg _ => by
    obtain ⟨rfl, hlt⟩ := expqGet?_ok h hg
    exact ⟨Step.refl hg, fun x hx => hlt x (by simpa using hx)⟩
  getFreeAncilla := fun h hg _ => (getFreeAncilla_ok h hg).imp id (fun h' x hx => List.mem_singleton.mp hx ▸ h')
  lookup := fun _ _ _ _ h hg _ => by
    obtain ⟨rfl, _, hlt⟩ := lookup_ok h hg
    exact ⟨Step.refl hg, fun x hx => List.mem_singleton.mp hx ▸ hlt⟩
  getQC := fun h hg _ => by
    obtain ⟨_, rfl⟩ := getQC_run h
    exact ⟨Step.refl hg, nofun⟩
  addConst := fun hn _ _ _ h hg _ => by
    obtain ⟨st, _, hlt, _, _⟩ := addQubit_ok h hg (Or.inr hn)
    exact ⟨st, fun x hx => List.mem_singleton.mp hx ▸ hlt⟩
  symbol := fun _ _ hs _ _ _ h hg _ => (compileSymbol_ok h hg hs).imp id (fun h' x hx => List.mem_singleton.mp hx ▸ h')

def ExprSpec (B : String → Prop) (e : BExp) : Prop :=
  ∀ (dest : Option Nat) (sym : Option String) {a : Nat} {s s' : CState},
    (compileExpr e dest sym).run s = .ok (a, s') → Good s →
    (∀ d, dest = some d → d < s.qc.numQubits) → (∀ x, sym = some x → B x) →
    Step B s s' ∧ a < s'.qc.numQubits

def ArgsSpec (B : String → Prop) (as : List BExp) : Prop :=
  ∀ {rs : List Nat} {s s' : CState}, (compileArgs as).run s = .ok (rs, s') → Good s →
    Step B s s' ∧ ∀ r ∈ rs, r < s'.qc.numQubits

def XorSpec (B : String → Prop) (as : List BExp) : Prop :=
  ∀ (d : Nat) {a : Nat} {s s' : CState}, (compileXorArgs as d).run s = .ok (a, s') → Good s →
    d < s.qc.numQubits → Step B s s' ∧ a < s'.qc.numQubits

theorem exprSpec {B : String → Prop} : ∀ e : BExp, ExprSpec B e := fun e dest sym a _ _ h hg hd hb =>
  ((stepWalk B).compile.1 e (R := dest.toList) (by simp) hb h hg (by simpa using hd)).imp id (fun h' => h' a (by simp))
theorem argsSpec {B : String → Prop} : ∀ as : List BExp, ArgsSpec B as := fun as _ _ _ h hg =>
  (stepWalk B).compile.2.1 as (R := []) h hg nofun
theorem xorSpec {B : String → Prop} : ∀ as : List BExp, XorSpec B as := fun as d a _ _ h hg hd =>
  ((stepWalk B).compile.2.2 as (R := [d]) (by simp) h hg (by simpa using hd)).imp id (fun h' => h' a (by simp))

theorem constFalse_ok {a : Nat} {s s' : CState}
    (h : constFalse.run s = .ok (a, s')) (hg : Good s) : Step B s s' ∧ a < s'.qc.numQubits :=
  ((stepWalk B).constFalse (R := []) h hg nofun).imp id (fun h' => h' a (by simp))

theorem constTrue_ok {a : Nat} {s s' : CState}
    (h : constTrue.run s = .ok (a, s')) (hg : Good s) : Step B s s' ∧ a < s'.qc.numQubits :=
  ((stepWalk B).constTrue (R := []) h hg nofun).imp id (fun h' => h' a (by simp))


theorem uncomputeLoop_run {marked : List Nat} :
    ∀ (gs : List AGate) (unc : List Nat) (keepRev : List AGate) {r : List Nat × List AGate} {s s' : CState},
    (uncomputeLoop marked gs unc keepRev).run s = .ok (r, s') →
    Replay (gs.filter (fun g => marked.contains g.target)) s s' ∧ s'.qc.free = s.qc.free ∧
      r.2 = keepRev ++ gs.filter (fun g => !marked.contains g.target) ∧
      (∀ x ∈ unc, x ∈ r.1) ∧ ∀ g ∈ gs, marked.contains g.target = true → g.target ∈ r.1
  | [], unc, keepRev, r, s, s', h => by
    unfold uncomputeLoop at h
    obtain ⟨rfl, rfl⟩ := run_pure_ok.mp h
    exact ⟨Replay.nil _, rfl, by simp, fun _ hx => hx, fun _ hg => nomatch hg⟩
  | g :: gs, unc, keepRev, r, s, s', h => by
    unfold uncomputeLoop at h
    dsimp only at h
    rw [List.filter_cons, List.filter_cons]
    rcases run_ite_ok.mp h with ⟨hc, h1⟩ | ⟨hc, h1⟩
    · rw [if_pos hc, hc]
      obtain ⟨t, cons, hft, _, h2⟩ := replayG_run h1
      obtain ⟨rp, hf, hk, hu, ht⟩ := uncomputeLoop_run gs _ _ h2
      refine ⟨cons rp, hf.trans hft, hk, fun x hx => hu x (mem_setIns_iff.mpr (Or.inl hx)), fun g' hg' hc' => ?_⟩
      rcases List.mem_cons.mp hg' with rfl | hg'
      · exact hu _ (mem_setIns_iff.mpr (Or.inr rfl))
      · exact ht g' hg' hc'
    · have hc' : marked.contains g.target = false := Bool.eq_false_iff.mpr hc
      rw [if_neg hc, hc']
      obtain ⟨rp, hf, hk, hu, ht⟩ := uncomputeLoop_run gs _ _ h1
      refine ⟨rp, hf, by rw [hk, List.append_assoc]; rfl, hu, fun g' hg' hc'' => ?_⟩
      rcases List.mem_cons.mp hg' with rfl | hg'
      · rw [hc'] at hc''; cases hc''
      · exact ht g' hg' hc''

theorem uncompute_run {r : List Nat} {s s' : CState} (h : uncompute.run s = .ok (r, s')) :
    ∃ t : CState, Replay (s.qc.gatesComputed.toList.reverse.filter (fun g => s.qc.marked.contains g.target)) s t ∧
      t.qc.free = s.qc.free ∧
      (∀ g ∈ s.qc.gatesComputed.toList, s.qc.marked.contains g.target = true → g.target ∈ r) ∧
      s' = { t with qc := { t.qc with
        free := s.qc.marked.foldl setIns t.qc.free,
        marked := s.qc.marked.filter (fun x => !r.contains x),
        gatesComputed := (s.qc.gatesComputed.toList.filter (fun g => !s.qc.marked.contains g.target)).toArray } } := by
  unfold uncompute at h
  obtain ⟨qc, s1, hq, h1⟩ := run_bind_ok.mp h
  obtain ⟨rfl, rfl⟩ := getQC_run hq
  rcases run_ite_ok.mp h1 with ⟨he, h1⟩ | ⟨_, h1⟩
  · obtain ⟨rfl, rfl⟩ := run_pure_ok.mp h1
    obtain ⟨⟨_, _, gc, _, _, _, mk, _, _, _, _, _⟩, _, _, _, _⟩ := s'
    cases (show mk = [] from List.isEmpty_iff.mp he)
    refine ⟨_, ?_, rfl, fun _ _ hc => by simp at hc, ?_⟩
    · rw [show ∀ l : List AGate, l.filter (fun g => ([] : List Nat).contains g.target) = [] from
        fun l => List.filter_eq_nil_iff.mpr (fun _ _ => by simp)]
      exact Replay.nil _
    · rw [show ∀ l : List AGate, l.filter (fun g => !([] : List Nat).contains g.target) = l from
        fun l => List.filter_eq_self.mpr (fun _ _ => rfl)]
      rfl
  · obtain ⟨x, s2, hloop, h2⟩ := run_bind_ok.mp h1
    obtain ⟨rp, hf, hk, _, ht⟩ := uncomputeLoop_run _ _ _ hloop
    obtain ⟨unc, keepRev⟩ := x
    dsimp only at h2 hk ht
    subst hk
    obtain ⟨u, s3, hm, h3⟩ := run_bind_ok.mp h2
    obtain ⟨rfl, rfl⟩ := run_pure_ok.mp h3
    refine ⟨s2, rp, hf, fun g hg' => ht g (List.mem_reverse.mpr hg'), ?_⟩
    rw [modQC_run hm, List.nil_append, List.filter_reverse, List.reverse_reverse]

theorem uncompute_ok {r : List Nat} {s s' : CState}
    (h : uncompute.run s = .ok (r, s')) (hg : Good s) : Step B s s' := by
  obtain ⟨t, rp, hf, _, rfl⟩ := uncompute_run h
  have st1 : Step B s t := rp.step hg
    (fun g hg' => hg.comp_ok g (List.mem_reverse.mp (List.mem_filter.mp hg').1)) (fun x hx => Or.inl (hf ▸ hx))
  refine st1.trans (Step.quiet st1.good rfl rfl rfl rfl st1.good.gates_ok ?_ st1.good.expq_lt ?_ ?_
    (fun _ h => .kept h))
  · exact fun g hg' => rp.nq ▸ hg.comp_ok g (List.mem_filter.mp hg').1
  · exact fun x hx => (mem_foldl_setIns hx).elim .free (fun h' => .marked (rp.marked ▸ h'))
  · exact fun x hx => .marked (rp.marked ▸ (List.mem_filter.mp hx).1)

theorem uncomputeAllLoop_run {keep alreadyFree : List Nat} {off : Nat} :
    ∀ (gs : List AGate) {u : Unit} {s s' : CState},
    (uncomputeAllLoop keep alreadyFree off gs).run s = .ok (u, s') →
    Replay (gs.filter (fun g => !(g.cls.isNop || keep.contains g.target || alreadyFree.contains g.target))) s s' ∧
      ∀ x ∈ s'.qc.free, x ∈ s.qc.free ∨ x ∈ s.qc.anc
  | [], u, s, s', h => by
    unfold uncomputeAllLoop at h
    obtain ⟨_, rfl⟩ := run_pure_ok.mp h
    exact ⟨Replay.nil _, fun x hx => Or.inl hx⟩
  | g :: gs, u, s, s', h => by
    unfold uncomputeAllLoop at h
    dsimp only at h
    obtain ⟨qc, s1, hq, h1⟩ := run_bind_ok.mp h
    obtain ⟨rfl, rfl⟩ := getQC_run hq
    rw [List.filter_cons]
    rcases run_ite_ok.mp h1 with ⟨hskip, h1⟩ | ⟨hskip, h1⟩
    · rw [if_neg (by rw [hskip]; simp)]
      exact uncomputeAllLoop_run gs h1
    · rw [if_pos (by simpa using hskip)]
      -- the target is recorded as free if it is an ancilla; then the gate is replayed
      obtain ⟨fr, hfr, h2⟩ : ∃ fr, (∀ x ∈ fr, x ∈ s1.qc.free ∨ x ∈ s1.qc.anc) ∧
          StateT.run (do
            let b ← appendG g.cls g.wires (some (g.gid + off, g.gid))
            if b = true then do
              event "staleReplay"
              uncomputeAllLoop keep alreadyFree off gs
            else uncomputeAllLoop keep alreadyFree off gs : M Unit)
              { s1 with qc := { s1.qc with free := fr } } = .ok (u, s') := by
        rcases run_ite_ok.mp h1 with ⟨hc, h1⟩ | ⟨_, h1⟩
        · obtain ⟨u1, s2, hm, h2⟩ := run_bind_ok.mp h1
          have := modQC_run hm; subst this
          exact ⟨_, fun x hx => (mem_setIns hx).imp id (fun e => by rw [e]; simpa using hc), h2⟩
        · exact ⟨s1.qc.free, fun x hx => Or.inl hx, h1⟩
      obtain ⟨t, cons, hft, hat, h3⟩ := replayG_run h2
      obtain ⟨rp, hf⟩ := uncomputeAllLoop_run gs h3
      exact ⟨Replay.pre (ev := s1.events) (fr := fr) rfl (cons rp),
        fun x hx => (hf x hx).elim (fun h' => hfr x (by rw [hft] at h'; exact h'))
          (fun h' => Or.inr (by rw [hat] at h'; exact h'))⟩

theorem uncomputeAll_run {keep : List Nat} {u : Unit} {s s' : CState}
    (h : (uncomputeAll keep).run s = .ok (u, s')) :
    ∃ t, Replay (s.qc.gates.toList.reverse.filter (fun g =>
        !(g.cls.isNop || keep.contains g.target || s.qc.free.contains g.target))) s t ∧
      (∀ x ∈ t.qc.free, x ∈ s.qc.free ∨ x ∈ s.qc.anc) ∧
      s' = { t with qc := { t.qc with nextGid := t.qc.nextGid + s.qc.nextGid } } := by
  unfold uncomputeAll at h
  obtain ⟨qc, s1, hq, h1⟩ := run_bind_ok.mp h
  obtain ⟨rfl, rfl⟩ := getQC_run hq
  obtain ⟨u1, s2, hloop, hm⟩ := run_bind_ok.mp h1
  obtain ⟨rp, hf⟩ := uncomputeAllLoop_run _ hloop
  exact ⟨s2, rp, hf, modQC_run hm⟩

theorem uncomputeAll_ok {keep : List Nat} {u : Unit} {s s' : CState}
    (h : (uncomputeAll keep).run s = .ok (u, s')) (hg : Good s) : Step B s s' := by
  obtain ⟨t, rp, hf, rfl⟩ := uncomputeAll_run h
  have st1 : Step B s t := rp.step hg
    (fun g hg' => hg.gates_ok g (List.mem_reverse.mp (List.mem_filter.mp hg').1)) hf
  exact st1.trans (Step.quiet st1.good rfl rfl rfl rfl st1.good.gates_ok st1.good.comp_ok st1.good.expq_lt
    (fun _ h => .free h) (fun _ h => .marked h) (fun _ h => .kept h))

theorem removeIdentitiesLoop_subset : ∀ (fuel : Nat) (gs res : List AGate) (g : AGate), gs.length < fuel →
    g ∈ removeIdentitiesLoop fuel gs res → g ∈ gs ∨ g ∈ res := by
  intro fuel gs res g hl h
  have := (removeIdentitiesLoop_ri fuel gs res hl).mem h
  simpa [or_comm] using this

theorem mem_removeIdentitiesList {gs : List AGate} {g : AGate} (h : g ∈ removeIdentitiesList gs) : g ∈ gs :=
  (removeIdentitiesLoop_subset _ gs [] g (Nat.lt_succ_self _) h).elim id (fun h' => nomatch h')

theorem removeIdentities_eff {u : Unit} {s s' : CState} (h : removeIdentities.run s = .ok (u, s')) :
    s' = { s with qc := { s.qc with gates := (removeIdentitiesList s.qc.gates.toList).toArray } } := by
  unfold removeIdentities at h
  obtain ⟨qc, s1, hq, h1⟩ := run_bind_ok.mp h
  obtain ⟨rfl, rfl⟩ := getQC_run hq
  exact modQC_run h1

theorem removeIdentities_ok {u : Unit} {s s' : CState}
    (h : removeIdentities.run s = .ok (u, s')) (hg : Good s) : Step B s s' := by
  rw [removeIdentities_eff h]
  exact Step.quiet hg rfl rfl rfl rfl (fun g hg' => hg.gates_ok g (mem_removeIdentitiesList (by simpa using hg')))
    hg.comp_ok hg.expq_lt (fun _ h => .free h) (fun _ h => .marked h) (fun _ h => .kept h)

theorem expqRemoveSymbol_ok {x : String} {u : Unit} {s s' : CState}
    (h : (expqRemoveSymbol x).run s = .ok (u, s')) (hg : Good s) : Step B s s' := by
  unfold expqRemoveSymbol at h
  have := run_modify_ok.mp h; subst this
  exact Step.with_expq hg fun p hp => hg.expq_lt p (List.mem_filter.mp hp).1

/-- the bookkeeping after the expression of a statement `x = e` was compiled into `iret` -/
def bindResultM (x : String) (iret : Nat) : M Unit := do
  expqRemoveSymbol x
  expqSet (.sym x) iret
  mapQubit x iret true

/-- the end of a statement: release the ancillas, or keep them for `uncompute_all` -/
def stmtEndM (inline : Bool) : M Unit := do
  if inline then
    let unc ← uncompute
    expqRemove unc
  else
    keepAncillas

theorem inlineUncompute_some (rets : List String) (r : String) :
    inlineUncompute (some rets) true r = rets.contains r := by
  simp [inlineUncompute]

theorem compileDefs_cons (rb : Option (List String)) (du : Bool) (x : String) (e : BExp)
    (rest : List (String × BExp)) :
    compileDefs rb du ((x, e) :: rest) = (do
      let iret ← compileExpr e none (some x)
      bindResultM x iret
      stmtEndM (inlineUncompute rb du x)
      compileDefs rb du rest) := by
  rw [compileDefs]
  unfold stmtEndM bindResultM
  cases inlineUncompute rb du x <;> simp only [bind_assoc, Bool.false_eq_true, if_false, if_true]

theorem bindResultM_ok {x : String} {iret : Nat} {u : Unit} {s s' : CState}
    (h : (bindResultM x iret).run s = .ok (u, s')) (hg : Good s) (hlt : iret < s.qc.numQubits) (hb : B x) :
    Step B s s' ∧ dictGet? s'.qc.qmap x = some iret := by
  obtain ⟨u0, s1, hrs, h1⟩ := run_bind_ok.mp h
  have st1 : Step B s s1 := expqRemoveSymbol_ok hrs hg
  obtain ⟨u1, s2, hset, h2⟩ := run_bind_ok.mp h1
  have st2 : Step B s1 s2 := expqSet_ok hset st1.good (st1.lt hlt)
  obtain ⟨st3, hkey⟩ := mapQubit_ok (B := B) h2 st2.good (st2.lt (st1.lt hlt)) hb (by intro hp; cases hp)
  exact ⟨(st1.trans st2).trans st3, hkey⟩

theorem bindResultM_frame {x : String} {iret : Nat} {u : Unit} {s s' : CState}
    (h : (bindResultM x iret).run s = .ok (u, s')) :
    ∃ ex qm an, s' = { s with expq := ex, qc := { s.qc with qmap := qm, anc := an } } := by
  obtain ⟨u0, s1, hrs, h1⟩ := run_bind_ok.mp h
  unfold expqRemoveSymbol at hrs
  have := run_modify_ok.mp hrs; subst this
  obtain ⟨u1, s2, hset, h2⟩ := run_bind_ok.mp h1
  obtain ⟨X, rfl, _⟩ := expqSet_eff hset
  exact ⟨X, _, _, mapQubit_eq h2⟩

theorem stmtEndM_ok {c : Bool} {u : Unit} {s s' : CState}
    (h : (stmtEndM c).run s = .ok (u, s')) (hg : Good s) : Step B s s' := by
  unfold stmtEndM at h
  rcases run_ite_ok.mp h with ⟨_, h⟩ | ⟨_, h⟩
  · obtain ⟨unc, s1, hunc, h1⟩ := run_bind_ok.mp h
    have st1 : Step B s s1 := uncompute_ok hunc hg
    exact st1.trans (expqRemove_ok h1 st1.good)
  · exact keepAncillas_ok h hg

theorem compileDefs_ok {retBits : Option (List String)} {doUnc : Bool} :
    ∀ (defs : List (String × BExp)) {u : Unit} {s s' : CState},
    (compileDefs retBits doUnc defs).run s = .ok (u, s') → Good s → (∀ p ∈ defs, B p.1) →
    Step B s s' ∧ ∀ p ∈ defs, scratchName p.1 = false → (dictGet? s'.qc.qmap p.1).isSome = true
  | [], u, s, s', h, hg, _ => by
    unfold compileDefs at h
    obtain ⟨_, rfl⟩ := run_pure_ok.mp h
    exact ⟨Step.refl hg, fun p hp => by cases hp⟩
  | (x, e) :: rest, u, s, s', h, hg, hb => by
    rw [compileDefs_cons] at h
    have hbx : B x := hb (x, e) List.mem_cons_self
    obtain ⟨iret, s1, he, h1⟩ := run_bind_ok.mp h
    obtain ⟨st1, hlt⟩ := exprSpec e none (some x) he hg (by intro d hd; cases hd)
      (by intro y hy; cases hy; exact hbx)
    obtain ⟨u1, s2, hbind, h2⟩ := run_bind_ok.mp h1
    obtain ⟨st2, hkey⟩ := bindResultM_ok (B := B) hbind st1.good hlt hbx
    obtain ⟨u2, s3, hend, h3⟩ := run_bind_ok.mp h2
    have st3 : Step B s2 s3 := stmtEndM_ok hend st2.good
    obtain ⟨st4, hrest⟩ := compileDefs_ok rest h3 st3.good (fun p hp => hb p (List.mem_cons_of_mem _ hp))
    refine ⟨((st1.trans st2).trans st3).trans st4, ?_⟩
    intro p hp hs
    rcases List.mem_cons.mp hp with rfl | hp
    · exact (st3.trans st4).keys_keep _ hs (by rw [hkey]; rfl)
    · exact hrest p hp hs

/-- `qubit_map` after `add_qubit` of the names `ns`, the first of them on qubit `k` -/
def argMap (d : List (String × Nat)) (k : Nat) : List String → List (String × Nat)
  | [] => d
  | n :: ns => argMap (dictSet d n k) (k + 1) ns

theorem addInputs_eff : ∀ (ns : List String) {u : Unit} {s s' : CState}, (addInputs ns).run s = .ok (u, s') →
    s' = { s with qc := { s.qc with qmap := argMap s.qc.qmap s.qc.numQubits ns,
                                    numQubits := s.qc.numQubits + ns.length } }
  | [], u, s, s', h => by
    unfold addInputs at h
    obtain ⟨_, rfl⟩ := run_pure_ok.mp h
    rfl
  | n :: ns, u, s, s', h => by
    unfold addInputs at h
    obtain ⟨u1, s1, hd, h1⟩ := run_bind_ok.mp h
    obtain ⟨i0, hadd⟩ := run_discard_ok.mp hd
    obtain ⟨_, rfl⟩ := addQubit_run hadd
    rw [addInputs_eff ns h1, List.length_cons, ← Nat.add_assoc, Nat.add_right_comm]
    rfl

theorem argMap_mem {p : String × Nat} : ∀ (ns : List String) {d : List (String × Nat)} {k : Nat},
    p ∈ argMap d k ns → p ∈ d ∨ ∃ j, ns[j]? = some p.1 ∧ p.2 = k + j
  | [], _, _, h => Or.inl h
  | n :: ns, d, k, h => by
    rcases argMap_mem ns h with h | ⟨j, hj, hp⟩
    · exact (mem_dictSet h).imp id (fun e => ⟨0, by rw [e]; rfl, by rw [e]; rfl⟩)
    · exact Or.inr ⟨j + 1, hj, by rw [hp]; omega⟩

theorem argMap_get {x : String} : ∀ (ns : List String) {d : List (String × Nat)} {k : Nat}, x ∉ ns →
    dictGet? (argMap d k ns) x = dictGet? d x
  | [], _, _, _ => rfl
  | n :: ns, d, k, h => by
    rw [argMap, argMap_get ns (fun hm => h (List.mem_cons_of_mem _ hm)),
      dictGet?_dictSet_ne (fun e => h (by rw [e]; exact List.mem_cons_self))]

theorem argMap_pos {x : String} : ∀ (ns : List String) {d : List (String × Nat)} {k i : Nat}, ns.Nodup →
    ns[i]? = some x → dictGet? (argMap d k ns) x = some (k + i)
  | n :: ns, d, k, 0, hnd, hi => by
    obtain rfl : n = x := by simpa using hi
    rw [argMap, argMap_get ns (List.nodup_cons.mp hnd).1, dictGet?_dictSet_self]; rfl
  | n :: ns, d, k, i + 1, hnd, hi => by
    rw [argMap, argMap_pos ns (List.nodup_cons.mp hnd).2 (by simpa using hi)]; congr 1; omega

theorem addInputs_step : ∀ (ns : List String) {u : Unit} {s s' : CState},
    (addInputs ns).run s = .ok (u, s') → Good s → Step (· ∈ ns) s s'
  | [], u, s, s', h, hg => by
    unfold addInputs at h
    obtain ⟨_, rfl⟩ := run_pure_ok.mp h
    exact Step.refl hg
  | n :: ns, u, s, s', h, hg => by
    unfold addInputs at h
    obtain ⟨u1, s1, hd, h1⟩ := run_bind_ok.mp h
    obtain ⟨i0, hadd⟩ := run_discard_ok.mp hd
    have st1 := (addQubit_ok (B := (· ∈ n :: ns)) hadd hg (Or.inl List.mem_cons_self)).1
    exact st1.trans ((addInputs_step ns h1 st1.good).mono fun x hx => List.mem_cons_of_mem _ hx)

theorem addInputs_ok : ∀ (ns : List String) {u : Unit} {s s' : CState},
    (addInputs ns).run s = .ok (u, s') → Good s →
    Step (· ∈ ns) s s' ∧ s'.qc.numQubits = s.qc.numQubits + ns.length ∧ s'.qc.anc = s.qc.anc ∧
      (ns.Nodup → (∀ n ∈ ns, reservedName n = false) →
        ∀ (i : Nat) (x : String), ns[i]? = some x → dictGet? s'.qc.qmap x = some (s.qc.numQubits + i)) :=
  fun ns _ _ _ h hg => ⟨addInputs_step ns h hg, by
    rw [addInputs_eff ns h]
    exact ⟨rfl, rfl, fun hnd _ i x hi => argMap_pos ns hnd hi⟩⟩

theorem addInputs_scratch (ns : List String) {u : Unit} {s s' : CState}
    (h : (addInputs ns).run s = .ok (u, s')) :
    s'.qc.anc = s.qc.anc ∧ s'.qc.free = s.qc.free ∧ s'.qc.marked = s.qc.marked ∧ s'.qc.kept = s.qc.kept := by
  rw [addInputs_eff ns h]
  exact ⟨rfl, rfl, rfl, rfl⟩

theorem good_init (cs : List Nat) (inputs : List String) :
    Good { choices := cs, inputs := inputs } :=
  ⟨by simp, by simp, by simp, by simp, by simp, by simp, by simp, by simp, by simp, by simp⟩

/-- the state in which the statement loop of `compile` starts (what `addInputs` leaves) -/
def entry (cs : List Nat) (inputs : List String) : CState :=
  { choices := cs, inputs := inputs, qc := { numQubits := inputs.length, qmap := argMap [] 0 inputs } }

theorem addInputs_init {inputs : List String} {cs : List Nat} {u : Unit} {s1 : CState}
    (h : (addInputs inputs).run { choices := cs, inputs := inputs } = .ok (u, s1)) : s1 = entry cs inputs := by
  rw [addInputs_eff inputs h, entry]
  show CState.mk (QC.mk (0 + inputs.length) _ _ _ _ _ _ _ _ _ _ _) _ _ _ _ = _
  rw [Nat.zero_add]

theorem entry_mem {cs : List Nat} {inputs : List String} {p : String × Nat} (h : p ∈ (entry cs inputs).qc.qmap) :
    inputs[p.2]? = some p.1 := by
  rcases argMap_mem inputs h with h | ⟨j, hj, hp⟩
  · cases h
  · rw [hp, Nat.zero_add]; exact hj

theorem entry_pos {cs : List Nat} {inputs : List String} (hnd : inputs.Nodup) {i : Nat} {x : String}
    (h : inputs[i]? = some x) : dictGet? (entry cs inputs).qc.qmap x = some i :=
  (argMap_pos inputs hnd h).trans (by rw [Nat.zero_add])

theorem good_entry (cs : List Nat) (inputs : List String) : Good (entry cs inputs) :=
  ⟨List.forall_mem_nil _, List.forall_mem_nil _, fun _ hp => (List.getElem?_eq_some_iff.mp (entry_mem hp)).1,
    List.forall_mem_nil _, List.forall_mem_nil _, List.forall_mem_nil _, List.forall_mem_nil _, List.nodup_nil,
    fun _ _ h => (List.not_mem_nil h).elim, List.forall_mem_nil _⟩

theorem entry_ge (n : Nat) (cs : List Nat) (inputs : List String) : ScratchGe n (entry cs inputs) :=
  ⟨List.forall_mem_nil _, List.forall_mem_nil _, List.forall_mem_nil _, List.forall_mem_nil _⟩

/-- the end of `compile`: with final uncomputation, `uncompute_all` keeping the qubits of the requested return names -/
def finalUncomputeM (ret : Option (List String)) (unc : Bool) : M Unit :=
  match ret with
  | some rb =>
    if unc then do
      let qc ← getQC
      uncomputeAll (rb.filterMap (dictGet? qc.qmap))
    else pure ()
  | none => pure ()

theorem finalUncomputeM_ok {ret : Option (List String)} {unc : Bool} {u : Unit} {s s' : CState}
    (h : (finalUncomputeM ret unc).run s = .ok (u, s')) (hg : Good s) : Step B s s' := by
  cases ret with
  | none => obtain ⟨_, rfl⟩ := run_pure_ok.mp h; exact Step.refl hg
  | some rb =>
    rcases run_ite_ok.mp h with ⟨_, h⟩ | ⟨_, h⟩
    · obtain ⟨qc, s4, hq, h5⟩ := run_bind_ok.mp h
      obtain ⟨rfl, rfl⟩ := getQC_run hq
      exact uncomputeAll_ok h5 hg
    · obtain ⟨_, rfl⟩ := run_pure_ok.mp h; exact Step.refl hg

theorem compile_cut {inputs : List String} {defs : List (String × BExp)} {ret : Option (List String)}
    {unc : Bool} {cs : List Nat} {s : CState}
    (h : (compile inputs defs ret unc).run { choices := cs } = .ok ((), s)) :
    ∃ s2 s3, (compileDefs ret unc defs).run (entry cs inputs) = .ok ((), s2) ∧
      removeIdentities.run s2 = .ok ((), s3) ∧ (finalUncomputeM ret unc).run s3 = .ok ((), s) ∧
      Step (· ∈ defs.map (·.1)) (entry cs inputs) s2 ∧ Step (· ∈ defs.map (·.1)) s2 s ∧
      ∀ p ∈ defs, scratchName p.1 = false → (dictGet? s2.qc.qmap p.1).isSome = true := by
  unfold compile at h
  obtain ⟨u0, s0, hmod, h1⟩ := run_bind_ok.mp h
  have := run_modify_ok.mp hmod; subst this
  obtain ⟨u1, s1, hin, h2⟩ := run_bind_ok.mp h1
  cases addInputs_init hin
  obtain ⟨u2, s2, hdefs, h3⟩ := run_bind_ok.mp h2
  obtain ⟨u3, s3, hrem, h4⟩ := run_bind_ok.mp h3
  obtain ⟨st2, hkeys⟩ := compileDefs_ok (B := (· ∈ defs.map (·.1))) defs hdefs (good_entry cs inputs)
    (fun p hp => List.mem_map.mpr ⟨p, hp, rfl⟩)
  have st3 : Step (· ∈ defs.map (·.1)) s2 s3 := removeIdentities_ok hrem st2.good
  exact ⟨s2, s3, hdefs, hrem, h4, st2, st3.trans (finalUncomputeM_ok h4 st3.good), hkeys⟩

theorem compile_step {inputs : List String} {defs : List (String × BExp)} {ret : Option (List String)}
    {unc : Bool} {cs : List Nat} {s : CState}
    (h : (compile inputs defs ret unc).run { choices := cs } = .ok ((), s)) :
    Step (· ∈ defs.map (·.1)) (entry cs inputs) s ∧
      ∀ p ∈ defs, scratchName p.1 = false → (dictGet? s.qc.qmap p.1).isSome = true := by
  obtain ⟨s2, s3, _, _, _, st2, st4, hkeys⟩ := compile_cut h
  exact ⟨st2.trans st4, fun p hp hs => st4.keys_keep _ hs (hkeys p hp hs)⟩

theorem compile_ok {inputs : List String} {defs : List (String × BExp)} {ret : Option (List String)}
    {unc : Bool} {cs : List Nat} {s : CState}
    (h : (compile inputs defs ret unc).run { choices := cs } = .ok ((), s)) :
    Good s ∧ inputs.length ≤ s.qc.numQubits ∧
    (∀ p ∈ defs, scratchName p.1 = false → (dictGet? s.qc.qmap p.1).isSome = true) ∧
    (inputs.Nodup → (∀ n ∈ inputs, reservedName n = false ∧ n ∉ defs.map (·.1)) →
      ∀ (i : Nat) (x : String), inputs[i]? = some x → dictGet? s.qc.qmap x = some i) ∧
    ScratchGe inputs.length s := by
  obtain ⟨st, hkeys⟩ := compile_step h
  refine ⟨st.good, st.nq_le, hkeys, fun hnd hres i x hi => ?_,
    st.ge_keep _ (Nat.le_refl _) (entry_ge _ _ _)⟩
  have hx := hres x (List.mem_of_getElem? hi)
  rw [st.qmap_keep _ hx.2 hx.1]
  exact entry_pos hnd hi

end QV.Compiler
