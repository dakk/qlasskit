import QV.Proofs.A2ARewriter
import QV.Proofs.Assoc
namespace QV.A2A
open QV.Sem

theorem binName_ne_pow {op : String} (h : (binName op).isSome = true) : (op == "Pow") = false := by
  cases hp : op == "Pow"
  · rfl
  · have : op = "Pow" := by simpa using hp
    subst this
    simp [binName] at h

/-- induction over the plain expressions: the cases of `plainE` are gone through once (instances: `visit_plain`,
`mentions_plain_all`, `subst1_plain_all`, `subst1_sem_all`) -/
theorem plain_induct {P : SExp → Prop} {Ps : List SExp → Prop}
    (name : ∀ n, userName n = true → P (.name n))
    (cbool : ∀ b, P (.const (.bool b))) (cint : ∀ v, P (.const (.int v)))
    (boolop : ∀ a vs, Ps vs → P (.boolop a vs))
    (unop : ∀ op e, op = "Not" ∨ op = "Invert" → P e → P (.unop op e))
    (ite : ∀ c t e, P c → P t → P e → P (.ite c t e))
    (cmp : ∀ op l r, P l → P r → P (.cmp op l r))
    (bin : ∀ op o l r, binName op = some o → ((op == "LShift" || op == "RShift") = true → isIntLit r = true) →
      P l → P r → P (.bin op l r))
    (nil : Ps []) (cons : ∀ e es, P e → Ps es → Ps (e :: es)) :
    (∀ e, plainE e = true → P e) ∧ (∀ es, plainEs es = true → Ps es) :=
  ⟨goE, goEs⟩
where
  goE : ∀ e : SExp, plainE e = true → P e
    | .name n, h => name n (by simpa [plainE] using h)
    | .const (.bool b), _ => cbool b
    | .const (.int v), _ => cint v
    | .const (.str _), h => by simp [plainE] at h
    | .const (.other _), h => by simp [plainE] at h
    | .boolop a vs, h => by
      simp only [plainE] at h
      exact boolop a vs (goEs vs h)
    | .unop op e, h => by
      simp only [plainE, Bool.and_eq_true, Bool.or_eq_true, beq_iff_eq] at h
      exact unop op e h.1 (goE e h.2)
    | .ite c t e, h => by
      simp only [plainE, Bool.and_eq_true] at h
      exact ite c t e (goE c h.1.1) (goE t h.1.2) (goE e h.2)
    | .cmp op l r, h => by
      simp only [plainE, Bool.and_eq_true] at h
      exact cmp op l r (goE l h.1) (goE r h.2)
    | .bin op l r, h => by
      simp only [plainE, Bool.and_eq_true] at h
      obtain ⟨o, ho⟩ := Option.isSome_iff_exists.mp h.1.1.1
      exact bin op o l r ho (fun hs => by simpa [hs] using h.2) (goE l h.1.1.2) (goE r h.1.2)
    | .sub _ _, h => by simp [plainE] at h
    | .tuple _, h => by simp [plainE] at h
    | .list _, h => by simp [plainE] at h
    | .call _ _, h => by simp [plainE] at h
    | .other _, h => by simp [plainE] at h
  goEs : ∀ es : List SExp, plainEs es = true → Ps es
    | [], _ => nil
    | e :: es, h => by
      simp only [plainEs, Bool.and_eq_true] at h
      exact cons e es (goE e h.1) (goEs es h.2)

theorem visit_plain (st : RSt) :
    (∀ e, plainE e = true → visitE st e = .ok e) ∧ (∀ es, plainEs es = true → visitEs st es = .ok es) :=
  plain_induct
    (fun n h => by simp only [visitE, userName_not_dunder h, Bool.false_eq_true, if_false]; rfl)
    (fun _ => rfl) (fun _ => rfl)
    (fun a vs ih => by simp only [visitE, ih]; rfl)
    (fun op e _ ih => by simp only [visitE, ih]; rfl)
    (fun c t e ihc iht ihe => by simp only [visitE, ihc, iht, ihe]; rfl)
    (fun op l r ihl ihr => by simp only [visitE, ihl, ihr]; rfl)
    (fun op o l r ho _ ihl ihr => by
      simp only [visitE, binName_ne_pow (by rw [ho]; rfl), Bool.false_eq_true, if_false, ihl, ihr]; rfl)
    rfl (fun e es ihe ihes => by simp only [visitEs, ihe, ihes]; rfl)

theorem visitE_plain (st : RSt) : ∀ e : SExp, plainE e = true → visitE st e = .ok e := (visit_plain st).1

theorem visitEs_plain (st : RSt) : ∀ es : List SExp, plainEs es = true → visitEs st es = .ok es := (visit_plain st).2

theorem mentions_plain_all (n : String) :
    (∀ e, plainE e = true → mentions n (toP e) = true → userName n = true) ∧
    (∀ es, plainEs es = true → mentionsList n (toPs es) = true → userName n = true) :=
  plain_induct
    (fun m h hm => by
      simp only [toP, mentions, beq_iff_eq] at hm
      subst hm; exact h)
    (fun _ hm => by simp [toP, mentions] at hm) (fun _ hm => by simp [toP, mentions] at hm)
    (fun a vs ih hm => ih (by simpa only [toP, mentions] using hm))
    (fun op e hop ih hm => by
      rcases hop with rfl | rfl <;> exact ih (by simpa [toP, mentions] using hm))
    (fun c t e ihc iht ihe hm => by
      simp only [toP, mentions, Bool.or_eq_true] at hm
      rcases hm with (hm | hm) | hm
      · exact ihc hm
      · exact iht hm
      · exact ihe hm)
    (fun op l r ihl ihr hm => by
      simp only [toP, mentions, Bool.or_eq_true] at hm
      exact hm.elim ihl ihr)
    (fun op o l r ho _ ihl ihr hm => by
      simp only [toP, ho, mentions, Bool.or_eq_true] at hm
      exact hm.elim ihl ihr)
    (fun hm => by simp [toPs, mentionsList] at hm)
    (fun e es ihe ihes hm => by
      simp only [toPs, mentionsList, Bool.or_eq_true] at hm
      exact hm.elim ihe ihes)

theorem mentions_plain (n : String) : ∀ e : SExp, plainE e = true → mentions n (toP e) = true → userName n = true :=
  (mentions_plain_all n).1

theorem mentions_plains (n : String) :
    ∀ es : List SExp, plainEs es = true → mentionsList n (toPs es) = true → userName n = true :=
  (mentions_plain_all n).2

/-- the loop variables replaced so far hold, in the source environment, the constants they are replaced by -/
def ThetaOK (θ : Subst) (σ : SEnv) : Prop :=
  ∀ p ∈ θ, userName p.1 = true ∧ isIB p.2 = true ∧ σ p.1 = semW σ (toP p.2)

theorem isIB_plain {c : SExp} (h : isIB c = true) : plainE c = true := by
  cases c with
  | const k => cases k <;> simp [isIB, plainE] at h ⊢
  | _ => simp [isIB] at h

theorem isIB_of_isIntLit {e : SExp} (h : isIntLit e = true) : isIB e = true := by
  cases e with
  | const k => cases k <;> simp [isIntLit] at h; rfl
  | _ => simp [isIntLit] at h

theorem subst1_isIB (v : String) (c : SExp) (e : SExp) (h : isIB e = true) : subst1 v c e = e := by
  cases e with
  | const k => rfl
  | _ => simp [isIB] at h

theorem subst1_isIntLit (v : String) (c : SExp) (e : SExp) (h : isIntLit e = true) : subst1 v c e = e :=
  subst1_isIB v c e (isIB_of_isIntLit h)

theorem semW_toP_IB (σ σ' : SEnv) {c : SExp} (h : isIB c = true) : semW σ (toP c) = semW σ' (toP c) := by
  cases c with
  | const k => cases k <;> simp [isIB, toP, semW] at h ⊢
  | _ => simp [isIB] at h

theorem subst1_plain_all (v : String) (c : SExp) (hc : isIB c = true) :
    (∀ e, plainE e = true → plainE (subst1 v c e) = true) ∧
    (∀ es, plainEs es = true → plainEs (subst1s v c es) = true) :=
  plain_induct
    (fun n h => by
      simp only [subst1]
      split
      · exact isIB_plain hc
      · simpa [plainE] using h)
    (fun _ => rfl) (fun _ => rfl)
    (fun a vs ih => by simpa only [subst1, plainE] using ih)
    (fun op e hop ih => by
      simp only [subst1, plainE, Bool.and_eq_true, Bool.or_eq_true, beq_iff_eq]
      exact ⟨hop, ih⟩)
    (fun c t e ihc iht ihe => by
      simp only [subst1, plainE, Bool.and_eq_true]
      exact ⟨⟨ihc, iht⟩, ihe⟩)
    (fun op l r ihl ihr => by
      simp only [subst1, plainE, Bool.and_eq_true]
      exact ⟨ihl, ihr⟩)
    (fun op o l r ho hs ihl ihr => by
      simp only [subst1, plainE, Bool.and_eq_true, ho, Option.isSome_some, true_and]
      refine ⟨⟨ihl, ihr⟩, ?_⟩
      split
      · rename_i h
        rw [subst1_isIntLit v c r (hs h)]; exact hs h
      · rfl)
    rfl
    (fun e es ihe ihes => by
      simp only [subst1s, plainEs, Bool.and_eq_true]
      exact ⟨ihe, ihes⟩)

theorem subst1_plain (v : String) (c : SExp) (hc : isIB c = true) :
    ∀ e : SExp, plainE e = true → plainE (subst1 v c e) = true := (subst1_plain_all v c hc).1

theorem subst1s_plain (v : String) (c : SExp) (hc : isIB c = true) :
    ∀ es : List SExp, plainEs es = true → plainEs (subst1s v c es) = true := (subst1_plain_all v c hc).2

theorem binName_shift {op o : String} (h : binName op = some o) :
    (o == "lshift" || o == "rshift") = (op == "LShift" || op == "RShift") := by
  unfold binName at h
  split at h <;> simp at h <;> subst h <;> decide

theorem subst1_sem_all (σ : SEnv) (v : String) (c : SExp) (hσ : σ v = semW σ (toP c)) :
    (∀ e, plainE e = true → semW σ (toP (subst1 v c e)) = semW σ (toP e)) ∧
    (∀ es, plainEs es = true → semWList σ (toPs (subst1s v c es)) = semWList σ (toPs es)) :=
  plain_induct
    (fun n _ => by
      simp only [subst1]
      split
      · rename_i hn
        obtain rfl : n = v := by simpa using hn
        simp only [toP, semW]
        exact hσ.symm
      · rfl)
    (fun _ => rfl) (fun _ => rfl)
    (fun a vs ih => by simp only [subst1, toP, semW, ih])
    (fun op e hop ih => by
      rcases hop with rfl | rfl
      · simp only [subst1, toP, beq_self_eq_true, if_true, semW, ih]
      · simp only [subst1, toP, show ("Invert" == "Not") = false by decide, Bool.false_eq_true, if_false,
          beq_self_eq_true, if_true, semW, ih])
    (fun a b d iha ihb ihd => by simp only [subst1, toP, semW, iha, ihb, ihd])
    (fun op l r ihl ihr => by simp only [subst1, toP, semW, ihl, ihr])
    (fun op o l r ho hs ihl ihr => by
      -- a shift amount is a literal, which the replacement leaves alone: `semW` reads it from the syntax
      by_cases h : (op == "LShift" || op == "RShift") = true
      · simp only [subst1, toP, ho, subst1_isIntLit v c r (hs h), semW, ihl]
      · have hs' := binName_shift ho
        rw [Bool.not_eq_true _ |>.mp h] at hs'
        simp only [subst1, toP, ho, semW, ihl, ihr, hs', Bool.false_eq_true, if_false])
    rfl
    (fun e es ihe ihes => by simp only [subst1s, toPs, semWList, ihe, ihes])

theorem subst1_sem (σ : SEnv) (v : String) (c : SExp) (hσ : σ v = semW σ (toP c)) :
    ∀ e : SExp, plainE e = true → semW σ (toP (subst1 v c e)) = semW σ (toP e) := (subst1_sem_all σ v c hσ).1

set_option linter.unusedVariables false in -- `hc` plays no part: only the value `c` has matters
theorem subst1s_sem (σ : SEnv) (v : String) (c : SExp) (hc : isIB c = true) (hσ : σ v = semW σ (toP c)) :
    ∀ es : List SExp, plainEs es = true → semWList σ (toPs (subst1s v c es)) = semWList σ (toPs es) :=
  (subst1_sem_all σ v c hσ).2

theorem substE_cons (p : String × SExp) (θ : Subst) (e : SExp) : substE (p :: θ) e = substE θ (subst1 p.1 p.2 e) := rfl

-- the form `sim_stmt` uses; `substE_plain` states it under `ThetaOK` and is kept, not used
theorem substE_plain' : ∀ (θ : Subst), (∀ p ∈ θ, isIB p.2 = true) → ∀ e, plainE e = true → plainE (substE θ e) = true
  | [], _, _, h => h
  | p :: θ, hib, e, h => by
    rw [substE_cons]
    exact substE_plain' θ (fun q hq => hib q (List.mem_cons_of_mem _ hq)) _
      (subst1_plain p.1 p.2 (hib p (List.mem_cons_self)) e h)

theorem substE_plain : ∀ (θ : Subst) (σ : SEnv), ThetaOK θ σ → ∀ e, plainE e = true → plainE (substE θ e) = true :=
  fun θ _ hθ => substE_plain' θ (fun p hp => (hθ p hp).2.1)

theorem substE_sem : ∀ (θ : Subst) (σ : SEnv), ThetaOK θ σ → ∀ e, plainE e = true →
    semW σ (toP (substE θ e)) = semW σ (toP e)
  | [], _, _, _, _ => rfl
  | p :: θ, σ, hθ, e, h => by
    have hp := hθ p (List.mem_cons_self)
    rw [substE_cons, substE_sem θ σ (fun q hq => hθ q (List.mem_cons_of_mem _ hq)) _
      (subst1_plain p.1 p.2 hp.2.1 e h)]
    exact subst1_sem σ p.1 p.2 hp.2.2 e h

theorem substE_name : ∀ (θ : Subst), (∀ p ∈ θ, isIB p.2 = true) → ∀ t : String,
    (substE θ (.name t) = .name t ∧ ∀ p ∈ θ, p.1 ≠ t) ∨ ∃ k, substE θ (.name t) = .const k
  | [], _, t => Or.inl ⟨rfl, fun p hp => by simp at hp⟩
  | p :: θ, h, t => by
    rw [substE_cons]
    by_cases hn : t = p.1
    · right
      have hc := h p (List.mem_cons_self)
      simp only [subst1, hn, beq_self_eq_true, if_true]
      cases hp2 : p.2 with
      | const k =>
        refine ⟨k, ?_⟩
        clear hc hn
        induction θ with
        | nil => rfl
        | cons q θ ih => rw [substE_cons]; simp only [subst1]; exact ih (fun r hr => by
            simp only [List.mem_cons] at hr
            rcases hr with rfl | hr
            · exact h _ (List.mem_cons_self)
            · exact h r (List.mem_cons_of_mem _ (List.mem_cons_of_mem _ hr)))
      | _ => rw [hp2] at hc; simp [isIB] at hc
    · have : subst1 p.1 p.2 (.name t) = .name t := by
        simp only [subst1]
        have : (t == p.1) = false := by simpa using hn
        simp [this]
      rw [this]
      rcases substE_name θ (fun q hq => h q (List.mem_cons_of_mem _ hq)) t with ⟨h1, h2⟩ | h1
      · left
        refine ⟨h1, fun q hq => ?_⟩
        simp only [List.mem_cons] at hq
        rcases hq with rfl | hq
        · exact fun hh => hn hh.symm
        · exact h2 q hq
      · exact Or.inr h1

theorem ThetaOK.set {θ : Subst} {σ : SEnv} (h : ThetaOK θ σ) (t : String) (x : SVal) (ht : ∀ p ∈ θ, p.1 ≠ t) :
    ThetaOK θ (σ.set t x) := by
  intro p hp
  obtain ⟨h1, h2, h3⟩ := h p hp
  refine ⟨h1, h2, ?_⟩
  rw [← semW_toP_IB σ _ h2, ← h3]
  exact set_ne _ _ _ _ (ht p hp)

theorem lookup_insert (l : List (String × EVal)) (n m : String) (v : EVal) :
    (lookup (insert l n v) m).isSome = true → m = n ∨ (lookup l m).isSome = true := by
  intro hs
  by_cases h : m = n
  · exact Or.inl h
  · right
    rwa [show lookup (insert l n v) m = Assoc.get? ((n, v) :: l.filter (·.1 != n)) m from rfl,
      Assoc.get?_cons, if_neg (Ne.symm h), Assoc.get?_filter_ne l h] at hs

theorem ext_of_insert {t : String} {s s' : RSt} (ht : isDunder t = false) (hu : s'.uniq = s.uniq)
    (hty : s'.types = s.types ∨ ∃ v, s'.types = insert s.types t v)
    (hc : s'.consts = s.consts ∨ ∃ v, s'.consts = insert s.consts t v) : Ext s s' := by
  refine ⟨Nat.le_of_eq hu.symm, fun hk n hn => ?_⟩
  have hn' : n = t ∨ s.known n = true := by
    simp only [RSt.known, Bool.or_eq_true] at hn ⊢
    rcases hn with hn | hn
    · rcases hty with hty | ⟨v, hty⟩ <;> rw [hty] at hn
      · exact Or.inr (Or.inl hn)
      · exact (lookup_insert _ _ _ _ hn).imp id Or.inl
    · rcases hc with hc | ⟨v, hc⟩ <;> rw [hc] at hn
      · exact Or.inr (Or.inr hn)
      · exact (lookup_insert _ _ _ _ hn).imp id Or.inr
  rcases hn' with rfl | hn'
  · exact ht
  · exact hk n hn'

theorem setType_ext {t : String} (ht : isDunder t = false) {v : EVal} {s s1 : RSt} {u : Unit}
    (h : (setType t v).run s = .ok (u, s1)) : Ext s s1 := by
  unfold setType at h
  rw [SE.run_modify_ok] at h
  subst h
  exact ext_of_insert ht rfl (Or.inr ⟨v, rfl⟩) (Or.inl rfl)

theorem setConstant_ext {t : String} (ht : isDunder t = false) {v : EVal} {s s1 : RSt} {u : Unit}
    (h : (setConstant t v).run s = .ok (u, s1)) : Ext s s1 := by
  unfold setConstant at h
  rw [SE.run_modify_ok] at h
  subst h
  refine ext_of_insert ht rfl ?_ (Or.inr ⟨v, rfl⟩)
  dsimp only
  split
  · exact Or.inl rfl
  · exact Or.inr ⟨v, rfl⟩

theorem copyType_ext {m t : String} (ht : isDunder t = false) {s s1 : RSt} {u : Unit}
    (h : (copyType m t).run s = .ok (u, s1)) : Ext s s1 := by
  unfold copyType at h
  rw [SE.run_modify_ok] at h
  subst h
  split
  · exact ext_of_insert ht rfl (Or.inr ⟨_, rfl⟩) (Or.inl rfl)
  · exact Ext.refl _

theorem setConstantNode_ext {t : String} (ht : isDunder t = false) {e : SExp} {s s1 : RSt} {u : Unit}
    (h : (setConstantNode t e).run s = .ok (u, s1)) : Ext s s1 := by
  unfold setConstantNode at h
  split at h <;> exact setConstant_ext ht h

theorem envUpdate_ext {t : String} (ht : isDunder t = false) {v : SExp} {s s1 : RSt} {u : Unit}
    (h : (envUpdate t v).run s = .ok (u, s1)) : Ext s s1 := by
  unfold envUpdate at h
  split at h
  · exact setConstant_ext ht h
  · simp only [SE.run_bind_ok, SE.run_get_ok] at h
    obtain ⟨_, _, ⟨rfl, rfl⟩, h⟩ := h
    split at h
    · exact copyType_ext ht h
    · exact setType_ext ht h
  · simp only [SE.run_bind_ok, rm_visitM_ok] at h
    obtain ⟨_, _, ⟨_, rfl⟩, h⟩ := h
    exact setConstantNode_ext ht h
  · simp only [SE.run_bind_ok, rm_visitM_ok] at h
    obtain ⟨_, _, ⟨_, rfl⟩, h⟩ := h
    exact setConstantNode_ext ht h
  · exact setType_ext ht h

/-- what `visit_Assign` and `visit_AugAssign` leave of `t = e`: the assignment itself, or the pair through the temporary
`__t` -/
def AssignForms (t : String) (e : SExp) (L : List SStmt) : Prop :=
  L = [.assign [.name t] e] ∨ L = [.assign [.name ("__" ++ t)] e, .assign [.name t] (.name ("__" ++ t))]

def IsAssign (s : SStmt) : Prop := ∃ t v, s = .assign [.name t] v

theorem AssignForms.isAssign {t : String} {e : SExp} {L : List SStmt} (hL : AssignForms t e L) :
    ∀ x ∈ L, IsAssign x := by
  rcases hL with rfl | rfl <;> intro x hx <;> simp only [List.mem_cons, List.not_mem_nil, or_false] at hx
  · exact ⟨_, _, hx⟩
  · rcases hx with rfl | rfl <;> exact ⟨_, _, rfl⟩

theorem visitAssign_inv (t : String) (v : SExp) (ht : userName t = true) (hv : plainE v = true)
    (st st' : RSt) (L : List SStmt) (h : (visitAssign [.name t] v).run st = .ok (L, st')) :
    Ext st st' ∧ AssignForms t v L := by
  unfold visitAssign at h
  simp only [SE.run_bind_ok, SE.run_pure_ok, SE.run_get_ok] at h
  obtain ⟨_, _, ⟨rfl, rfl⟩, _, _, ⟨rfl, rfl⟩, _, s1, h1, h2⟩ := h
  have he := envUpdate_ext (userName_not_dunder ht) h1
  rw [SE.run_ite_ok] at h2
  rcases h2 with ⟨_, h2⟩ | ⟨_, h2⟩
  · simp only [SE.run_bind_ok, rm_visitM_ok, SE.run_pure_ok, visitE_plain _ v hv, Except.ok.injEq] at h2
    obtain ⟨_, s2, hn, _, _, ⟨rfl, rfl⟩, rfl, rfl⟩ := h2
    exact ⟨he.trans (note_core _ _ _ _ hn).ext, Or.inr rfl⟩
  · simp only [SE.run_bind_ok, rm_visitM_ok, SE.run_pure_ok, visitE_plain _ v hv, Except.ok.injEq] at h2
    obtain ⟨_, _, ⟨rfl, rfl⟩, rfl, rfl⟩ := h2
    exact ⟨he, Or.inl rfl⟩

theorem visitAug_inv (t op : String) (v : SExp) (hp : plainE (.bin op (.name t) v) = true) (st st' : RSt) (L : List SStmt)
    (h : (visitAug (.name t) op v).run st = .ok (L, st')) :
    Ext st st' ∧ AssignForms t (.bin op (.name t) v) L := by
  unfold visitAug at h
  simp only [SE.run_bind_ok, SE.run_pure_ok, rm_visitM_ok, visitE_plain _ _ hp, Except.ok.injEq] at h
  obtain ⟨_, _, ⟨rfl, rfl⟩, _, s1, hn, _, _, ⟨rfl, rfl⟩, rfl, rfl⟩ := h
  exact ⟨(note_core _ _ _ _ hn).ext, Or.inr rfl⟩

theorem nextUniq_inv (st st' : RSt) (h : String) (hr : nextUniq.run st = .ok (h, st')) :
    h = hexDigits st'.uniq ∧ st.uniq < st'.uniq ∧ Ext st st' := by
  unfold nextUniq at hr
  simp only [SE.run_bind_ok, SE.run_get_ok, SE.run_set_ok, SE.run_pure_ok] at hr
  obtain ⟨_, _, ⟨rfl, rfl⟩, _, _, rfl, rfl, rfl⟩ := hr
  exact ⟨rfl, Nat.lt_succ_self _, Nat.le_succ _, id⟩

def sBody (g : String) : SStmt → SStmt
  | .assign [.name t] v => .assign [.name t] (.ite (.name g) v (.name (oldOf t)))
  | s => s

def sElse (g : String) : SStmt → SStmt
  | .assign [.name t] v =>
    if isDunder t then .assign [.name t] (.ite (.name g) (.name (dropDunder t)) v)
    else if isIfTarg t then .assign [.name t] v
    else .assign [.name t] (.ite (.name g) (.name t) v)
  | s => s

theorem known_false_of_dunder {known : String → Bool} (hk : ∀ n, known n = true → isDunder n = false) {t : String}
    (hd : isDunder t = true) : known t = false := by
  cases hkt : known t
  · rfl
  · rw [hk t hkt] at hd; cases hd

theorem guardBody_ok (known : String → Bool) (hk : ∀ n, known n = true → isDunder n = false) (g : String) :
    ∀ L : List SStmt, (∀ s ∈ L, IsAssign s) → guardBody known g L = .ok (L.map (sBody g))
  | [], _ => by simp [guardBody, pure, Except.pure]
  | s :: L, h => by
    obtain ⟨t, v, rfl⟩ := h s (List.mem_cons_self)
    have ih := guardBody_ok known hk g L (fun x hx => h x (List.mem_cons_of_mem _ hx))
    have hold : (if isDunder t = true ∧ known t = false then dropDunder t else t) = oldOf t := by
      unfold oldOf
      by_cases hd : isDunder t = true
      · simp [hd, known_false_of_dunder hk hd]
      · simp [hd]
    simp [guardBody, ih, bind, Except.bind, pure, Except.pure, sBody, hold]

theorem guardElse_ok (known : String → Bool) (hk : ∀ n, known n = true → isDunder n = false) (g : String) :
    ∀ L : List SStmt, (∀ s ∈ L, IsAssign s) → guardElse known g L = .ok (L.map (sElse g))
  | [], _ => by simp [guardElse, pure, Except.pure]
  | s :: L, h => by
    obtain ⟨t, v, rfl⟩ := h s (List.mem_cons_self)
    have ih := guardElse_ok known hk g L (fun x hx => h x (List.mem_cons_of_mem _ hx))
    by_cases hd : isDunder t = true
    · simp [guardElse, ih, bind, Except.bind, pure, Except.pure, sElse, hd, known_false_of_dunder hk hd]
    · by_cases hi : isIfTarg t = true
      · simp [guardElse, ih, bind, Except.bind, pure, Except.pure, sElse, hd, hi]
      · simp [guardElse, ih, bind, Except.bind, pure, Except.pure, sElse, hd, hi]

theorem toStmt_sBody (g : String) (s : SStmt) (h : IsAssign s) : toStmt (sBody g s) = fBody g (toStmt s) := by
  obtain ⟨t, v, rfl⟩ := h
  simp [sBody, toStmt, fBody, toP]

theorem toStmt_sElse (g : String) (s : SStmt) (h : IsAssign s) : toStmt (sElse g s) = fElse g (toStmt s) := by
  obtain ⟨t, v, rfl⟩ := h
  simp only [sElse, toStmt, fElse]
  by_cases hd : isDunder t = true
  · simp [hd, toP]
  · by_cases hi : isIfTarg t = true
    · simp [hd, hi]
    · simp [hd, hi, toP]

theorem map_toStmt_sBody (g : String) (L : List SStmt) (h : ∀ s ∈ L, IsAssign s) :
    (L.map (sBody g)).map toStmt = (L.map toStmt).map (fBody g) := by
  simp only [List.map_map]
  apply List.map_congr_left
  intro s hs
  exact toStmt_sBody g s (h s hs)

theorem map_toStmt_sElse (g : String) (L : List SStmt) (h : ∀ s ∈ L, IsAssign s) :
    (L.map (sElse g)).map toStmt = (L.map toStmt).map (fElse g) := by
  simp only [List.map_map]
  apply List.map_congr_left
  intro s hs
  exact toStmt_sElse g s (h s hs)

theorem IsAssign.sBody {s : SStmt} (g : String) (h : IsAssign s) : IsAssign (sBody g s) := by
  obtain ⟨t, v, rfl⟩ := h
  exact ⟨t, _, rfl⟩

theorem IsAssign.sElse {s : SStmt} (g : String) (h : IsAssign s) : IsAssign (sElse g s) := by
  obtain ⟨t, v, rfl⟩ := h
  simp only [QV.A2A.sElse]
  split
  · exact ⟨t, _, rfl⟩
  · split <;> exact ⟨t, _, rfl⟩

theorem substE_nil (e : SExp) : substE [] e = e := rfl

theorem okS_assign_inv (ts : List SExp) (e : SExp) (h : okS (.assign ts e) = true) :
    ∃ t, ts = [.name t] ∧ userName t = true ∧ plainE e = true := by
  cases ts with
  | nil => simp [okS] at h
  | cons a r =>
    cases r with
    | cons b r' => cases a <;> simp [okS] at h
    | nil =>
      cases a with
      | name t =>
        simp only [okS, Bool.and_eq_true] at h
        exact ⟨t, rfl, h.1, h.2⟩
      | _ => simp [okS] at h

theorem okS_aug_inv (tg : SExp) (op : String) (e : SExp) (h : okS (.aug tg op e) = true) :
    ∃ t, tg = .name t ∧ userName t = true ∧ plainE (.bin op (.name t) e) = true := by
  cases tg with
  | name t =>
    simp only [okS, Bool.and_eq_true] at h
    exact ⟨t, rfl, h.1, h.2⟩
  | _ => simp [okS] at h

theorem okS_for_inv (tg it : SExp) (b e : List SStmt) (h : okS (.for_ tg it b e) = true) :
    ∃ v, tg = .name v ∧ userName v = true ∧ closedIter it = true ∧ okSs b = true ∧ okSs e = true := by
  cases tg with
  | name v =>
    simp only [okS, Bool.and_eq_true] at h
    exact ⟨v, rfl, h.1.1.1, h.1.1.2, h.1.2, h.2⟩
  | _ => simp [okS] at h

theorem thetaOK_IB {θ : Subst} {σ : SEnv} (h : ThetaOK θ σ) : ∀ p ∈ θ, isIB p.2 = true := fun p hp => (h p hp).2.1

theorem substE_bin (op : String) (l r : SExp) : ∀ θ : Subst, substE θ (.bin op l r) = .bin op (substE θ l) (substE θ r)
  | [] => rfl
  | p :: θ => by rw [substE_cons, substE_cons, substE_cons]; simp only [subst1]; exact substE_bin op _ _ θ

/-- induction over a list of `int` / `bool` literals, the list analogue of `plain_induct`: every element is a constant;
what each visitor does on such a list is an instance -/
theorem allIB_induct {P : List SExp → Prop} (nil : P [])
    (cons : ∀ (k : Const) (es : List SExp), isIB (.const k) = true → P es → P (.const k :: es)) :
    ∀ es : List SExp, allIB es = true → P es
  | [], _ => nil
  | e :: es, h => by
    simp only [allIB, Bool.and_eq_true] at h
    cases e with
    | const k => exact cons k es h.1 (allIB_induct nil cons es h.2)
    | _ => cases h.1

theorem allIB_of_allIntLit : ∀ es : List SExp, allIntLit es = true → allIB es = true
  | [], _ => rfl
  | e :: es, h => by
    simp only [allIntLit, Bool.and_eq_true] at h
    simp only [allIB, Bool.and_eq_true]
    exact ⟨isIB_of_isIntLit h.1, allIB_of_allIntLit es h.2⟩

theorem subst1s_allIB (v : String) (c : SExp) : ∀ es : List SExp, allIB es = true → subst1s v c es = es :=
  allIB_induct rfl fun k es _ ih => by simp only [subst1s, subst1, ih]

theorem subst1_closedIter (v : String) (c : SExp) (it : SExp) (h : closedIter it = true) : subst1 v c it = it := by
  cases it with
  | call fn args =>
    simp only [closedIter, Bool.and_eq_true] at h
    simp only [subst1, subst1s_allIB v c args (allIB_of_allIntLit args h.2)]
  | tuple es => simp only [closedIter] at h; simp only [subst1, subst1s_allIB v c es h]
  | list es => simp only [closedIter] at h; simp only [subst1, subst1s_allIB v c es h]
  | _ => simp [closedIter] at h

theorem substE_closedIter (it : SExp) (h : closedIter it = true) : ∀ θ : Subst, substE θ it = it
  | [] => rfl
  | p :: θ => by rw [substE_cons, subst1_closedIter p.1 p.2 it h]; exact substE_closedIter it h θ

theorem plainEs_allIB : ∀ es : List SExp, allIB es = true → plainEs es = true :=
  allIB_induct rfl fun k es hk ih => by simp only [plainEs, isIB_plain hk, ih, Bool.and_self]

theorem foldEs_allIB : ∀ es : List SExp, allIB es = true → foldEs es = .ok es :=
  allIB_induct rfl fun k es _ ih => by simp only [foldEs, foldE, ih]; rfl

theorem allConst_allIB : ∀ es : List SExp, allIB es = true → allConst es = true :=
  allIB_induct rfl fun k es _ ih => by simp only [allConst, ih]

theorem constInts_allIntLit : ∀ es : List SExp, allIntLit es = true →
    ∃ ints, constInts es = .ok ints ∧ litInts es = some ints
  | [], _ => ⟨[], by simp [constInts, pure, Except.pure], rfl⟩
  | e :: es, h => by
    simp only [allIntLit, Bool.and_eq_true] at h
    obtain ⟨ints, h1, h2⟩ := constInts_allIntLit es h.2
    cases e with
    | const k =>
      cases k with
      | int v => exact ⟨v :: ints, by simp [constInts, h1, bind, Except.bind, pure, Except.pure], by simp [litInts, h2]⟩
      | _ => have h1 := h.1; simp [isIntLit] at h1
    | _ => have h1 := h.1; simp [isIntLit] at h1

theorem iterVals_allIB : ∀ es : List SExp, allIB es = true → iterVals es = .ok es ∧ constExps es = some es :=
  allIB_induct ⟨rfl, rfl⟩ fun k es _ ih => by simp only [iterVals, iterVal, constExps, ih]; exact ⟨rfl, rfl⟩

theorem allIB_mem : ∀ es : List SExp, allIB es = true → ∀ e ∈ es, isIB e = true :=
  allIB_induct (fun _ h => by cases h) fun k es hk ih e he => by
    rcases List.mem_cons.mp he with rfl | he
    exacts [hk, ih e he]

theorem forIter_lits (m : String) (es : List SExp) (h : allIB es = true) (st st' : RSt) (vals : List SExp)
    (hr : (do note m; let es' ← visitMs es; liftX (iterVals es') : RM (List SExp)).run st = .ok (vals, st')) :
    vals = es ∧ Ext st st' := by
  simp only [SE.run_bind_ok] at hr
  obtain ⟨_, s1, hn, a1, s2, hv, hr⟩ := hr
  rw [rm_visitMs_ok, visitEs_plain _ es (plainEs_allIB es h)] at hv
  obtain ⟨hv, rfl⟩ := hv
  cases hv
  rw [rm_liftX_ok, (iterVals_allIB es h).1] at hr
  obtain ⟨hr, rfl⟩ := hr
  cases hr
  exact ⟨rfl, (note_core _ _ _ _ hn).ext⟩

theorem forIter_static (it : SExp) (h : closedIter it = true) (st st' : RSt) (vals : List SExp)
    (hr : (forIter it).run st = .ok (vals, st')) :
    staticVals it = some vals ∧ Ext st st' ∧ ∀ v ∈ vals, isIB v = true := by
  cases it with
  | call fn args =>
    simp only [closedIter, Bool.and_eq_true, beq_iff_eq] at h
    obtain ⟨rfl, hargs⟩ := h
    obtain ⟨ints, hci, hli⟩ := constInts_allIntLit args hargs
    simp only [forIter, SE.run_bind_ok] at hr
    obtain ⟨_, s1, hn, a1, s2, hv, a2, s3, hf, hr⟩ := hr
    have hib := allIB_of_allIntLit args hargs
    rw [rm_visitMs_ok, visitEs_plain _ args (plainEs_allIB args hib)] at hv
    obtain ⟨hv, rfl⟩ := hv
    simp only [Except.ok.injEq] at hv
    subst hv
    rw [rm_liftX_ok, foldEs_allIB args hib] at hf
    obtain ⟨hf, rfl⟩ := hf
    simp only [Except.ok.injEq] at hf
    subst hf
    simp only [allConst_allIB args hib, Bool.not_true, Bool.false_eq_true, if_false, SE.run_bind_ok] at hr
    obtain ⟨ints', s4, hc', hr⟩ := hr
    rw [rm_liftX_ok, hci] at hc'
    obtain ⟨hc', rfl⟩ := hc'
    simp only [Except.ok.injEq] at hc'
    subst hc'
    have hc := (note_core _ _ _ _ hn).ext
    simp only [staticVals, hli]
    split at hr
    · simp only [SE.run_pure_ok] at hr
      obtain ⟨rfl, rfl⟩ := hr
      exact ⟨rfl, hc, fun v hv => by simp only [List.mem_map] at hv; obtain ⟨i, _, rfl⟩ := hv; rfl⟩
    · simp only [SE.run_pure_ok] at hr
      obtain ⟨rfl, rfl⟩ := hr
      exact ⟨rfl, hc, fun v hv => by simp only [List.mem_map] at hv; obtain ⟨i, _, rfl⟩ := hv; rfl⟩
    · split at hr
      · simp only [SE.run_throw_ok] at hr
      · rename_i hs
        simp only [SE.run_pure_ok] at hr
        obtain ⟨rfl, rfl⟩ := hr
        simp only [hs, Bool.false_eq_true, if_false, true_and]
        exact ⟨hc, fun v hv => by simp only [List.mem_map] at hv; obtain ⟨i, _, rfl⟩ := hv; rfl⟩
    · simp only [SE.run_throw_ok] at hr
  | tuple es =>
    simp only [closedIter] at h
    obtain ⟨rfl, hc⟩ := forIter_lits "for-tuple" es h st st' vals hr
    exact ⟨by simp [staticVals, (iterVals_allIB _ h).2], hc, allIB_mem _ h⟩
  | list es =>
    simp only [closedIter] at h
    obtain ⟨rfl, hc⟩ := forIter_lits "for-list" es h st st' vals hr
    exact ⟨by simp [staticVals, (iterVals_allIB _ h).2], hc, allIB_mem _ h⟩
  | _ => simp [closedIter] at h

end QV.A2A
