import QV.Proofs.CompilerSem2
/-! One definition `r = e` over the arguments alone, no compound sub-expression twice (`inFragment`), as the instance
`Kn := (· ∈ inputs)`, `kv := ρ` of the K level.  `Pre` gives `PreK` there (`Pre.toK`: the free set is empty, so the
scratch space is what is not allocated yet), `SemK` gives `Sem`, a destination above the arguments is private, the
cache keys of an expression over the arguments are its compound sub-expressions (`compKeys_eq`), and such an
expression is in `wfExpW` without a constant.  The defined name may be any name that is not an argument. -/
namespace QV.Compiler
open QV

variable {inputs : List String} {ρ : Env} {σ0 : FState} {r : String}

theorem avail_ge {s : CState} (hf : s.qc.free = []) {q : Nat} (h : Avail s q) : s.qc.numQubits ≤ q := by
  rcases h with h | h
  · rw [hf] at h; cases h
  · exact h

theorem Pre.toK (amb : Amb inputs σ0 r) {s : CState} (hp : Pre inputs ρ σ0 s) :
    PreK (· ∈ inputs) ρ σ0 s := by
  have hf := hp.free
  refine ⟨hp.good, fun q hq => zero_of_good amb hp.good hp.nin q (avail_ge hf hq), fun n q hn hq => ?_,
    fun n hn => (notReserved (amb.fresh n hn).2).2.2, by rw [hf]; exact List.nodup_nil,
    by rw [hf]; exact fun _ h => (nomatch h), by rw [hf]; exact fun _ _ h => (nomatch h)⟩
  obtain ⟨i, hi⟩ := idx_of_mem hn
  rw [hp.bind i n hi] at hq
  obtain rfl : i = q := Option.some.inj hq
  have hlt := (mem_of_getElem?' hi).2
  exact ⟨by rw [hf]; exact fun h => (nomatch h), fun ha => absurd (hp.sge.1 _ ha) (by omega), hp.vals i n hi⟩

theorem Pre.privK {s : CState} (hp : Pre inputs ρ σ0 s) {d : Nat} (hd : inputs.length ≤ d ∧ d < s.qc.numQubits) :
    PrivK (· ∈ inputs) s d := by
  refine ⟨fun h => absurd (avail_ge hp.free h) (by omega), fun n hn hq => ?_⟩
  obtain ⟨i, hi⟩ := idx_of_mem hn
  rw [hp.bind i n hi] at hq
  cases hq
  exact absurd (mem_of_getElem?' hi).2 (by omega)

theorem SemK.toSem {Kn : String → Prop} {wo : Bool} {Q : FState → Nat → Prop} {W : Nat → Prop} {K : BExp → Prop}
    {Mk : Nat → Prop} {s s' : CState} (h : SemK Kn σ0 wo Q W K Mk s s') (hf : s.qc.free = []) :
    Sem σ0 W K (fun m => Mk m) s s' :=
  ⟨h.nq, fun _ => List.eq_nil_iff_forall_not_mem.mpr fun q hq => (by have := h.fkeep q hq; rw [hf] at this; cases this),
    fun q hq hw => h.frame q hw (Or.inl fun ha => absurd (avail_ge hf ha) (by omega)),
    h.keys, fun m hm => (h.marks m hm).imp id (·.1)⟩

/-- the `ResK` of this instance in the terms of `ExprSem`: an argument qubit, or a qubit allocated since `s` -/
theorem ResK.lt_or_ge {wo : Bool} {Q : FState → Nat → Prop} {W : Nat → Prop} {K : BExp → Prop}
    {Mk : Nat → Prop} {s s' : CState} {a : Nat} (hp : Pre inputs ρ σ0 s)
    (sem : SemK (· ∈ inputs) σ0 wo Q W K Mk s s') (h : ResK (· ∈ inputs) wo s s' a) :
    a < inputs.length ∨ s.qc.numQubits ≤ a := by
  rcases h with ⟨n, hn, hq⟩ | ⟨ha, _⟩
  · obtain ⟨i, hi⟩ := idx_of_mem hn
    rw [sem.qkeep n i hn (hp.bind i n hi)] at hq
    cases hq
    exact Or.inl (mem_of_getElem?' hi).2
  · exact Or.inr (avail_ge hp.free ha)

mutual
theorem compKeys_eq : ∀ e : BExp, overInputs inputs e = true → compKeys e = compSubs e
  | .sym _, _ => rfl
  | .not a, h => by
    simp only [compKeys, compSubs, compKeys_eq a (by simpa [overInputs] using h)]
  | .and l, h => by simp only [compKeys, compSubs, compKeysList_eq l (by simpa [overInputs] using h)]
  | .or l, h => by simp only [compKeys, compSubs, compKeysList_eq l (by simpa [overInputs] using h)]
  | .xor l, h => by simp only [compKeys, compSubs, compKeysList_eq l (by simpa [overInputs] using h)]
  | .tt, h | .ff, h | .ite _ _ _, h | .imp _ _, h => by simp [overInputs] at h
theorem compKeysList_eq : ∀ l : List BExp, overInputsList inputs l = true → compKeysList l = compSubsList l
  | [], _ => rfl
  | a :: l, h => by
    have h' := overInputsList_cons h
    simp only [compKeysList, compSubsList, compKeys_eq a h'.1, compKeysList_eq l h'.2]
end

theorem isLeaf_of_over {e : BExp} (h : overInputs inputs e = true) : isLeaf e = isSym e := by
  cases e <;> first | rfl | simp [overInputs] at h

theorem ExprSem.ofK (amb : Amb inputs σ0 r) {e : BExp} (hov : overInputs inputs e = true)
    (h : ExprSemK (· ∈ inputs) ρ inputs ρ σ0 true e) : ExprSem inputs ρ σ0 r e := by
  intro dest sym a s s' hr hp hcache hd hsym hs
  have hk := compKeys_eq e hov
  obtain ⟨_, sem, h1, h2⟩ := h dest sym hr (hp.toK amb) (by rw [hk]; exact hcache)
    (fun d hd' => hp.privK (hd d hd')) (fun x hx hm => (amb.fresh x hm).1 (hsym x hx))
    (by rw [isLeaf_of_over hov]; exact hs)
  refine ⟨(sem.toSem hp.free).mono (fun _ _ hw => hw) (fun c hc => hk ▸ hc)
      (fun m hm => ⟨avail_ge hp.free hm.1, hm.2.2⟩),
    fun hn => ⟨(h1 hn).1.lt_or_ge hp sem, (h1 hn).2.2.1⟩, fun d hd' => ⟨(h2 d hd').1, (h2 d hd').2.1⟩⟩

theorem ArgsSem.ofK (amb : Amb inputs σ0 r) {as : List BExp} (hov : overInputsList inputs as = true)
    (h : ArgsSemK (· ∈ inputs) ρ ρ σ0 true as) : ArgsSem inputs ρ σ0 r as := by
  intro rs s s' hr hp hcache
  have hk := compKeysList_eq as hov
  obtain ⟨_, sem, hv, hres, _⟩ := h hr (hp.toK amb) (by rw [hk]; exact hcache)
  exact ⟨(sem.toSem hp.free).mono (fun _ _ hw => hw) (fun c hc => hk ▸ hc) (fun m hm => avail_ge hp.free hm.1),
    hv, fun q hq => ⟨(hres q hq).1.lt_or_ge hp sem, notAvail_lt (hres q hq).2⟩⟩

theorem XorSem.ofK (amb : Amb inputs σ0 r) {as : List BExp} (hov : overInputsList inputs as = true)
    (h : XorSemK (· ∈ inputs) ρ ρ σ0 true as) : XorSem inputs ρ σ0 r as := by
  intro d a s s' hr hp hcache hd1 hd2
  have hk := compKeysList_eq as hov
  obtain ⟨ha, _, sem, hv, _⟩ := h d hr (hp.toK amb) (by rw [hk]; exact hcache) (hp.privK ⟨hd1, hd2⟩)
  exact ⟨ha, (sem.toSem hp.free).mono (fun _ _ hw => hw) (fun c hc => hk ▸ hc) (fun m hm => avail_ge hp.free hm.1),
    hv⟩


mutual
theorem wfExpW_of_over : ∀ e : BExp, overInputs inputs e = true → wfExpW inputs true e = true ∧ hasConst e = false
  | .sym _, h => ⟨h, rfl⟩
  | .not a, h => wfExpW_of_over a h
  | .and l, h => ⟨(wfExpListW_of_over l h).1, (wfExpListW_of_over l h).2.1⟩
  | .or l, h => by
    obtain ⟨h1, h2, _⟩ := wfExpListW_of_over l h
    exact ⟨by simp [wfExpW, h1], h2⟩
  | .xor l, h => by
    obtain ⟨h1, h2, h3⟩ := wfExpListW_of_over l h
    exact ⟨by simp only [wfExpW, h1, Bool.true_and, Bool.true_or, Bool.and_true]; simpa using h3, h2⟩
  | .tt, h | .ff, h | .ite _ _ _, h | .imp _ _, h => by simp [overInputs] at h
theorem wfExpListW_of_over : ∀ l : List BExp, overInputsList inputs l = true →
    wfExpListW inputs true l = true ∧ hasConstList l = false ∧ ∀ a ∈ l, xorArgBad a = false
  | [], _ => ⟨rfl, rfl, nofun⟩
  | a :: l, h => by
    have h' := overInputsList_cons h
    obtain ⟨a1, a2⟩ := wfExpW_of_over a h'.1
    obtain ⟨l1, l2, l3⟩ := wfExpListW_of_over l h'.2
    refine ⟨by simp [wfExpListW, a1, l1], by simp [hasConstList, a2, l2], fun x hx => ?_⟩
    rcases List.mem_cons.mp hx with rfl | hx
    · cases x <;> first | rfl | simp [overInputs] at h'
      next y => cases y <;> first | rfl | simp [overInputs] at h'
    · exact l3 x hx
end

theorem exprSem {inputs : List String} {ρ : Env} {σ0 : FState} {r : String} (amb : Amb inputs σ0 r) :
    ∀ e : BExp, overInputs inputs e = true → Distinct (compSubs e) → ExprSem inputs ρ σ0 r e := fun e hov hd =>
  ExprSem.ofK amb hov (exprSemK (Kn := (· ∈ inputs)) (kv := ρ) (fun _ hn => ⟨hn, rfl⟩) e (wfExpW_of_over e hov).1
    (fun h => by rw [(wfExpW_of_over e hov).2] at h; cases h) (compKeys_eq e hov ▸ hd))
theorem argsSem {inputs : List String} {ρ : Env} {σ0 : FState} {r : String} (amb : Amb inputs σ0 r) :
    ∀ as : List BExp, overInputsList inputs as = true → Distinct (compSubsList as) →
      ArgsSem inputs ρ σ0 r as := fun as hov hd =>
  ArgsSem.ofK amb hov (argsSemK (Kn := (· ∈ inputs)) (kv := ρ) (fun _ hn => ⟨hn, rfl⟩) as
    (wfExpListW_of_over as hov).1 (fun h => by rw [(wfExpListW_of_over as hov).2.1] at h; cases h)
    (compKeysList_eq as hov ▸ hd))
theorem xorSem {inputs : List String} {ρ : Env} {σ0 : FState} {r : String} (amb : Amb inputs σ0 r) :
    ∀ as : List BExp, overInputsList inputs as = true → Distinct (compSubsList as) →
      XorSem inputs ρ σ0 r as := fun as hov hd =>
  XorSem.ofK amb hov (xorSemK (Kn := (· ∈ inputs)) (kv := ρ) (fun _ hn => ⟨hn, rfl⟩) as
    (wfExpListW_of_over as hov).1 (fun h => by rw [(wfExpListW_of_over as hov).2.1] at h; cases h)
    (wfExpListW_of_over as hov).2.2 (compKeysList_eq as hov ▸ hd))

theorem topExpr_sem {inputs : List String} {ρ : Env} {σ0 : FState} {r : String} (amb : Amb inputs σ0 r)
    {e : BExp} (hov : overInputs inputs e = true) (htl : treeLike e = true) {iret : Nat} {s t : CState}
    (h : (compileExpr e none (some r)).run s = .ok (iret, t)) (hp : Pre inputs ρ σ0 s)
    (hex : s.expq = []) (hmk : s.qc.marked = []) (hinp : s.inputs = inputs) :
    cur σ0 t iret = e.eval ρ ∧ iret ∉ t.qc.marked := by
  obtain ⟨_, sem, _, hval⟩ := topExprK (wo := true) (kv := ρ) h (hp.toK amb) (fun _ hn => ⟨hn, rfl⟩)
    (fun h' => by rw [(wfExpW_of_over e hov).2] at h'; cases h') (wfExpW_of_over e hov).1
    (compKeys_eq e hov ▸ distinctB_iff.mp htl) (fun m hm => (amb.fresh m hm).1)
    (by rw [hex]; exact fun _ hp' => nomatch hp')
  refine ⟨hval, fun hm => ?_⟩
  rcases sem.marks iret hm with h' | h'
  · rw [hmk] at h'; cases h'
  · exact h'.1.2.2 rfl

/-- One definition `r = e` in the fragment, with or without final uncomputation (`uncompute_all` never replays a gate
whose target is kept, and the qubit of a requested return name is kept).  `r` may be `TRUE` or `FALSE`. -/
theorem compile_single_sem {inputs : List String} {r : String} {e : BExp} {rets : List String}
    {unc : Bool} {cs : List Nat} {s : CState}
    (h : (compile inputs [(r, e)] (some rets) unc).run { choices := cs } = .ok ((), s))
    (hr : unc = true → r ∈ rets)
    (hnd : inputs.Nodup) (hfresh : ∀ n ∈ inputs, n ≠ r ∧ reservedName n = false)
    (hov : overInputs inputs e = true) (htl : treeLike e = true)
    (x : List Bool) (hx : x.length = inputs.length) :
    ∃ q, dictGet? s.qc.qmap r = some q ∧
      (runClassical s.qc.gates.toList (initState x s.qc.numQubits)).getD q false =
        e.eval (envOf (inputs.zip x)) :=
  compile_one (Kn := (· ∈ inputs)) h hr hnd (fun n hn => (hfresh n hn).2) (fun _ hn => hn)
    (fun n hn => ⟨Or.inl hn, (hfresh n hn).1⟩)
    (fun h' => by rw [(wfExpW_of_over e hov).2] at h'; cases h') (wfExpW_of_over e hov).1
    (compKeys_eq e hov ▸ distinctB_iff.mp htl) x hx

theorem inFragment_single {inputs : List String} {defs : List (String × BExp)} {rets : List String}
    (hf : inFragment inputs defs rets = true) :
    ∃ r e, defs = [(r, e)] ∧ inputs.Nodup ∧ (∀ n ∈ inputs, n ≠ r ∧ reservedName n = false) ∧
      overInputs inputs e = true ∧ treeLike e = true ∧ ∀ r' ∈ rets, r' = r := by
  match defs, hf with
  | [(r, e)], hf =>
    simp only [inFragment, Bool.and_eq_true, decide_eq_true_eq, List.all_eq_true, bne_iff_ne, ne_eq,
      Bool.not_eq_true', beq_iff_eq] at hf
    exact ⟨r, e, rfl, hf.1.1.1.1, hf.1.1.1.2, hf.1.1.2, hf.1.2, hf.2⟩

theorem inXorFragment_parts {inputs : List String} {defs : List (String × BExp)} {rets : List String}
    (h : inXorFragment inputs defs rets = true) :
    inFragment inputs defs rets = true ∧
      ∀ r e, defs = [(r, e)] → isSym e = false ∨ r.startsWith "_ret" = true := by
  simp only [inXorFragment, inCleanFragment, Bool.and_eq_true] at h
  refine ⟨h.1, ?_⟩
  rintro r e rfl
  simpa using h.2

end QV.Compiler
