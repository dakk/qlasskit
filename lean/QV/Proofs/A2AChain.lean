import QV.Proofs.A2ASrcSem
/-! Every chain `create_if_exp` / `visit_Subscript` builds has the shape
`branch a₀ if test a₀ else (… (branch aₙ if test aₙ else d))` over a list of items (`selChain`); under `Sem.semW` it has
the value of the branch of the first item whose test holds, else of `d`, at the largest width among all of them
(`selChain_value`: if-expressions of `semW` are strict and widen).  The chains over one index, two indices and the
constant table are instances; the guard chain `wrapE` and the chain `minmaxP` of `max` / `min` are not (their else
branches are not of this shape) and have their own inductions (`semW_wrapE`, `minmaxP_fold`). -/
namespace QV.A2A
open QV.Front QV.Sem

def tyOf : SVal → Option Nat
  | .bool _ => none
  | .int w _ => some w

def widthOf : SVal → Nat
  | .bool _ => 0
  | .int w _ => w

/-- the value at another width (a bool is left alone): what an if-expression of `Sem.semW` does to the branch it takes -/
def withWidth (W : Nat) : SVal → SVal
  | .bool b => .bool b
  | .int _ n => .int W n

def isInt : SVal → Bool
  | .bool _ => false
  | .int _ _ => true

def maxWidth (w : Nat) (vs : List SVal) : Nat := vs.foldl (fun m v => max m (widthOf v)) w

theorem selW_kind (c : Bool) (u v : SVal) (h : isInt u = isInt v) :
    selW (.bool c) u v = some (withWidth (max (widthOf u) (widthOf v)) (if c then u else v)) := by
  cases u <;> cases v <;> simp [isInt] at h <;> cases c <;> simp [selW, withWidth, widthOf]

theorem withWidth_withWidth (W M : Nat) (u : SVal) : withWidth W (withWidth M u) = withWidth W u := by
  cases u <;> rfl

theorem withWidth_self (u : SVal) : withWidth (widthOf u) u = u := by
  cases u <;> rfl

theorem withWidth_max (M W : Nat) (u t : SVal) (h : isInt t = isInt u) :
    withWidth (max M (widthOf (withWidth W u))) t = withWidth (max M W) t := by
  cases u <;> cases t <;> first | rfl | cases h

theorem maxWidth_max (u : Nat) : ∀ (vs : List SVal) (w : Nat), maxWidth (max w u) vs = max u (maxWidth w vs)
  | [], w => Nat.max_comm w u
  | v :: vs, w => by
    show maxWidth (max (max w u) (widthOf v)) vs = max u (maxWidth (max w (widthOf v)) vs)
    rw [Nat.max_right_comm, maxWidth_max u vs]

theorem isInt_of_tyOf (v : SVal) (T : Option Nat) (h : tyOf v = T) : isInt v = T.isSome := by
  cases v <;> subst h <;> rfl

theorem withWidth_sameTy (a u : SVal) (h : tyOf u = tyOf a) : withWidth (widthOf a) u = u := by
  cases u <;> cases a <;> simp_all [tyOf, widthOf, withWidth]

theorem maxWidth_sameTy (T : Option Nat) (a : SVal) (ha : tyOf a = T) :
    ∀ vs : List SVal, (∀ v ∈ vs, tyOf v = T) → maxWidth (widthOf a) vs = widthOf a
  | [], _ => rfl
  | v :: vs, h => by
    have hv : widthOf v = widthOf a := by
      have h1 := h v (by simp)
      rw [← ha] at h1
      cases v <;> cases a <;> simp [tyOf] at h1 <;> simp [widthOf, h1]
    simp only [maxWidth, List.foldl_cons, hv, Nat.max_self]
    exact maxWidth_sameTy T a ha vs (fun u hu => h u (List.mem_cons_of_mem _ hu))

variable {ι : Type}

def selChain (test branch : ι → PExp) (l : List ι) (d : PExp) : PExp :=
  l.foldr (fun a r => .ite (test a) (branch a) r) d

def selected (hit : ι → Bool) (val : ι → SVal) (l : List ι) (dv : SVal) : SVal := ((l.find? hit).map val).getD dv

theorem selected_cons (hit : ι → Bool) (val : ι → SVal) (a : ι) (l : List ι) (dv : SVal) :
    selected hit val (a :: l) dv = if hit a then val a else selected hit val l dv := by
  cases h : hit a <;> simp [selected, h]

theorem selected_cases (hit : ι → Bool) (val : ι → SVal) (l : List ι) (dv : SVal) :
    (∃ a ∈ l, hit a = true ∧ selected hit val l dv = val a) ∨ ((∀ a ∈ l, hit a = false) ∧ selected hit val l dv = dv) := by
  unfold selected
  cases h : l.find? hit with
  | some a => exact .inl ⟨a, List.mem_of_find?_eq_some h, List.find?_some h, rfl⟩
  | none => exact .inr ⟨fun a ha => by simpa using List.find?_eq_none.mp h a ha, rfl⟩

theorem selChain_value (σ : SEnv) (test branch : ι → PExp) (hit : ι → Bool) (val : ι → SVal) (b : Bool)
    (d : PExp) (dv : SVal) (hd : semW σ d = some dv) (hdb : isInt dv = b) :
    ∀ l : List ι,
      (∀ a ∈ l, semW σ (test a) = some (.bool (hit a)) ∧ semW σ (branch a) = some (val a) ∧ isInt (val a) = b) →
      semW σ (selChain test branch l d) = some (withWidth (maxWidth (widthOf dv) (l.map val)) (selected hit val l dv))
  | [], _ => by simpa [selChain, selected, maxWidth, withWidth_self] using hd
  | a :: l, h => by
    obtain ⟨ht, hv, hb⟩ := h a (by simp)
    have hl : ∀ a' ∈ l, _ := fun a' ha' => h a' (List.mem_cons_of_mem _ ha')
    have hu : isInt (selected hit val l dv) = b := by
      rcases selected_cases hit val l dv with ⟨a', ha', _, e⟩ | ⟨_, e⟩ <;> rw [e]
      exacts [(hl a' ha').2.2, hdb]
    have hk : isInt (val a) = isInt (selected hit val l dv) := by rw [hb, hu]
    show semW σ (.ite (test a) (branch a) (selChain test branch l d)) = _
    rw [semW_ite, ht, hv, selChain_value σ test branch hit val b d dv hd hdb l hl]
    show selW _ _ _ = _
    rw [selW_kind _ _ _ (by rw [hk]; cases selected hit val l dv <;> rfl), selected_cons, List.map_cons]
    show _ = some (withWidth (maxWidth (max (widthOf dv) (widthOf (val a))) (l.map val)) _)
    rw [maxWidth_max]
    cases hit a
    · simp only [Bool.false_eq_true, if_false, withWidth_withWidth]
      rw [withWidth_max _ _ _ _ rfl]
    · simp only [if_true]
      rw [withWidth_max _ _ _ _ hk]

theorem selChain_sameTy (σ : SEnv) (test branch : ι → PExp) (hit : ι → Bool) (val : ι → SVal) (T : Option Nat)
    (d : PExp) (dv : SVal) (hd : semW σ d = some dv) (hdT : tyOf dv = T) (l : List ι)
    (h : ∀ a ∈ l, semW σ (test a) = some (.bool (hit a)) ∧ semW σ (branch a) = some (val a) ∧ tyOf (val a) = T) :
    semW σ (selChain test branch l d) = some (selected hit val l dv) := by
  rw [selChain_value σ test branch hit val T.isSome d dv hd (isInt_of_tyOf _ _ hdT) l
      (fun a ha => ⟨(h a ha).1, (h a ha).2.1, isInt_of_tyOf _ _ (h a ha).2.2⟩),
    maxWidth_sameTy T dv hdT _ (by simpa using fun a ha => (h a ha).2.2), withWidth_sameTy]
  rcases selected_cases hit val l dv with ⟨a, ha, _, e⟩ | ⟨_, e⟩ <;> rw [e]
  rw [(h a ha).2.2, hdT]

/-- the test of key `a` asks whether `a` is the key `x`, the default is the branch of a last,
untested key `q` (`create_if_exp`); the branches hold the values `f a`, all of one type: for `x` among the keys the chain
has the value `f x` -/
theorem selChain_key [DecidableEq ι] (σ : SEnv) (test branch : ι → PExp) (f : ι → Option SVal) (T : Option Nat) (x q : ι)
    (l : List ι) (hx : x ∈ l ++ [q])
    (hv : ∀ a ∈ l ++ [q], ∃ v, f a = some v ∧ semW σ (branch a) = some v ∧ tyOf v = T)
    (ht : ∀ a ∈ l, semW σ (test a) = some (.bool (decide (a = x)))) :
    semW σ (selChain test branch l (branch q)) = f x := by
  have hv' : ∀ a ∈ l ++ [q], semW σ (branch a) = some ((f a).getD (.bool false)) ∧ tyOf ((f a).getD (.bool false)) = T ∧
      f a = some ((f a).getD (.bool false)) := fun a ha => by
    obtain ⟨v, hf, hs, hT⟩ := hv a ha
    simpa only [hf, Option.getD_some] using ⟨hs, hT, trivial⟩
  rw [selChain_sameTy σ test branch (fun a => decide (a = x)) _ T _ _ (hv' q (by simp)).1 (hv' q (by simp)).2.1 l
    (fun a ha => ⟨ht a ha, (hv' a (by simp [ha])).1, (hv' a (by simp [ha])).2.1⟩)]
  rcases selected_cases (fun a => decide (a = x)) (fun a => (f a).getD (.bool false)) l ((f q).getD (.bool false))
    with ⟨a, _, ha, e⟩ | ⟨hn, e⟩ <;> rw [e]
  · rw [of_decide_eq_true ha, ← (hv' x hx).2.2]
  · rcases List.mem_append.mp hx with hx' | hx'
    · exact absurd (hn x hx') (by simp)
    · rw [← List.mem_singleton.mp hx', ← (hv' x hx).2.2]

end QV.A2A
