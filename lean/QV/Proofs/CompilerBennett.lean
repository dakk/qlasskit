import QV.Proofs.CompilerSem
/-! `CompilerSem.lean` shows which *targets* the replayed gates have; cleanliness needs the exact list: `uncompute`
appends, up to gate identity, the reversed computed gates whose target is marked (`uncompute_exact`).  `bennettF`:
that replay gives the marked qubits their initial values back, when every control is marked or holds, just before
its gate, the value it has at the end.  On the fragment this holds for a static reason (`replay_clean` in
`CompilerClean.lean`): every control is an argument qubit or marked, and no gate targets an argument qubit. -/
namespace QV.Compiler
open QV

theorem uncompute_exact {r : List Nat} {s s' : CState} (h : uncompute.run s = .ok (r, s')) :
    ∃ extra, s'.qc.gates.toList = s.qc.gates.toList ++ extra ∧
      extra.map gcore =
        (s.qc.gatesComputed.toList.reverse.filter (fun g => s.qc.marked.contains g.target)).map gcore ∧
      (∀ m ∈ s.qc.marked, m ∈ s'.qc.free) := by
  obtain ⟨t, rp, _, _, rfl⟩ := uncompute_run h
  obtain ⟨extra, e1, e2, _⟩ := rp.gates
  exact ⟨extra, e1, e2, fun m hm => mem_foldl_setIns_of_mem _ _ m (Or.inr hm)⟩

/-- every control `c` of every gate satisfies `Q f' c` in the state `f'` just before that gate -/
def CtlOK (Q : FState → Nat → Prop) : List AGate → FState → Prop
  | [], _ => True
  | g :: l, f => (∀ c ∈ g.wires.dropLast, Q f c) ∧ CtlOK Q l (stepF f g)

theorem CtlOK.append {Q : FState → Nat → Prop} : ∀ (a b : List AGate) (f : FState),
    CtlOK Q (a ++ b) f ↔ CtlOK Q a f ∧ CtlOK Q b (runF a f)
  | [], b, f => by simp [CtlOK, runF]
  | g :: a, b, f => by
    simp only [List.cons_append, CtlOK, runF_cons, CtlOK.append a b, and_assoc]

theorem CtlOK.mono' {Q Q' : FState → Nat → Prop} :
    ∀ (l : List AGate) (f : FState), (∀ g ∈ l, ∀ c ∈ g.wires.dropLast, ∀ f', Q f' c → Q' f' c) →
      CtlOK Q l f → CtlOK Q' l f
  | [], _, _, _ => trivial
  | g :: l, _, h, ⟨h1, h2⟩ =>
    ⟨fun c hc => h g List.mem_cons_self c hc _ (h1 c hc),
      CtlOK.mono' l _ (fun g' hg' => h g' (List.mem_cons_of_mem _ hg')) h2⟩

theorem CtlOK.mono {Q Q' : FState → Nat → Prop} (h : ∀ f c, Q f c → Q' f c) :
    ∀ (l : List AGate) (f : FState), CtlOK Q l f → CtlOK Q' l f :=
  fun l f => CtlOK.mono' l f (fun _ _ c _ f' => h f' c)

/-- the gates `uncompute` replays for the marked set `M` -/
def rep (M : List Nat) (l : List AGate) : List AGate := (l.filter (fun g => M.contains g.target)).reverse

theorem bennettF (M : List Nat) (f1 : FState) :
    ∀ (l : List AGate) (f0 : FState),
      (∀ g ∈ l, g.cls.isMCXLike = true ∧ g.wires.Nodup ∧ g.wires ≠ []) →
      CtlOK (fun f c => M.contains c = true ∨ f c = f1 c) l f0 → runF l f0 = f1 →
      (∀ q, M.contains q = true → runF (rep M l) f1 q = f0 q) ∧
      (∀ q, M.contains q = false → runF (rep M l) f1 q = f1 q) := by
  intro l
  induction l with
  | nil =>
    intro f0 _ _ h
    have : f0 = f1 := h
    subst this
    exact ⟨fun _ _ => rfl, fun _ _ => rfl⟩
  | cons g l ih =>
    intro f0 hok hc h
    obtain ⟨hmcx, hnd, hne⟩ := hok g List.mem_cons_self
    obtain ⟨cs, t, hw, ht, hdl⟩ := wires_split hne
    obtain ⟨ihM, ihN⟩ := ih (stepF f0 g) (fun g' hg' => hok g' (List.mem_cons_of_mem _ hg')) hc.2 h
    have hstep : ∀ f, stepF f g = applyF g f := stepF_eq_applyF hmcx
    have hnt : t ∉ cs := by
      rw [hw] at hnd
      have := (List.nodup_append.mp hnd).2.2
      intro hm; exact this t hm t (by simp) rfl
    have hhead : ∀ c ∈ cs, M.contains c = true ∨ f0 c = f1 c := by
      intro c hcm; exact hc.1 c (by rw [hdl]; exact hcm)
    have hf0' : ∀ q, q ≠ t → stepF f0 g q = f0 q := fun q hq => by
      rw [hstep]; exact applyF_ne g cs t hw f0 q hq
    have hf0t : stepF f0 g t = Bool.xor (f0 t) (cs.all f0) := by
      rw [hstep]; exact applyF_eq g cs t hw f0
    by_cases hMt : M.contains t = true
    · have hrep : rep M (g :: l) = rep M l ++ [g] := by
        unfold rep; simp only [List.filter_cons, ht, hMt, ↓reduceIte, List.reverse_cons]
      rw [hrep]
      have hrun : ∀ q, runF (rep M l ++ [g]) f1 q = applyF g (runF (rep M l) f1) q := by
        intro q; rw [runF_append]; show stepF _ g q = _; rw [hstep]
      have hall : cs.all (runF (rep M l) f1) = cs.all f0 := by
        apply List.all_congr_mem
        intro c hcm
        have hct : c ≠ t := fun e => hnt (e ▸ hcm)
        cases hMc : M.contains c with
        | true => rw [ihM c hMc, hf0' c hct]
        | false =>
          rw [ihN c hMc]
          rcases hhead c hcm with h' | h'
          · rw [hMc] at h'; cases h'
          · exact h'.symm
      refine ⟨fun q hq => ?_, fun q hq => ?_⟩
      · rw [hrun]
        by_cases hqt : q = t
        · rw [hqt, applyF_eq g cs t hw, hall, ihM t hMt, hf0t]
          cases f0 t <;> cases cs.all f0 <;> rfl
        · rw [applyF_ne g cs t hw _ q hqt, ihM q hq, hf0' q hqt]
      · rw [hrun]
        have hqt : q ≠ t := by rintro rfl; rw [hMt] at hq; cases hq
        rw [applyF_ne g cs t hw _ q hqt, ihN q hq]
    · have hMt' : M.contains t = false := by simpa using hMt
      have hrep : rep M (g :: l) = rep M l := by
        unfold rep; simp only [List.filter_cons, ht, hMt', Bool.false_eq_true, ↓reduceIte]
      rw [hrep]
      refine ⟨fun q hq => ?_, ihN⟩
      have hqt : q ≠ t := by rintro rfl; rw [hMt'] at hq; cases hq
      rw [ihM q hq, hf0' q hqt]

theorem ctlOK_of_static (M : List Nat) : ∀ (l : List AGate) (f : FState),
    (∀ g ∈ l, ∀ c ∈ g.wires.dropLast, M.contains c = true ∨ ∀ g' ∈ l, g'.wires.getLast? ≠ some c) →
    CtlOK (fun f' c => M.contains c = true ∨ f' c = runF l f c) l f
  | [], _, _ => trivial
  | g :: l, f, h =>
    ⟨fun c hc => (h g List.mem_cons_self c hc).imp id (fun hu => (untargeted_runF (g :: l) c hu f).symm),
      ctlOK_of_static M l (stepF f g) (fun g' hg' c hc =>
        (h g' (List.mem_cons_of_mem _ hg') c hc).imp id (fun hu g'' hg'' => hu g'' (List.mem_cons_of_mem _ hg'')))⟩

end QV.Compiler
