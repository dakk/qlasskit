import QV.Model.Codec
import QV.Proofs.Types
/-! Defined here: `QMap.WF` (a hypothesis of `C05.C05_statement`) and `setAll` (a batch of assignments; `addQubits`,
`compileMap` are instances). -/
namespace QV.Codec
open QV.Types

theorem subNames_length (b : Name) (n : Nat) : (subNames b n).length = n := by
  simp [subNames]

mutual
theorem argNames_length : ∀ (t : QTy) (b : Name), (argNames t b).length = t.size
  | .bool, _ => rfl
  | .qint w, b => subNames_length b w
  | .qchar, b => subNames_length b 8
  | .qfixed i f, b => subNames_length b (i + f)
  | .tuple ts, b => by simpa [argNames, QTy.size] using argNamesList_length ts b 0
theorem argNamesList_length : ∀ (ts : List QTy) (b : Name) (k : Nat),
    (argNamesList ts b k).length = sizeList ts
  | [], _, _ => rfl
  | t :: ts, b, k => by
      simp [argNamesList, sizeList, argNames_length t, argNamesList_length ts]
end

theorem retNamesList_replicate (n : Nat) (b : Name) (k : Nat) :
    retNamesList (List.replicate n .leaf) b k = (List.range n).map (fun i => b.sub (k + i)) := by
  induction n generalizing k with
  | zero => simp [retNamesList]
  | succ n ih =>
    simp only [List.replicate_succ, retNamesList, retNames, ih, List.range_succ_eq_map,
      List.map_cons, List.map_map, Nat.add_zero, List.singleton_append, List.cons.injEq, true_and]
    apply List.map_congr_left; intro i _; simp [Function.comp]; congr 1; omega

theorem retNames_leaves (n : Nat) (b : Name) : retNames (leaves n) b = subNames b n := by
  simp [leaves, retNames, retNamesList_replicate, subNames]

mutual
/-- naming by the nesting of the type is `translate_argument`'s naming -/
theorem retNames_tyShape : ∀ (t : QTy) (b : Name), retNames (tyShape t) b = argNames t b
  | .bool, _ => rfl
  | .qint w, b => retNames_leaves w b
  | .qchar, b => retNames_leaves 8 b
  | .qfixed i f, b => retNames_leaves (i + f) b
  | .tuple ts, b => by simpa [tyShape, retNames, argNames] using retNamesList_tyShapes ts b 0
theorem retNamesList_tyShapes : ∀ (ts : List QTy) (b : Name) (k : Nat),
    retNamesList (tyShapes ts) b k = argNamesList ts b k
  | [], _, _ => rfl
  | t :: ts, b, k => by
      simp [tyShapes, retNamesList, argNamesList, retNames_tyShape t, retNamesList_tyShapes ts]
end

/-! ### distinctness of bit names: of the `Return` naming for every nesting, hence (`retNames_tyShape`) of the arguments' -/

mutual
theorem retNames_prefix : ∀ (s : VShape) (b n : Name), n ∈ retNames s b →
    n.base = b.base ∧ b.path <+: n.path
  | .leaf, b, n, h => by simp [retNames] at h; subst h; exact ⟨rfl, List.prefix_refl _⟩
  | .node cs, b, n, h => by
      obtain ⟨hb, j, _, hp⟩ := retNamesList_prefix cs b 0 n (by simpa [retNames] using h)
      exact ⟨hb, List.IsPrefix.trans (List.prefix_append _ _) hp⟩
theorem retNamesList_prefix : ∀ (cs : List VShape) (b : Name) (k : Nat) (n : Name),
    n ∈ retNamesList cs b k → n.base = b.base ∧ ∃ j, k ≤ j ∧ (b.path ++ [j]) <+: n.path
  | [], _, _, _, h => by simp [retNamesList] at h
  | c :: cs, b, k, n, h => by
      simp only [retNamesList, List.mem_append] at h
      rcases h with h | h
      · obtain ⟨hb, hp⟩ := retNames_prefix c (b.sub k) n h
        exact ⟨hb, k, Nat.le_refl _, hp⟩
      · obtain ⟨hb, j, hj, hp⟩ := retNamesList_prefix cs b (k + 1) n h
        exact ⟨hb, j, by omega, hp⟩
end

mutual
theorem retNames_nodup : ∀ (s : VShape) (b : Name), (retNames s b).Nodup
  | .leaf, b => by simp [retNames]
  | .node cs, b => by simpa [retNames] using retNamesList_nodup cs b 0
theorem retNamesList_nodup : ∀ (cs : List VShape) (b : Name) (k : Nat), (retNamesList cs b k).Nodup
  | [], _, _ => by simp [retNamesList]
  | c :: cs, b, k => by
      simp only [retNamesList]
      rw [List.nodup_append]
      refine ⟨retNames_nodup c _, retNamesList_nodup cs b (k + 1), ?_⟩
      intro x hx y hy hxy
      subst hxy
      -- below child `k` the path of `x` starts `b.path ++ [k]`, below a later child `b.path ++ [j]` with `j ≥ k + 1`;
      -- two prefixes of one list of equal length are equal
      obtain ⟨_, hp1⟩ := retNames_prefix c (b.sub k) x hx
      obtain ⟨_, j, hj, hp2⟩ := retNamesList_prefix cs b (k + 1) x hy
      have := List.prefix_of_prefix_length_le hp1 hp2 (by simp [Name.sub])
      have := this.eq_of_length (by simp [Name.sub])
      simp [Name.sub] at this
      omega
end

theorem argNames_prefix (t : QTy) (b n : Name) (h : n ∈ argNames t b) :
    n.base = b.base ∧ b.path <+: n.path :=
  retNames_prefix _ b n (retNames_tyShape t b ▸ h)

theorem argNames_nodup (t : QTy) (b : Name) : (argNames t b).Nodup :=
  retNames_tyShape t b ▸ retNames_nodup _ b

theorem argNamesList_nodup : ∀ (ts : List QTy) (b : Name) (k : Nat), (argNamesList ts b k).Nodup :=
  fun ts b k => retNamesList_tyShapes ts b k ▸ retNamesList_nodup _ b k

theorem inputSymbols_eq (args : List Arg) : inputSymbols args = (args.map (·.bitvec)).flatten := by
  induction args with
  | nil => rfl
  | cons a r ih => rw [inputSymbols, ih, List.map_cons, List.flatten_cons]

theorem inputSymbols_length (sig : List (String × QTy)) :
    (inputSymbols (translateArguments sig)).length = sizeList (sig.map (·.2)) := by
  induction sig with
  | nil => rfl
  | cons a r ih =>
    simp only [translateArguments, List.map_cons, inputSymbols, List.length_append, sizeList] at ih ⊢
    rw [ih, translateArgument, argNames_length]

theorem inputQubits_eq (args : List Arg) : inputQubits args = List.range (inputSymbols args).length := by
  have : ∀ a, args.foldl (fun a b => a + b.bitvec.length) a = a + (inputSymbols args).length := by
    induction args with
    | nil => exact fun _ => rfl
    | cons x r ih => intro a; rw [List.foldl_cons, ih, inputSymbols, List.length_append, Nat.add_assoc]
  rw [inputQubits, this, Nat.zero_add]

/-- argument names apart, bit names apart: the bit names of an argument carry its name as `base` -/
theorem inputSymbols_nodup (sig : List (String × QTy)) (h : (sig.map (·.1)).Nodup) :
    (inputSymbols (translateArguments sig)).Nodup := by
  rw [inputSymbols_eq, List.Nodup, List.pairwise_flatten, translateArguments, List.map_map, List.pairwise_map]
  refine ⟨fun l hl => ?_, (List.pairwise_map.mp h).imp fun hne x hx y hy hxy => hne ?_⟩
  · obtain ⟨a, _, rfl⟩ := List.mem_map.mp hl; exact argNames_nodup a.2 _
  · exact (argNames_prefix _ _ x hx).1.symm.trans (hxy ▸ (argNames_prefix _ _ y hy).1)

theorem valToBin_eq_both :
    (∀ (t : QTy) (v : QVal), valToBin t v = boolListToBin (encode t v)) ∧
    (∀ (ts : List QTy) (vs : List QVal), valToBinList ts vs = boolListToBin (encodeList ts vs)) := by
  -- `encode` / `encodeList` match on the same patterns in the same order as `valToBin` / `valToBinList`, so the
  -- cases of `valToBin.mutual_induct` are the arms of both, and in the cases of the last arms (`| _, _ => []`)
  -- the hypotheses that no earlier arm matches serve the equations `eq_6` / `eq_2` of both functions
  apply valToBin.mutual_induct
  · exact fun _ => rfl
  · exact fun _ _ => rfl
  · exact fun _ => rfl
  · exact fun _ _ _ => rfl
  · intro ts vs ih; rw [valToBin, encode, ih]
  · -- a value that is not of the type: both give the empty string
    intro t v h1 h2 h3 h4 h5; rw [valToBin.eq_6 t v h1 h2 h3 h4 h5, encode.eq_6 t v h1 h2 h3 h4 h5]; rfl
  · intro t ts v vs ih1 ih2
    rw [valToBinList, encodeList, ih1, ih2, boolListToBin, boolListToBin, boolListToBin, List.map_append]
  · intro ts vs h; rw [valToBinList.eq_2 ts vs h, encodeList.eq_2 ts vs h]; rfl

theorem valToBin_eq : ∀ (t : QTy) (v : QVal), valToBin t v = boolListToBin (encode t v) :=
  valToBin_eq_both.1

theorem valToBinList_eq : ∀ (ts : List QTy) (vs : List QVal),
    valToBinList ts vs = boolListToBin (encodeList ts vs) :=
  valToBin_eq_both.2

theorem translateArguments_tys (sig : List (String × QTy)) :
    (translateArguments sig).map (·.ty) = sig.map (·.2) := by
  simp [translateArguments, translateArgument]

theorem zfill_binDigits {n m : Nat} (hm : 0 < m) (h : n < 2 ^ m) :
    (zfill m (binDigits n)).map (· == '1') = (toBitsLE m n).reverse := by
  have hlen := binDigits_length_le hm h
  have := binToBoolList_pyBin_reverse h
  rw [← this, List.reverse_reverse]
  unfold binToBoolList zfill
  simp only [strip0b_pyBin, Option.getD_some, List.take_of_length_le hlen, List.length_map,
    List.map_append, List.map_replicate]
  rfl

/-! ### the qubit map (keyed by `Name`, so `Proofs/Assoc` does not apply: `dictGet_dictSet`, `dictSet_mem`,
`dictGet_mem` are its `get?_set`, `mem_set`, `get?_mem`) -/

theorem dictGet_dictSet (d : List (Name × Nat)) (k k' : Name) (v : Nat) :
    dictGet (dictSet d k v) k' = if k = k' then some v else dictGet d k' := by
  induction d with
  | nil => simp [dictSet, dictGet]
  | cons e r ih =>
    obtain ⟨a, b⟩ := e
    simp only [dictSet]
    by_cases h : a = k
    · subst h; by_cases h2 : a = k' <;> simp [dictGet, h2]
    · by_cases h2 : k = k'
      · subst h2; simp [dictGet, h, ih]
      · simp [dictGet, h, ih, h2]

theorem dictSet_mem {d : List (Name × Nat)} {k : Name} {v : Nat} {e : Name × Nat}
    (h : e ∈ dictSet d k v) : e ∈ d ∨ e = (k, v) := by
  induction d with
  | nil => simp [dictSet] at h; exact Or.inr h
  | cons x r ih =>
    obtain ⟨a, b⟩ := x
    simp only [dictSet] at h
    split at h
    · simp at h; rcases h with h | h
      · exact Or.inr h
      · exact Or.inl (List.mem_cons_of_mem _ h)
    · simp at h; rcases h with h | h
      · exact Or.inl (by simp [h])
      · rcases ih h with h | h
        · exact Or.inl (List.mem_cons_of_mem _ h)
        · exact Or.inr h

theorem dictGet_mem {d : List (Name × Nat)} {k : Name} {v : Nat} (h : dictGet d k = some v) :
    (k, v) ∈ d := by
  induction d with
  | nil => simp [dictGet] at h
  | cons x r ih =>
    obtain ⟨a, b⟩ := x
    simp only [dictGet] at h
    split at h
    · simp at h; subst h; simp [*]
    · exact List.mem_cons_of_mem _ (ih h)

/-- `for (k, v) in kvs: d[k] = v` -/
def setAll (d kvs : List (Name × Nat)) : List (Name × Nat) := kvs.foldl (fun d e => dictSet d e.1 e.2) d

theorem dictGet_setAll_other {kvs : List (Name × Nat)} {k : Name} (h : k ∉ kvs.map (·.1)) (d : List (Name × Nat)) :
    dictGet (setAll d kvs) k = dictGet d k := by
  induction kvs generalizing d with
  | nil => rfl
  | cons e r ih =>
    rw [List.map_cons, List.mem_cons, not_or] at h
    rw [setAll, List.foldl_cons, ← setAll, ih h.2, dictGet_dictSet, if_neg (Ne.symm h.1)]

theorem dictGet_setAll_isSome (kvs d : List (Name × Nat)) (k : Name) :
    (dictGet (setAll d kvs) k).isSome ↔ (dictGet d k).isSome ∨ k ∈ kvs.map (·.1) := by
  induction kvs generalizing d with
  | nil => simp [setAll]
  | cons e r ih =>
    rw [setAll, List.foldl_cons, ← setAll, ih, dictGet_dictSet, List.map_cons, List.mem_cons]
    by_cases hk : e.1 = k
    · simp [hk]
    · simp [hk, Ne.symm hk]

theorem dictGet_setAll_mem {kvs : List (Name × Nat)} (hnd : (kvs.map (·.1)).Nodup) {e : Name × Nat} (he : e ∈ kvs)
    (d : List (Name × Nat)) : dictGet (setAll d kvs) e.1 = some e.2 := by
  induction kvs generalizing d with
  | nil => cases he
  | cons x r ih =>
    rw [List.map_cons, List.nodup_cons] at hnd
    rw [setAll, List.foldl_cons, ← setAll]
    rcases List.mem_cons.mp he with rfl | he
    · rw [dictGet_setAll_other hnd.1, dictGet_dictSet, if_pos rfl]
    · exact ih hnd.2 he _

theorem addQubits_eq (m : QMap) (ns : List Name) :
    m.addQubits ns = ⟨m.numQubits + ns.length, setAll m.entries (ns.zipIdx m.numQubits)⟩ := by
  induction ns generalizing m with
  | nil => rfl
  | cons n r ih =>
    rw [QMap.addQubits, List.foldl_cons, ← QMap.addQubits, ih]
    simp only [QMap.addQubit, List.length_cons, List.zipIdx_cons, setAll, List.foldl_cons, QMap.mk.injEq, and_true]
    omega

theorem addQubits_numQubits (m : QMap) (ns : List Name) :
    (m.addQubits ns).numQubits = m.numQubits + ns.length := by rw [addQubits_eq]

theorem compileMap_entries (inputs : List Name) (steps : List (Name × Nat)) (nq : Nat) :
    (compileMap inputs steps nq).entries = setAll [] (inputs.zipIdx ++ steps) := by
  have : ∀ m : QMap, (steps.foldl (fun m s => m.mapQubit s.1 s.2) m).entries = setAll m.entries steps := by
    induction steps with
    | nil => exact fun _ => rfl
    | cons s r ih => intro m; rw [List.foldl_cons, ih]; rfl
  simp only [compileMap, this, addQubits_eq, setAll, List.foldl_append]

/-- every entry of the qubit map names a qubit of the circuit (the hypothesis `m.WF` of `C05.C05_statement`) -/
def QMap.WF (m : QMap) : Prop := ∀ e ∈ m.entries, e.2 < m.numQubits

theorem outputQubits_some_iff (m : QMap) (bv : List Name) :
    (outputQubits m bv).isSome ↔ ∀ n ∈ bv, (m.get n).isSome := by
  induction bv with
  | nil => simp [outputQubits]
  | cons n ns ih =>
    simp only [outputQubits, List.mem_cons, forall_eq_or_imp]
    rw [← ih]
    cases h1 : m.get n <;> cases h2 : outputQubits m ns <;> simp

theorem outputQubits_eq_some {m : QMap} {bv : List Name} {l : List Nat} :
    outputQubits m bv = some l ↔ bv.map m.get = l.map some := by
  induction bv generalizing l with
  | nil => cases l <;> simp [outputQubits]
  | cons n ns ih =>
    cases l with
    | nil => simp only [outputQubits]; cases m.get n <;> cases outputQubits m ns <;> simp
    | cons q qs =>
      simp only [outputQubits, List.map_cons, List.cons.injEq, ← ih]
      cases m.get n <;> cases outputQubits m ns <;> simp

theorem totalCount_cons {V : Type} (x : V × Nat) (r : List (V × Nat)) :
    totalCount (x :: r) = x.2 + totalCount r := by
  rw [totalCount, List.map_cons, List.sum_cons]; rfl

theorem totalCount_countsAdd {V : Type} [BEq V] (d : List (V × Nat)) (e : V) (c : Nat) :
    totalCount (countsAdd d e c) = totalCount d + c := by
  induction d with
  | nil => rw [countsAdd, totalCount_cons]; exact Nat.add_comm _ _
  | cons x r ih =>
    rw [countsAdd]; split
    · rw [totalCount_cons, totalCount_cons]; omega
    · rw [totalCount_cons, totalCount_cons, ih]; omega

theorem totalCount_fold {K V : Type} [BEq V] (dec : K → V) (counts : List (K × Nat))
    (d0 : List (V × Nat)) :
    totalCount (counts.foldl (fun d e => countsAdd d (dec e.1) e.2) d0)
      = totalCount d0 + totalCount counts := by
  induction counts generalizing d0 with
  | nil => rfl
  | cons x r ih => rw [List.foldl_cons, ih, totalCount_countsAdd, totalCount_cons]; omega

theorem totalCount_filter_le {V : Type} (l : List (V × Nat)) (p : V × Nat → Bool) :
    totalCount (l.filter p) ≤ totalCount l := by
  induction l with
  | nil => exact Nat.le_refl _
  | cons x r ih =>
    rw [List.filter_cons]; split
    · rw [totalCount_cons, totalCount_cons]; omega
    · rw [totalCount_cons]; omega

end QV.Codec
