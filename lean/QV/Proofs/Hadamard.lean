import Mathlib.Tactic.Ring
import QV.Model.Amp
/-!
One layer lemma (`layerM_sum`, for a layer of any one-qubit integer matrix on qubits `0..n-1`) serves the Hadamard
layers of Deutsch-Jozsa / Bernstein-Vazirani / Simon and the `H`, `H X`, `X H` layers of Grover's diffuser; two layers
whose matrices multiply to `2·I` compose to `2^n·I` (`kron_comp`): for `H X` / `X H` this is the diffuser's reflection,
for `H` twice the orthogonality of the characters (`char_orth`, `char_sum_affine`) behind Deutsch-Jozsa for a constant
function and Bernstein-Vazirani.
-/
namespace QV.Amp

theorem sgn_xor (a b : Bool) : sgn (Bool.xor a b) = sgn a * sgn b := by
  cases a <;> cases b <;> rfl

-- `sgn_mul_self`, `sgn_ne_zero`: not used below
theorem sgn_mul_self (a : Bool) : sgn a * sgn a = 1 := by cases a <;> rfl

theorem sgn_ne_zero (a : Bool) : sgn a ≠ 0 := by cases a <;> decide

theorem sumBits_congr (n : Nat) : ∀ (f g : List Bool → Int),
    (∀ x, x.length = n → f x = g x) → sumBits n f = sumBits n g := by
  induction n with
  | zero => intro f g h; exact h [] rfl
  | succ n ih =>
    intro f g h
    simp only [sumBits]
    rw [ih _ _ (fun x hx => h (false :: x) (congrArg (· + 1) hx)),
      ih _ _ (fun x hx => h (true :: x) (congrArg (· + 1) hx))]

theorem sumBits_smul (n : Nat) : ∀ (g : List Bool → Int) (c : Int),
    sumBits n (fun x => c * g x) = c * sumBits n g := by
  induction n with
  | zero => intro g c; rfl
  | succ n ih => intro g c; simp only [sumBits]; rw [ih, ih]; ring

theorem sumBits_add (n : Nat) : ∀ (f g : List Bool → Int),
    sumBits n (fun x => f x + g x) = sumBits n f + sumBits n g := by
  induction n with
  | zero => intro f g; rfl
  | succ n ih => intro f g; simp only [sumBits]; rw [ih, ih]; ring

theorem sumBits_zero (n : Nat) : sumBits n (fun _ => 0) = 0 :=
  (sumBits_smul n (fun _ => 0) 0).trans (Int.zero_mul _)

theorem sumBits_one (n : Nat) : sumBits n (fun _ => 1) = 2 ^ n := by
  induction n with
  | zero => rfl
  | succ n ih => simp only [sumBits]; rw [ih]; ring

theorem sumBits_single (n : Nat) : ∀ (a : List Bool) (g : List Bool → Int), a.length = n →
    sumBits n (fun x => if x = a then g x else 0) = g a := by
  induction n with
  | zero =>
    intro a g h
    obtain rfl : a = [] := List.length_eq_zero_iff.mp h
    show (if ([] : List Bool) = [] then g [] else 0) = g []
    exact if_pos rfl
  | succ n ih =>
    intro a g h
    match a, h with
    | b :: a', h =>
      -- the half of the sum whose first bit is `c`
      have key : ∀ c : Bool, sumBits n (fun t => if c :: t = b :: a' then g (c :: t) else 0)
          = if c = b then g (b :: a') else 0 := by
        intro c
        by_cases hc : c = b
        · subst hc
          rw [if_pos rfl, ← ih a' (fun t => g (c :: t)) (Nat.succ.inj h)]
          apply sumBits_congr; intro t _
          simp only [List.cons.injEq, true_and]
        · rw [if_neg hc]
          exact (sumBits_congr n _ (fun _ => 0)
            (fun t _ => if_neg (fun e => hc (List.cons.inj e).1))).trans (sumBits_zero n)
      rw [sumBits, key, key]
      cases b <;> simp

theorem sumBits_eq_single (n : Nat) (a : List Bool) (g : List Bool → Int) (ha : a.length = n)
    (h : ∀ x, x.length = n → x ≠ a → g x = 0) : sumBits n g = g a := by
  rw [← sumBits_single n a g ha]
  apply sumBits_congr; intro x hx
  by_cases e : x = a
  · rw [if_pos e]
  · rw [if_neg e, h x hx e]

theorem sumBits_pair (n : Nat) (a b : List Bool) (g : List Bool → Int) (ha : a.length = n)
    (hb : b.length = n) (hab : a ≠ b) :
    sumBits n (fun x => if x = a ∨ x = b then g x else 0) = g a + g b := by
  rw [← sumBits_single n a g ha, ← sumBits_single n b g hb, ← sumBits_add]
  apply sumBits_congr
  intro x _
  by_cases h1 : x = a
  · rw [if_pos (Or.inl h1), if_pos h1, if_neg (fun e => hab (h1.symm.trans e)), Int.add_zero]
  · by_cases h2 : x = b
    · rw [if_pos (Or.inr h2), if_neg h1, if_pos h2, Int.zero_add]
    · rw [if_neg (fun e => e.elim h1 h2), if_neg h1, if_neg h2, Int.add_zero]

theorem sumBits_eq_pair (n : Nat) (a b : List Bool) (g : List Bool → Int) (ha : a.length = n)
    (hb : b.length = n) (hab : a ≠ b) (h : ∀ x, x.length = n → x ≠ a → x ≠ b → g x = 0) :
    sumBits n g = g a + g b := by
  rw [← sumBits_pair n a b g ha hb hab]
  apply sumBits_congr; intro x hx
  by_cases e : x = a ∨ x = b
  · rw [if_pos e]
  · rw [if_neg e, h x hx (fun e' => e (Or.inl e')) (fun e' => e (Or.inr e'))]

theorem sumBits_ite (n : Nat) : ∀ (f : List Bool → Bool) (a b : Int),
    sumBits n (fun x => if f x then a else b)
      = (countBits n f : Int) * a + (2 ^ n - (countBits n f : Int)) * b := by
  induction n with
  | zero => intro f a b; cases h : f [] <;> simp [sumBits, countBits, h]
  | succ n ih =>
    intro f a b
    simp only [sumBits, countBits]
    rw [ih, ih]
    push_cast
    ring

theorem sum_sgn_count (n : Nat) (f : List Bool → Bool) :
    sumBits n (fun x => sgn (f x)) = 2 ^ n - 2 * (countBits n f : Int) := by
  simp only [sgn]
  rw [sumBits_ite]; ring

theorem sumBits_snoc (m : Nat) : ∀ F : List Bool → Int,
    sumBits (m + 1) F = sumBits m (fun mid => F (mid ++ [false]) + F (mid ++ [true])) := by
  induction m with
  | zero => intro F; rfl
  | succ m ih =>
    intro F
    rw [sumBits, ih, ih, sumBits]
    rfl

end QV.Amp

-- `kron` and `hM` are the `QV.Grover.kron`, `QV.Grover.hM` of the C15 statements; they are defined here, in
-- their namespace, because the layer lemma below is stated with them and C16 needs it as well
namespace QV.Grover
open QV.Amp (sumBits sgn)

/-- matrix element of `m ⊗ … ⊗ m` -/
def kron (m : Bool → Bool → Int) : List Bool → List Bool → Int
  | b :: y, c :: x => m b c * kron m y x
  | _, _ => 1

/-- entry `(b, c)` of the unnormalised Hadamard matrix, `(-1)^{b·c}` -/
def hM (b c : Bool) : Int := sgn (b && c)

end QV.Grover

namespace QV.Amp
open QV.Grover (kron hM)

/-- the one-qubit matrix `m` (row = output bit, column = input bit) on qubit `i` -/
def app1 (m : Bool → Bool → Int) (i : Nat) (ψ : State) : State := fun s =>
  m (s.getD i false) false * ψ (s.set i false) + m (s.getD i false) true * ψ (s.set i true)

def layerM (m : Bool → Bool → Int) : Nat → State → State
  | 0, ψ => ψ
  | n + 1, ψ => app1 m n (layerM m n ψ)

theorem layerM_cons (m : Bool → Bool → Int) (n : Nat) : ∀ (ψ : State) (b : Bool) (t : List Bool),
    layerM m (n + 1) ψ (b :: t) =
      m b false * layerM m n (fun t' => ψ (false :: t')) t
        + m b true * layerM m n (fun t' => ψ (true :: t')) t := by
  induction n with
  | zero => intro ψ b t; rfl
  | succ n ih =>
    intro ψ b t
    show app1 m (n + 1) (layerM m (n + 1) ψ) (b :: t) = _
    show _ = m b false * app1 m n (layerM m n _) t + m b true * app1 m n (layerM m n _) t
    unfold app1
    simp only [List.set_cons_succ, List.getD_cons_succ, ih]
    ring

theorem layerM_sum (m : Bool → Bool → Int) (n : Nat) : ∀ (ψ : State) (y r : List Bool),
    y.length = n →
    layerM m n ψ (y ++ r) = sumBits n (fun x => kron m y x * ψ (x ++ r)) := by
  induction n with
  | zero =>
    intro ψ y r h
    obtain rfl : y = [] := List.length_eq_zero_iff.mp h
    exact (Int.one_mul _).symm
  | succ n ih =>
    intro ψ y r h
    match y, h with
    | b :: y', h =>
      have h' : y'.length = n := Nat.succ.inj h
      rw [List.cons_append, layerM_cons, ih _ y' r h', ih _ y' r h']
      simp only [sumBits, kron, List.cons_append]
      rw [← sumBits_smul, ← sumBits_smul]
      congr 1 <;> (apply sumBits_congr; intro x _; ring)

theorem flatMap_range_succ {α : Type} (gs : Nat → List α) (n : Nat) :
    (List.range (n + 1)).flatMap gs = (List.range n).flatMap gs ++ gs n := by
  rw [List.range_succ, List.flatMap_append, List.flatMap_cons, List.flatMap_nil, List.append_nil]

/-- gate lists `gs i` that act as the one-qubit matrix `m` on qubit `i`, for `i = 0..n-1`, make a layer of `m`;
`ap` is the action of one gate (`Amp.applyGate` for C16, `Grover.applyWave` for C15) -/
theorem foldl_layer (ap : AGate → State → State) (gs : Nat → List AGate) (m : Bool → Bool → Int)
    (h : ∀ (i : Nat) (ψ : State) (s : List Bool), i < s.length →
      (gs i).foldl (fun ψ g => ap g ψ) ψ s = app1 m i ψ s)
    (n : Nat) (ψ : State) : ∀ (s : List Bool), n ≤ s.length →
    ((List.range n).flatMap gs).foldl (fun ψ g => ap g ψ) ψ s = layerM m n ψ s := by
  induction n with
  | zero => intro s _; rfl
  | succ n ih =>
    intro s hs
    rw [flatMap_range_succ, List.foldl_append, h n _ s hs]
    show app1 m n _ s = app1 m n _ s
    unfold app1
    rw [ih (s.set n false) (by rw [List.length_set]; omega), ih (s.set n true) (by rw [List.length_set]; omega)]

theorem sumBits_lin (n : Nat) (K P Q : List Bool → Int) (α β γ : Int) :
    sumBits n (fun y => α * K y * (β * P y + γ * Q y))
      = α * β * sumBits n (fun y => K y * P y) + α * γ * sumBits n (fun y => K y * Q y) := by
  rw [← sumBits_smul, ← sumBits_smul, ← sumBits_add]
  apply sumBits_congr; intro y _; ring

theorem kron_comp (m1 m2 : Bool → Bool → Int)
    (hm : ∀ c a, m2 c false * m1 false a + m2 c true * m1 true a = if c = a then 2 else 0)
    (n : Nat) : ∀ (g : List Bool → Int) (z : List Bool), z.length = n →
    sumBits n (fun y => kron m2 z y * sumBits n (fun x => kron m1 y x * g x)) = 2 ^ n * g z := by
  induction n with
  | zero =>
    intro g z h
    have : z = [] := List.length_eq_zero_iff.mp h
    subst this; simp [sumBits, kron]
  | succ n ih =>
    intro g z h
    cases z with
    | nil => simp at h
    | cons c z' =>
      simp only [List.length_cons, Nat.add_right_cancel_iff] at h
      have inner : ∀ (b a : Bool) (y' : List Bool),
          sumBits n (fun x' => kron m1 (b :: y') (a :: x') * g (a :: x'))
            = m1 b a * sumBits n (fun x' => kron m1 y' x' * g (a :: x')) := by
        intro b a y'
        rw [← sumBits_smul]
        apply sumBits_congr; intro x _; simp only [kron]; ring
      simp only [sumBits]
      simp only [inner]
      simp only [kron]
      rw [sumBits_lin n (fun y => kron m2 z' y), sumBits_lin n (fun y => kron m2 z' y)]
      rw [ih (fun x => g (false :: x)) z' h, ih (fun x => g (true :: x)) z' h]
      calc _ = (m2 c false * m1 false false + m2 c true * m1 true false) * (2 ^ n * g (false :: z'))
            + (m2 c false * m1 false true + m2 c true * m1 true true) * (2 ^ n * g (true :: z')) := by
            ring
        _ = _ := by
            rw [hm c false, hm c true]
            cases c <;> simp only [Bool.false_eq_true, Bool.true_eq_false, if_true, if_false] <;> ring

theorem kron_hM : ∀ (y x : List Bool), kron hM y x = sgn (dot x y)
  | [], x => by cases x <;> rfl
  | _ :: _, [] => rfl
  | b :: y, c :: x => by rw [kron, dot, sgn_xor, kron_hM y x, hM, Bool.and_comm]

theorem dot_comm : ∀ (a b : List Bool), dot a b = dot b a
  | [], [] => rfl
  | [], _ :: _ => rfl
  | _ :: _, [] => rfl
  | a :: as, b :: bs => by rw [dot, dot, dot_comm as bs, Bool.and_comm]

theorem zeros_length (n : Nat) : (zeros n).length = n := List.length_replicate

theorem dot_zeros_right : ∀ (n : Nat) (x : List Bool), dot x (zeros n) = false
  | 0, x => by cases x <;> rfl
  | _ + 1, [] => rfl
  | n + 1, a :: x => by
    show Bool.xor (a && false) (dot x (zeros n)) = false
    rw [dot_zeros_right n x, Bool.and_false]; rfl

theorem dot_xor : ∀ (x y s : List Bool), y.length = s.length →
    Bool.xor (dot x y) (dot x s) = dot x (xorBits y s)
  | x, [], [], _ => by cases x <;> rfl
  | [], _ :: _, _ :: _, _ => rfl
  | a :: x, b :: y, c :: s, h => by
    show _ = Bool.xor (a && Bool.xor b c) (dot x (xorBits y s))
    rw [← dot_xor x y s (Nat.succ.inj h), dot, dot]
    generalize dot x y = p, dot x s = q
    clear h; revert a b c p q; decide
  | _, [], _ :: _, h | _, _ :: _, [], h => by cases h

theorem xorBits_length (y s : List Bool) (h : y.length = s.length) : (xorBits y s).length = y.length := by
  simp [xorBits, h]

theorem xorBits_ne_self : ∀ (x s : List Bool), x.length = s.length → s ≠ zeros s.length → xorBits x s ≠ x
  | [], [], _, h => absurd rfl h
  | a :: x, b :: s, hl, h => by
    intro e
    obtain ⟨hab, hxs⟩ := List.cons.inj e
    -- `a ⊕ b = a` forces `b = 0`, so it is the tail of `s` that is not zero
    have hb : b = false := by revert hab; cases a <;> cases b <;> decide
    subst hb
    exact xorBits_ne_self x s (Nat.succ.inj hl) (fun e' => h (congrArg (false :: ·) e')) hxs
  | [], _ :: _, hl, _ | _ :: _, [], hl, _ => by cases hl

theorem dot_xorBits_left (x s y : List Bool) (h : x.length = s.length) :
    dot (xorBits x s) y = Bool.xor (dot x y) (dot s y) := by
  rw [dot_comm, ← dot_xor y x s h, dot_comm y x, dot_comm y s]

theorem hM_hM (c a : Bool) : hM c false * hM false a + hM c true * hM true a = if c = a then 2 else 0 := by
  cases c <;> cases a <;> rfl

/-- character orthogonality: `H^{⊗n}` twice is `2^n·I` (`kron_comp`), read at the basis vector `s` -/
theorem char_orth (n : Nat) (s y : List Bool) (hs : s.length = n) (hy : y.length = n) :
    sumBits n (fun x => sgn (dot x y) * sgn (dot x s)) = if y = s then 2 ^ n else 0 := by
  have key := kron_comp hM hM hM_hM n (fun w => if w = s then 1 else 0) y hy
  rw [mul_ite, Int.mul_one, Int.mul_zero] at key
  rw [← key]
  apply sumBits_congr; intro x _
  rw [sumBits_eq_single n s _ hs (fun w _ hw => by rw [if_neg hw, Int.mul_zero]), if_pos rfl, Int.mul_one,
    kron_hM, kron_hM, dot_comm s x]

/-- the character sum against an affine function `x ↦ c ⊕ x·s`: all of the weight sits at `y = s`
(`s = 0`: a constant function, Deutsch-Jozsa; `c = 0`: Bernstein-Vazirani) -/
theorem char_sum_affine (n : Nat) (f : List Bool → Bool) (c : Bool) (s y : List Bool)
    (hs : s.length = n) (hy : y.length = n)
    (hf : ∀ x : List Bool, x.length = n → f x = Bool.xor c (dot x s)) :
    sumBits n (fun x => sgn (dot x y) * sgn (f x)) = if y = s then sgn c * 2 ^ n else 0 := by
  rw [sumBits_congr n _ (fun x => sgn c * (sgn (dot x y) * sgn (dot x s))) (fun x hx => by
      rw [hf x hx, sgn_xor]; ring), sumBits_smul, char_orth n s y hs hy, mul_ite, Int.mul_zero]

theorem ket0_append : ∀ (x r : List Bool), ket0 (x ++ r) = if x = zeros x.length then ket0 r else 0
  | [], _ => rfl
  | false :: x, r => by
    show ket0 (x ++ r) = _
    rw [ket0_append x r]
    exact if_congr (List.cons_inj_right false).symm rfl rfl
  | true :: x, r => (if_neg (fun e => Bool.noConfusion (List.cons.inj e).1)).symm

theorem sum_ket0 (n : Nat) (y r : List Bool) :
    sumBits n (fun x => sgn (dot x y) * ket0 (x ++ r)) = ket0 r := by
  rw [sumBits_eq_single n (zeros n) _ (zeros_length n) (fun x hx hne => by
      rw [ket0_append, hx, if_neg hne, Int.mul_zero]),
    ket0_append, zeros_length, if_pos rfl, dot_comm, dot_zeros_right]
  exact Int.one_mul _

end QV.Amp
