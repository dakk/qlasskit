import QV.Proofs.FrontSound
import QV.Proofs.SemTForms
/-! On the fragment `inFrag` and an environment of bool / Qint values, `semT` is `semW` (no value of another type can
arise, no site `wellT` excludes is reached), and a value that denotes `sv.toT` in the sense of `DenT` denotes `sv` in
the sense of `Den`.
The hypotheses on environments: `EnvOK ρ env σ` (of `C01_expr`) says only that every name translates soundly, nothing about
bindings; `EnvOKT` / `EnvOKN` (`FrontSound.lean`) say it binding by binding (bit names, type, value decoded from the symbols) and
`EnvInvT` adds dot-free names; `EnvLe σ σT`: `σT` gives every variable of `σ` the same value; `EnvAgree` / `EnvAgreeT`: a
fixed-width and an exact environment agree variable by variable. -/
namespace QV.Sem
open QV.Front

def EnvOK (ρ : QV.Env) (env : Front.Env) (σ : SEnv) : Prop := ∀ n, Sound ρ env σ (.name n)

theorem denT_toT {ρ : QV.Env} {t : Ty} {v : Val} {sv : SVal} (h : Den ρ t v sv) : DenT ρ t v sv.toT := by
  cases h with
  | bool a => exact DenT.bool a
  | int bits => exact DenT.int bits

theorem den_of_denT {ρ : QV.Env} {t : Ty} {v : Val} {sv : SVal} (h : DenT ρ t v sv.toT) : Den ρ t v sv := by
  cases sv with
  | bool b => cases h; exact Den.bool _
  | int w x => cases h; exact Den.int _

mutual
theorem semT_toT (σ : SEnv) : ∀ e : PExp, inFrag e = true →
    semT σ.toT e = (semW σ e).map SVal.toT ∧ wellT σ.toT e = true
  | .name n, _ => ⟨rfl, rfl⟩
  | .cbool b, _ => ⟨rfl, rfl⟩
  | .cint c, _ => ⟨by simp only [semT, semW]; cases constWidth c <;> rfl, rfl⟩
  | .not e, h => by
    obtain ⟨h1, h2⟩ := semT_toT σ e (by simpa only [inFrag] using h)
    exact ⟨by rw [semT_not, h1]; exact (semWT_not σ e).symm, by simpa only [wellT] using h2⟩
  | .inv e, h => by
    obtain ⟨h1, h2⟩ := semT_toT σ e (by simpa only [inFrag] using h)
    exact ⟨by rw [semT_inv, h1]; exact (semWT_inv σ e).symm,
      by simp only [wellT, h2, h1, isCharO_toT, Bool.not_false, Bool.and_self]⟩
  | .boolop isAnd vs, h => by
    obtain ⟨h1, h2⟩ := semTList_toT σ vs (by simpa only [inFrag] using h)
    exact ⟨by rw [semT_boolop, h1]; exact (semWT_boolop σ isAnd vs).symm, by simpa only [wellT] using h2⟩
  | .ite c a b, h => by
    simp only [inFrag, Bool.and_eq_true] at h
    obtain ⟨c1, c2⟩ := semT_toT σ c h.1.1
    obtain ⟨a1, a2⟩ := semT_toT σ a h.1.2
    obtain ⟨b1, b2⟩ := semT_toT σ b h.2
    exact ⟨by rw [semT_ite, c1, a1, b1]; exact (semWT_ite σ c a b).symm,
      by simp only [wellT, c2, a2, b2, a1, b1, isCharO_toT, Bool.false_and, Bool.and_false, Bool.or_self,
        Bool.not_false, Bool.and_self]⟩
  | .cmp op l r, h => by
    simp only [inFrag, Bool.and_eq_true] at h
    obtain ⟨l1, l2⟩ := semT_toT σ l h.1.2
    obtain ⟨r1, r2⟩ := semT_toT σ r h.2
    exact ⟨by rw [semT_cmp, l1, r1]; exact (semWT_cmp σ op l r).symm, by simp only [wellT, l2, r2, Bool.and_self]⟩
  | .bin op l r, h => by
    simp only [inFrag, Bool.and_eq_true] at h
    obtain ⟨l1, l2⟩ := semT_toT σ l h.1.2
    obtain ⟨r1, r2⟩ := semT_toT σ r h.2
    exact ⟨by rw [semT_bin, l1, r1]; exact (semWT_bin σ op l r).symm, by simp only [wellT, l2, r2, Bool.and_self]⟩
  | .cchar _, h => by simp [inFrag] at h
  | .subs _ _, h => by simp [inFrag] at h
  | .tuple _, h => by simp [inFrag] at h
  | .unsupported _, h => by simp [inFrag] at h
theorem semTList_toT (σ : SEnv) : ∀ es : List PExp, inFragList es = true →
    semTList σ.toT es = (semWList σ es).map (List.map SVal.toT) ∧ wellTList σ.toT es = true
  | [], _ => ⟨rfl, rfl⟩
  | e :: es, h => by
    simp only [inFragList, Bool.and_eq_true] at h
    obtain ⟨h1, h2⟩ := semT_toT σ e h.1
    obtain ⟨h3, h4⟩ := semTList_toT σ es h.2
    exact ⟨by rw [semTList_cons, h1, h3]; exact (semWTList_cons σ e es).symm,
      by simp only [wellTList, h2, h4, Bool.and_self]⟩
end

mutual
theorem wellT_of_semT (σ : TEnv) : ∀ (e : PExp) (v : TVal), semT σ e = some v → wellT σ e = true
  | .name _, _, _ => rfl
  | .cbool _, _, _ => rfl
  | .cint _, _, _ => rfl
  | .cchar _, _, _ => rfl
  | .unsupported _, _, _ => rfl
  | .subs n p, v, h => by simp only [wellT, h, Option.isSome_some]
  | .tuple es, v, h => by
    rw [semT_tuple] at h
    obtain ⟨xs, hxs, _⟩ := Option.map_eq_some_iff.mp h
    simpa only [wellT] using wellTList_of_semTList σ es xs hxs
  | .not e, v, h => by
    rw [semT_not] at h
    obtain ⟨x, hx, _⟩ := Option.bind_eq_some_iff.mp h
    simpa only [wellT] using wellT_of_semT σ e x hx
  | .inv e, v, h => by
    rw [semT_inv] at h
    obtain ⟨x, hx, hv⟩ := Option.bind_eq_some_iff.mp h
    cases x <;> simp only [invT, reduceCtorEq] at hv
    simp only [wellT, wellT_of_semT σ e _ hx, hx, isCharO, Bool.not_false, Bool.and_self]
  | .boolop _ vs, v, h => by
    rw [semT_boolop] at h
    obtain ⟨xs, hxs, _⟩ := Option.bind_eq_some_iff.mp h
    simpa only [wellT] using wellTList_of_semTList σ vs xs hxs
  | .ite c a b, v, h => by
    rw [semT_ite] at h
    obtain ⟨cv, hc, h⟩ := Option.bind_eq_some_iff.mp h
    obtain ⟨x, ha, h⟩ := Option.bind_eq_some_iff.mp h
    obtain ⟨y, hb, h⟩ := Option.bind_eq_some_iff.mp h
    simp only [wellT, wellT_of_semT σ c _ hc, wellT_of_semT σ a _ ha, wellT_of_semT σ b _ hb, ha, hb]
    cases cv <;> cases x <;> cases y <;> first | rfl | simp [iteT] at h
  | .cmp _ l r, v, h => by
    rw [semT_cmp] at h
    obtain ⟨x, hl, h⟩ := Option.bind_eq_some_iff.mp h
    obtain ⟨y, hr, _⟩ := Option.bind_eq_some_iff.mp h
    simp only [wellT, wellT_of_semT σ l _ hl, wellT_of_semT σ r _ hr, Bool.and_self]
  | .bin op l r, v, h => by
    rw [semT_bin] at h
    obtain ⟨x, hl, h⟩ := Option.bind_eq_some_iff.mp h
    split at h
    · obtain ⟨k, rfl⟩ := shiftT_some h
      simp only [wellT, wellT_of_semT σ l _ hl, Bool.and_self]
    · obtain ⟨y, hr, _⟩ := Option.bind_eq_some_iff.mp h
      simp only [wellT, wellT_of_semT σ l _ hl, wellT_of_semT σ r _ hr, Bool.and_self]
theorem wellTList_of_semTList (σ : TEnv) : ∀ (es : List PExp) (vs : List TVal), semTList σ es = some vs →
    wellTList σ es = true
  | [], _, _ => rfl
  | e :: es, vs, h => by
    rw [semTList_cons] at h
    obtain ⟨x, hx, h⟩ := Option.bind_eq_some_iff.mp h
    obtain ⟨xs, hxs, _⟩ := Option.map_eq_some_iff.mp h
    simp only [wellTList, wellT_of_semT σ e x hx, wellTList_of_semTList σ es xs hxs, Bool.and_self]
end

theorem semT_of_semW (σ : SEnv) (σT : TEnv) (hle : EnvLe σ σT) :
    ∀ (e : PExp) (sv : SVal), semW σ e = some sv → semT σT e = some sv.toT ∧ wellT σT e = true := by
  intro e sv h
  have h1 := semT_le σ σT hle e sv.toT (by simp only [semWT, h, Option.map_some])
  exact ⟨h1, wellT_of_semT σT e _ h1⟩

theorem semTList_of_semWList (σ : SEnv) (σT : TEnv) (hle : EnvLe σ σT) :
    ∀ (es : List PExp) (svs : List SVal), semWList σ es = some svs →
      semTList σT es = some (svs.map SVal.toT) ∧ wellTList σT es = true := by
  intro es svs h
  have h1 := semTList_le σ σT hle es (svs.map SVal.toT) (by simp only [semWTList, h, Option.map_some])
  exact ⟨h1, wellTList_of_semTList σT es _ h1⟩

theorem envLe_set {σ : SEnv} {σT : TEnv} (hle : EnvLe σ σT) (t : String) (sv : SVal) :
    EnvLe (σ.set t sv) (σT.set t sv.toT) := by
  intro n x hx
  by_cases hn : n = t
  · subst hn
    simp only [SEnv.set, beq_self_eq_true, if_true, Option.some.injEq] at hx
    simp [TEnv.set, hx]
  · simp only [SEnv.set, beq_iff_eq, hn, if_false] at hx
    simp only [TEnv.set, beq_iff_eq, hn, if_false]
    exact hle n x hx

theorem wellRet_of_coerceRetT {ret : Ty} {v r : TVal} (h : coerceRetT ret v = some r) :
    wellRet ret (some v) = true := by
  cases v <;> cases ret <;> first | rfl | cases h

theorem wellBody_of_semBodyT (ret : Ty) : ∀ (ss : List Stmt) (σ : TEnv) (v : TVal),
    semBodyT ret σ ss = some v → wellBody ret σ ss = true
  | [], _, _, h => by simp [semBodyT] at h
  | .assign t e :: ss, σ, v, h => by
    rw [semBodyT_assign] at h
    obtain ⟨x, hx, h⟩ := Option.bind_eq_some_iff.mp h
    simp only [wellBody, wellT_of_semT σ e x hx, hx, wellBody_of_semBodyT ret ss _ v h, Bool.and_self]
  | .ret e :: _, σ, v, h => by
    rw [semBodyT_ret] at h
    obtain ⟨x, hx, h⟩ := Option.bind_eq_some_iff.mp h
    simp only [wellBody, wellT_of_semT σ e x hx, hx, wellRet_of_coerceRetT h, Bool.and_self]
  | .expr _ :: ss, σ, v, h => by
    simpa only [wellBody] using wellBody_of_semBodyT ret ss σ v (by simpa only [semBodyT] using h)
  | .unsupported _ :: _, _, _, h => by simp [semBodyT] at h

theorem semBodyT_le (ret : Ty) : ∀ (ss : List Stmt) (σ : SEnv) (σT : TEnv), EnvLe σ σT →
    OLe ((semBody ret σ ss).map SVal.toT) (semBodyT ret σT ss)
  | [], _, _, _ => OLe.none
  | .assign t e :: ss, σ, σT, hle => fun v h => by
    simp only [semBody] at h
    cases hv : semW σ e with
    | none => simp [hv] at h
    | some sv =>
      rw [hv] at h
      rw [semBodyT_assign, semT_le σ σT hle e sv.toT (by simp only [semWT, hv, Option.map_some])]
      exact semBodyT_le ret ss _ _ (envLe_set hle t sv) v h
  | .ret e :: _, σ, σT, hle => fun v h => by
    simp only [semBody] at h
    cases hv : semW σ e with
    | none => simp [hv] at h
    | some sv =>
      rw [hv] at h
      rw [semBodyT_ret, semT_le σ σT hle e sv.toT (by simp only [semWT, hv, Option.map_some])]
      exact (coerceRetT_of_toT ret sv).trans h
  | .expr _ :: ss, σ, σT, hle => by simpa only [semBody, semBodyT] using semBodyT_le ret ss σ σT hle
  | .unsupported _ :: _, _, _, _ => OLe.none

theorem semBodyT_of_semBody (ret : Ty) (ss : List Stmt) (σ : SEnv) (σT : TEnv) (sv : SVal) (hle : EnvLe σ σT)
    (h : semBody ret σ ss = some sv) : semBodyT ret σT ss = some sv.toT ∧ wellBody ret σT ss = true := by
  have h1 := semBodyT_le ret ss σ σT hle sv.toT (by rw [h]; rfl)
  exact ⟨h1, wellBody_of_semBodyT ret ss σT _ h1⟩

theorem envLe_args (args : List (String × Ty)) (ρ : QV.Env) : EnvLe (argsEnv args ρ) (argsEnvT args ρ) := by
  intro n sv h
  simp only [argsEnv] at h
  simp only [argsEnvT]
  cases hf : args.find? (·.1 == n) with
  | none => simp [hf] at h
  | some p =>
    obtain ⟨m, ty⟩ := p
    simp only [hf] at h ⊢
    cases ty with
    | bool => simp only [decodeArg, Option.some.injEq] at h; rw [← h]; rfl
    | qint w => simp only [decodeArg, Option.some.injEq] at h; rw [← h]; rfl
    | qchar => simp [decodeArg] at h
    | tuple _ => simp [decodeArg] at h

theorem semProgT_of_semProg (p : Prog) (ρ : QV.Env) (sv : SVal) (h : semProg p ρ = some sv) :
    semProgT p ρ = some sv.toT ∧ wellProg p ρ = true :=
  semBodyT_of_semBody p.ret p.body _ _ sv (envLe_args p.args ρ) h

/- the induction of `soundT_all` with the name case as a hypothesis: `EnvOK` says nothing about bindings -/

mutual
theorem soundT_frag (ρ : QV.Env) (env : Front.Env) (σ : TEnv) (hn : ∀ n, SoundT ρ env σ (.name n)) :
    ∀ e : PExp, inFrag e = true → SoundT ρ env σ e
  | .name n, _ => hn n
  | .cbool b, _ => soundT_cbool ρ env σ b
  | .cint c, _ => soundT_cint ρ env σ c
  | .not e, h => soundT_not ρ env σ e (soundT_frag ρ env σ hn e (by simpa only [inFrag] using h))
  | .inv e, h => soundT_inv ρ env σ e (soundT_frag ρ env σ hn e (by simpa only [inFrag] using h))
  | .boolop isAnd vs, h =>
    soundT_boolop ρ env σ isAnd vs (soundT_frag_list ρ env σ hn vs (by simpa only [inFrag] using h))
  | .ite c t e, h => by
    simp only [inFrag, Bool.and_eq_true] at h
    exact soundT_ite ρ env σ c t e (soundT_frag ρ env σ hn c h.1.1) (soundT_frag ρ env σ hn t h.1.2)
      (soundT_frag ρ env σ hn e h.2)
  | .cmp op l r, h => by
    simp only [inFrag, Bool.and_eq_true] at h
    exact soundT_cmp ρ env σ op h.1.1 l r (soundT_frag ρ env σ hn l h.1.2) (soundT_frag ρ env σ hn r h.2)
  | .bin op l r, h => by
    simp only [inFrag, Bool.and_eq_true] at h
    exact soundT_bin ρ env σ op l r (soundT_frag ρ env σ hn l h.1.2) (soundT_frag ρ env σ hn r h.2)
  | .cchar _, h => by simp [inFrag] at h
  | .subs _ _, h => by simp [inFrag] at h
  | .tuple _, h => by simp [inFrag] at h
  | .unsupported _, h => by simp [inFrag] at h
termination_by structural e => e
theorem soundT_frag_list (ρ : QV.Env) (env : Front.Env) (σ : TEnv) (hn : ∀ n, SoundT ρ env σ (.name n)) :
    ∀ es : List PExp, inFragList es = true → ∀ e ∈ es, SoundT ρ env σ e
  | [], _ => fun _ he => nomatch he
  | e :: es, h => by
    simp only [inFragList, Bool.and_eq_true] at h
    intro e' he'
    simp only [List.mem_cons] at he'
    rcases he' with he' | he'
    · rw [he']; exact soundT_frag ρ env σ hn e h.1
    · exact soundT_frag_list ρ env σ hn es h.2 e' he'
termination_by structural es => es
end

theorem sound_all (ρ : QV.Env) (env : Front.Env) (σ : SEnv) (henv : EnvOK ρ env σ) :
    ∀ e : PExp, inFrag e = true → Sound ρ env σ e := by
  intro e he s t v s' htr
  have hn : ∀ n, SoundT ρ env σ.toT (.name n) := by
    intro n s t v s' _ h
    obtain ⟨sv, hs, hd⟩ := henv n s t v s' h
    exact ⟨sv.toT, by rw [(semT_toT σ (.name n) rfl).1, hs]; rfl, denT_toT hd⟩
  obtain ⟨hsem, hwell⟩ := semT_toT σ e he
  obtain ⟨tv, hs, hd⟩ := soundT_frag ρ env σ.toT hn e he s t v s' hwell htr
  rw [hsem] at hs
  obtain ⟨sv, hw, rfl⟩ := Option.map_eq_some_iff.mp hs
  exact ⟨sv, hw, den_of_denT hd⟩

end QV.Sem
