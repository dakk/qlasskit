/-! Python's insertion-ordered `dict` as an association list with string keys: the first binding of a key is
the binding; `d[k] = v` overwrites in place or appends.  The models spell the two functions out once per part of
qlasskit: `Compiler.dictGet?` / `dictSet`, `Api.dictGet` / `dictSet`, `CircuitOps.dictSet`, `Call.dictSet` and
`A2A.lookup` are `get?` / `set` by `rfl`; `Call.lookup` is the recursive spelling (`Call.lookup_eq_get?`).  The
`Name`-keyed map of `Model/Codec` is not an instance: its lemmas are in `Proofs/Codec`. -/
namespace QV.Assoc
variable {β : Type}

def get? (d : List (String × β)) (k : String) : Option β := (d.find? (·.1 == k)).map (·.2)

def set (d : List (String × β)) (k : String) (v : β) : List (String × β) :=
  if d.any (·.1 == k) then d.map (fun p => if p.1 == k then (k, v) else p) else d ++ [(k, v)]

@[simp] theorem get?_nil (k : String) : get? ([] : List (String × β)) k = none := rfl

theorem get?_cons (k' : String) (v : β) (d : List (String × β)) (k : String) :
    get? ((k', v) :: d) k = if k' = k then some v else get? d k := by
  unfold get?
  by_cases h : k' = k <;> simp [h]

theorem get?_isSome (d : List (String × β)) (k : String) : (get? d k).isSome = d.any (·.1 == k) := by
  induction d with
  | nil => rfl
  | cons p d ih => obtain ⟨k', v⟩ := p; rw [get?_cons]; by_cases h : k' = k <;> simp [h, ih]

theorem get?_eq_none (d : List (String × β)) (k : String) : get? d k = none ↔ ∀ p ∈ d, p.1 ≠ k := by
  simp [get?, List.find?_eq_none]

theorem get?_mem {d : List (String × β)} {k : String} {v : β} (h : get? d k = some v) : (k, v) ∈ d := by
  induction d with
  | nil => cases h
  | cons p d ih =>
    obtain ⟨k', w⟩ := p
    rw [get?_cons] at h
    by_cases hk : k' = k
    · simp only [hk, if_true, Option.some.injEq] at h; simp [hk, h]
    · simp only [hk, if_false] at h; exact List.mem_cons_of_mem _ (ih h)

theorem get?_append_single (d : List (String × β)) (k : String) (v : β) (x : String) :
    get? (d ++ [(k, v)]) x = (get? d x).or (if k = x then some v else none) := by
  induction d with
  | nil => simp [get?_cons]
  | cons p d ih => obtain ⟨k', w⟩ := p; rw [List.cons_append, get?_cons, get?_cons]; split <;> simp [ih]

theorem get?_map_upd (d : List (String × β)) (k : String) (v : β) (x : String) :
    get? (d.map (fun p => if p.1 == k then (k, v) else p)) x
      = if x = k then (if d.any (·.1 == k) then some v else none) else get? d x := by
  induction d with
  | nil => simp
  | cons p d ih =>
    obtain ⟨k', w⟩ := p
    by_cases hk : k' = k
    · subst hk
      simp only [List.map_cons, List.any_cons, beq_self_eq_true, if_true, Bool.true_or, get?_cons, ih]
      by_cases hx : x = k'
      · simp [hx]
      · simp [hx, Ne.symm hx]
    · have hb : (k' == k) = false := by simpa using hk
      simp only [List.map_cons, List.any_cons, hb, Bool.false_eq_true, if_false, Bool.false_or, get?_cons, ih]
      by_cases hx : x = k
      · subst hx; simp [hk]
      · simp [hx]

theorem get?_set (d : List (String × β)) (k : String) (v : β) (x : String) :
    get? (set d k v) x = if x = k then some v else get? d x := by
  unfold set
  split
  · next h => rw [get?_map_upd, h]; rfl
  · next h =>
    rw [get?_append_single]
    by_cases hx : x = k
    · subst hx
      have : get? d x = none := by
        rw [← Option.not_isSome_iff_eq_none, get?_isSome]; exact h
      simp [this]
    · have : ¬ k = x := fun e => hx e.symm
      simp [hx, this]

theorem mem_set {d : List (String × β)} {k : String} {v : β} {p : String × β} (h : p ∈ set d k v) :
    p = (k, v) ∨ p ∈ d := by
  unfold set at h
  split at h
  · obtain ⟨q, hq, rfl⟩ := List.mem_map.mp h
    split
    · exact Or.inl rfl
    · exact Or.inr hq
  · simpa [or_comm] using h

theorem set_fresh {d : List (String × β)} {k : String} (v : β) (h : ∀ p ∈ d, p.1 ≠ k) :
    set d k v = d ++ [(k, v)] := by
  have : d.any (·.1 == k) = false := by simpa using h
  simp [set, this]

theorem get?_filter_ne (d : List (String × β)) {k x : String} (hx : x ≠ k) :
    get? (d.filter (·.1 != k)) x = get? d x := by
  induction d with
  | nil => rfl
  | cons p d ih =>
    obtain ⟨k', w⟩ := p
    by_cases hk : k' = k
    · subst hk; simp [get?_cons, ih, Ne.symm hx]
    · simp [hk, get?_cons, ih]

theorem set_same {d : List (String × β)} {k : String} {v : β}
    (hany : d.any (·.1 == k) = true) (h : ∀ p ∈ d, p.1 = k → p = (k, v)) : set d k v = d := by
  unfold set
  rw [if_pos hany]
  calc d.map (fun p => if (p.1 == k) = true then (k, v) else p) = d.map id := by
        apply List.map_congr_left
        intro p hp
        by_cases hk : p.1 = k
        · simp [h p hp hk]
        · simp [hk]
    _ = d := List.map_id _

end QV.Assoc
