import QV.Proofs.SemAgree
import QV.Model.SemXT
namespace QV.Sem
open QV.Front

mutual
/-- the fixed-width value agrees with the exact value as far as the latter claims, leaf by leaf -/
def AgreeT : XT → TVal → Prop
  | .leaf x, .bool b => Agree x (.bool b)
  | .leaf x, .int w y => Agree x (.int w y)
  | .leaf _, .char _ => False
  | .leaf _, .tuple _ => False
  | .char c k, .char c' => c' < 256 ∧ (k = none → c' = c)
  | .char _ _, .bool _ => False
  | .char _ _, .int _ _ => False
  | .char _ _, .tuple _ => False
  | .tuple xs, .tuple vs => AgreeTList xs vs
  | .tuple _, .bool _ => False
  | .tuple _, .int _ _ => False
  | .tuple _, .char _ => False
def AgreeTList : List XT → List TVal → Prop
  | [], [] => True
  | x :: xs, v :: vs => AgreeT x v ∧ AgreeTList xs vs
  | [], _ :: _ => False
  | _ :: _, [] => False
end

theorem agreeT_leaf {x : XVal} {sv : SVal} : AgreeT (.leaf x) sv.toT ↔ Agree x sv := by
  cases sv <;> simp [SVal.toT, AgreeT]

theorem agreeT_bool_inv {xv : XT} {b : Bool} (h : AgreeT xv (.bool b)) :
    ∃ a k, xv = .leaf ⟨.bool a, k⟩ ∧ (k = none → b = a) := by
  cases xv with
  | leaf x =>
    simp only [AgreeT] at h
    obtain ⟨v, k⟩ := x
    cases v with
    | bool a => exact ⟨a, k, rfl, h⟩
    | int _ _ => exact h.elim
  | char _ _ => simp [AgreeT] at h
  | tuple _ => simp [AgreeT] at h

theorem agreeT_int_inv {xv : XT} {w y : Nat} (h : AgreeT xv (.int w y)) :
    ∃ x k, xv = .leaf ⟨.int w x, k⟩ ∧ Agree ⟨.int w x, k⟩ (.int w y) := by
  cases xv with
  | leaf x =>
    simp only [AgreeT] at h
    obtain ⟨v, k⟩ := x
    cases v with
    | bool _ => exact h.elim
    | int w' x => obtain rfl : w = w' := h.1; exact ⟨x, k, rfl, h⟩
  | char _ _ => simp [AgreeT] at h
  | tuple _ => simp [AgreeT] at h

theorem agreeT_char_inv {xv : XT} {c' : Nat} (h : AgreeT xv (.char c')) :
    ∃ c k, xv = .char c k ∧ c' < 256 ∧ (k = none → c' = c) := by
  cases xv with
  | leaf _ => simp [AgreeT] at h
  | char c k => simp only [AgreeT] at h; exact ⟨c, k, rfl, h⟩
  | tuple _ => simp [AgreeT] at h

theorem agreeT_tuple_inv {xv : XT} {vs : List TVal} (h : AgreeT xv (.tuple vs)) :
    ∃ xs, xv = .tuple xs ∧ AgreeTList xs vs := by
  cases xv with
  | leaf _ => simp [AgreeT] at h
  | char _ _ => simp [AgreeT] at h
  | tuple xs => simp only [AgreeT] at h; exact ⟨xs, rfl, h⟩

theorem agreeTList_get : ∀ (xs : List XT) (vs : List TVal) (i : Nat) (x : XT) (v : TVal),
    AgreeTList xs vs → xs[i]? = some x → vs[i]? = some v → AgreeT x v
  | [], _, i, x, v, _, hx, _ => by simp at hx
  | _ :: _, [], i, x, v, h, _, _ => by simp [AgreeTList] at h
  | x0 :: xs, v0 :: vs, 0, x, v, h, hx, hv => by
    simp only [List.getElem?_cons_zero, Option.some.injEq] at hx hv
    subst hx; subst hv; exact h.1
  | x0 :: xs, v0 :: vs, i + 1, x, v, h, hx, hv => by
    rw [List.getElem?_cons_succ] at hx hv
    exact agreeTList_get xs vs i x v h.2 hx hv

mutual
theorem agreeT_ty : ∀ (x : XT) (v : TVal), AgreeT x v → v.ty = x.ty ∧ v.wf = true
  | x, .bool b, h => by
    obtain ⟨a, k, rfl, _⟩ := agreeT_bool_inv h
    exact ⟨rfl, rfl⟩
  | x, .int w y, h => by
    obtain ⟨x0, k, rfl, ha⟩ := agreeT_int_inv h
    exact ⟨rfl, by simp [TVal.wf, ha.2.1]⟩
  | x, .char c', h => by
    obtain ⟨c, k, rfl, hc, _⟩ := agreeT_char_inv h
    exact ⟨rfl, by simp [TVal.wf, hc]⟩
  | x, .tuple vs, h => by
    obtain ⟨xs, rfl, hl⟩ := agreeT_tuple_inv h
    obtain ⟨h1, h2⟩ := agreeTList_ty xs vs hl
    exact ⟨by rw [TVal.ty, XT.ty, h1], by rw [TVal.wf]; exact h2⟩
theorem agreeTList_ty : ∀ (xs : List XT) (vs : List TVal), AgreeTList xs vs →
    TVal.tyList vs = XT.tyList xs ∧ TVal.wfList vs = true
  | [], [], _ => ⟨rfl, rfl⟩
  | x :: xs, v :: vs, h => by
    obtain ⟨h1, h2⟩ := agreeT_ty x v h.1
    obtain ⟨h3, h4⟩ := agreeTList_ty xs vs h.2
    exact ⟨by rw [TVal.tyList, XT.tyList, h1, h3], by rw [TVal.wfList, h2, h4]; rfl⟩
  | [], _ :: _, h => by simp [AgreeTList] at h
  | _ :: _, [], h => by simp [AgreeTList] at h
end

mutual
theorem undet_agree : ∀ (x : XT) (v : TVal), v.ty = x.ty → v.wf = true → AgreeT x.undet v
  | .leaf ⟨.bool a, k⟩, .bool b, _, _ => by
    simp only [XT.undet, AgreeT, Agree]
    intro h; cases h
  | .leaf ⟨.int w x, k⟩, .int w' y, ht, hw => by
    simp only [TVal.ty, XT.ty, Ty.qint.injEq] at ht
    subst ht
    simp only [TVal.wf, decide_eq_true_eq] at hw
    exact agree_undet x hw
  | .char c k, .char c', _, hw => by
    simp only [TVal.wf, decide_eq_true_eq] at hw
    simp only [XT.undet, AgreeT]
    exact ⟨hw, fun h => by cases h⟩
  | .tuple xs, .tuple vs, ht, hw => by
    simp only [TVal.ty, XT.ty, Ty.tuple.injEq] at ht
    simp only [TVal.wf] at hw
    simp only [XT.undet, AgreeT]
    exact undetList_agree xs vs ht hw
  | .leaf ⟨.bool a, k⟩, .int _ _, ht, _ => by simp [TVal.ty, XT.ty] at ht
  | .leaf ⟨.bool a, k⟩, .char _, ht, _ => by simp [TVal.ty, XT.ty] at ht
  | .leaf ⟨.bool a, k⟩, .tuple _, ht, _ => by simp [TVal.ty, XT.ty] at ht
  | .leaf ⟨.int w x, k⟩, .bool _, ht, _ => by simp [TVal.ty, XT.ty] at ht
  | .leaf ⟨.int w x, k⟩, .char _, ht, _ => by simp [TVal.ty, XT.ty] at ht
  | .leaf ⟨.int w x, k⟩, .tuple _, ht, _ => by simp [TVal.ty, XT.ty] at ht
  | .char _ _, .bool _, ht, _ => by simp [TVal.ty, XT.ty] at ht
  | .char _ _, .int _ _, ht, _ => by simp [TVal.ty, XT.ty] at ht
  | .char _ _, .tuple _, ht, _ => by simp [TVal.ty, XT.ty] at ht
  | .tuple _, .bool _, ht, _ => by simp [TVal.ty, XT.ty] at ht
  | .tuple _, .int _ _, ht, _ => by simp [TVal.ty, XT.ty] at ht
  | .tuple _, .char _, ht, _ => by simp [TVal.ty, XT.ty] at ht
theorem undetList_agree : ∀ (xs : List XT) (vs : List TVal), TVal.tyList vs = XT.tyList xs →
    TVal.wfList vs = true → AgreeTList (XT.undetList xs) vs
  | [], [], _, _ => trivial
  | x :: xs, v :: vs, ht, hw => by
    simp only [TVal.tyList, XT.tyList, List.cons.injEq] at ht
    simp only [TVal.wfList, Bool.and_eq_true] at hw
    exact ⟨undet_agree x v ht.1 hw.1, undetList_agree xs vs ht.2 hw.2⟩
  | [], _ :: _, ht, _ => by simp [TVal.tyList, XT.tyList] at ht
  | _ :: _, [], ht, _ => by simp [TVal.tyList, XT.tyList] at ht
end

mutual
theorem beq_agree : ∀ (x y : XT) (v u : TVal), AgreeT x v → AgreeT y u → x.kAll = none → y.kAll = none →
    x.beq y = v.beq u
  | x, y, .bool a', u, h1, h2, k1, k2 => by
    obtain ⟨a, ka, rfl, ha⟩ := agreeT_bool_inv h1
    cases u with
    | bool b' =>
      obtain ⟨b, kb, rfl, hb⟩ := agreeT_bool_inv h2
      simp only [XT.beq, TVal.beq, ha k1, hb k2]
    | int _ _ => obtain ⟨_, _, rfl, _⟩ := agreeT_int_inv h2; rfl
    | char _ => obtain ⟨_, _, rfl, _⟩ := agreeT_char_inv h2; rfl
    | tuple _ => obtain ⟨_, rfl, _⟩ := agreeT_tuple_inv h2; rfl
  | x, y, .int wa a', u, h1, h2, k1, k2 => by
    obtain ⟨a, ka, rfl, ha⟩ := agreeT_int_inv h1
    cases u with
    | bool _ => obtain ⟨_, _, rfl, _⟩ := agreeT_bool_inv h2; rfl
    | int wb b' =>
      obtain ⟨b, kb, rfl, hb⟩ := agreeT_int_inv h2
      simp only [XT.beq, TVal.beq, ← ha.2.2.1 k1, ← hb.2.2.1 k2]
      by_cases hab : a' = b'
      · simp [hab]
      · have : ¬ ((a' : Int) = (b' : Int)) := fun h => hab (Int.ofNat_inj.mp h)
        simp [hab, this]
    | char _ => obtain ⟨_, _, rfl, _⟩ := agreeT_char_inv h2; rfl
    | tuple _ => obtain ⟨_, rfl, _⟩ := agreeT_tuple_inv h2; rfl
  | x, y, .char a', u, h1, h2, k1, k2 => by
    obtain ⟨a, ka, rfl, _, ha⟩ := agreeT_char_inv h1
    cases u with
    | bool _ => obtain ⟨_, _, rfl, _⟩ := agreeT_bool_inv h2; rfl
    | int _ _ => obtain ⟨_, _, rfl, _⟩ := agreeT_int_inv h2; rfl
    | char b' =>
      obtain ⟨b, kb, rfl, _, hb⟩ := agreeT_char_inv h2
      simp only [XT.beq, TVal.beq, ha k1, hb k2]
    | tuple _ => obtain ⟨_, rfl, _⟩ := agreeT_tuple_inv h2; rfl
  | x, y, .tuple vs, u, h1, h2, k1, k2 => by
    obtain ⟨xs, rfl, hxs⟩ := agreeT_tuple_inv h1
    cases u with
    | bool _ => obtain ⟨_, _, rfl, _⟩ := agreeT_bool_inv h2; rfl
    | int _ _ => obtain ⟨_, _, rfl, _⟩ := agreeT_int_inv h2; rfl
    | char _ => obtain ⟨_, _, rfl, _⟩ := agreeT_char_inv h2; rfl
    | tuple us =>
      obtain ⟨ys, rfl, hys⟩ := agreeT_tuple_inv h2
      simp only [XT.beq, TVal.beq]
      exact beqList_agree xs ys vs us hxs hys k1 k2
theorem beqList_agree : ∀ (xs ys : List XT) (vs us : List TVal), AgreeTList xs vs → AgreeTList ys us →
    XT.kAllList xs = none → XT.kAllList ys = none → XT.beqList xs ys = TVal.beqList vs us
  | [], [], [], [], _, _, _, _ => rfl
  | x :: xs, y :: ys, v :: vs, u :: us, h1, h2, k1, k2 => by
    simp only [XT.kAllList] at k1 k2
    obtain ⟨k1a, k1b⟩ := kmin_none k1
    obtain ⟨k2a, k2b⟩ := kmin_none k2
    simp only [XT.beqList, TVal.beqList, beq_agree x y v u h1.1 h2.1 k1a k2a,
      beqList_agree xs ys vs us h1.2 h2.2 k1b k2b]
  | [], _ :: _, [], _ :: _, _, _, _, _ => rfl
  | _ :: _, [], _ :: _, [], _, _, _, _ => rfl
  | [], _, _ :: _, _, h1, _, _, _ => by simp [AgreeTList] at h1
  | _ :: _, _, [], _, h1, _, _, _ => by simp [AgreeTList] at h1
  | _, [], _, _ :: _, _, h2, _, _ => by simp [AgreeTList] at h2
  | _, _ :: _, _, [], _, h2, _, _ => by simp [AgreeTList] at h2
end

end QV.Sem
