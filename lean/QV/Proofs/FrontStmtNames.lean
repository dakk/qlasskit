import QV.Proofs.FrontSemW
import Std.Data.String.ToNat
/-! Which symbols belong to a variable (`Owned`: `t`, `t.i`; `Sub`: everything below `t`, the one used later).  No
bool / Qint value has the width 1: a one-bit list is handed on as a bare expression and its name cannot be read back
(`NameOK`). -/
namespace QV.Sem
open QV.Arith QV.Front

/-- the symbols of a bool / `Qint` variable `t`: `t` itself (a bool) or `t.i`; kept with `owned_sub`, not used below -/
def Owned (t s : String) : Prop := s = t ∨ ∃ i : Nat, s = bitName t i

theorem bitName_toList (t : String) (i : Nat) :
    (bitName t i).toList = t.toList ++ '.' :: (toString i).toList := by
  unfold bitName
  simp [toString, String.toList_append]

theorem goodName_iff (n : String) : goodName n = true ↔ '.' ∉ n.toList := by
  simp [goodName]

/-- the symbols below the variable `t`, whatever its type: `t` itself, or `t.` followed by anything (`t.0`,
`t.1.0` …) -/
def Sub (t s : String) : Prop := s = t ∨ ∃ r : List Char, s.toList = t.toList ++ '.' :: r

theorem sub_refl (t : String) : Sub t t := Or.inl rfl

theorem sub_child (t : String) (i : Nat) {s : String} (h : Sub (bitName t i) s) : Sub t s := by
  rcases h with rfl | ⟨r, hr⟩
  · exact Or.inr ⟨_, bitName_toList t i⟩
  · refine Or.inr ⟨(toString i).toList ++ '.' :: r, ?_⟩
    rw [hr, bitName_toList]; simp

theorem owned_sub {t s : String} (h : Owned t s) : Sub t s := by
  rcases h with rfl | ⟨i, rfl⟩
  · exact sub_refl _
  · exact sub_child t i (sub_refl _)

theorem no_dot_repr (i : Nat) : '.' ∉ (toString i).toList := by
  intro h
  have : (toString i).toList = Nat.toDigits 10 i := by
    simp [toString, Nat.repr]
  rw [this] at h
  have := Nat.isDigit_of_mem_toDigits (by decide) (by decide) h
  revert this; decide

theorem prefix_split : ∀ {a b r1 r2 : List Char}, '.' ∉ a → '.' ∉ b →
    (r1 = [] ∨ ∃ x, r1 = '.' :: x) → (r2 = [] ∨ ∃ x, r2 = '.' :: x) → a ++ r1 = b ++ r2 → a = b
  | [], [], _, _, _, _, _, _, _ => rfl
  | [], d :: b', r1, r2, _, hb, h1, _, h => by
    simp only [List.nil_append, List.cons_append] at h
    rcases h1 with rfl | ⟨x, rfl⟩
    · cases h
    · simp only [List.cons.injEq] at h
      exact absurd (by rw [← h.1]; simp) hb
  | c :: a', [], r1, r2, ha, _, _, h2, h => by
    simp only [List.nil_append, List.cons_append] at h
    rcases h2 with rfl | ⟨x, rfl⟩
    · cases h
    · simp only [List.cons.injEq] at h
      exact absurd (by rw [h.1]; simp) ha
  | c :: a', d :: b', r1, r2, ha, hb, h1, h2, h => by
    simp only [List.cons_append, List.cons.injEq] at h
    obtain ⟨rfl, h⟩ := h
    congr 1
    exact prefix_split (fun hh => ha (List.mem_cons_of_mem _ hh)) (fun hh => hb (List.mem_cons_of_mem _ hh))
      h1 h2 h

theorem sub_tail {t s : String} (h : Sub t s) :
    ∃ r, s.toList = t.toList ++ r ∧ (r = [] ∨ ∃ x, r = '.' :: x) := by
  rcases h with rfl | ⟨r, hr⟩
  · exact ⟨[], by simp, Or.inl rfl⟩
  · exact ⟨'.' :: r, hr, Or.inr ⟨r, rfl⟩⟩

theorem sub_disjoint {n m s : String} (hn : goodName n = true) (hm : goodName m = true)
    (hne : n ≠ m) (h1 : Sub n s) : ¬ Sub m s := by
  rw [goodName_iff] at hn hm
  intro h2
  obtain ⟨r1, e1, t1⟩ := sub_tail h1
  obtain ⟨r2, e2, t2⟩ := sub_tail h2
  rw [e1] at e2
  exact hne (String.toList_inj.mp (prefix_split hn hm t1 t2 e2))

theorem child_disjoint {t s : String} {i j : Nat} (h1 : Sub (bitName t i) s) (h2 : Sub (bitName t j) s) :
    i = j := by
  obtain ⟨r1, e1, t1⟩ := sub_tail h1
  obtain ⟨r2, e2, t2⟩ := sub_tail h2
  rw [e1, bitName_toList, bitName_toList] at e2
  simp only [List.append_assoc, List.cons_append] at e2
  have e3 := List.append_cancel_left e2
  simp only [List.cons.injEq, true_and] at e3
  have := prefix_split (no_dot_repr i) (no_dot_repr j) t1 t2 e3
  exact Nat.repr_injective (String.toList_inj.mp this)

mutual
theorem semW_congr (t : String) (σ σ' : SEnv) (h : ∀ n, n ≠ t → σ n = σ' n) :
    ∀ e : PExp, mentions t e = false → semW σ e = semW σ' e
  | .name n, hm => by
    simp only [mentions, beq_eq_false_iff_ne, ne_eq] at hm
    simp only [semW, h n hm]
  | .subs n p, hm => by
    simp only [mentions, beq_eq_false_iff_ne, ne_eq] at hm
    simp only [semW, h n hm]
  | .cbool _, _ => by simp only [semW]
  | .cint _, _ => by simp only [semW]
  | .cchar _, _ => by simp only [semW]
  | .unsupported _, _ => by simp only [semW]
  | .tuple _, _ => by simp only [semW]
  | .not e, hm => by
    simp only [mentions] at hm
    simp only [semW, semW_congr t σ σ' h e hm]
  | .inv e, hm => by
    simp only [mentions] at hm
    simp only [semW, semW_congr t σ σ' h e hm]
  | .boolop _ vs, hm => by
    simp only [mentions] at hm
    simp only [semW, semWList_congr t σ σ' h vs hm]
  | .ite c a b, hm => by
    simp only [mentions, Bool.or_eq_false_iff] at hm
    simp only [semW, semW_congr t σ σ' h c hm.1.1, semW_congr t σ σ' h a hm.1.2,
      semW_congr t σ σ' h b hm.2]
  | .cmp _ l r, hm => by
    simp only [mentions, Bool.or_eq_false_iff] at hm
    simp only [semW, semW_congr t σ σ' h l hm.1, semW_congr t σ σ' h r hm.2]
  | .bin _ l r, hm => by
    simp only [mentions, Bool.or_eq_false_iff] at hm
    simp only [semW, semW_congr t σ σ' h l hm.1, semW_congr t σ σ' h r hm.2]
theorem semWList_congr (t : String) (σ σ' : SEnv) (h : ∀ n, n ≠ t → σ n = σ' n) :
    ∀ es : List PExp, mentionsList t es = false → semWList σ es = semWList σ' es
  | [], _ => by simp only [semWList]
  | e :: es, hm => by
    simp only [mentionsList, Bool.or_eq_false_iff] at hm
    simp only [semWList, semW_congr t σ σ' h e hm.1, semWList_congr t σ σ' h es hm.2]
end

/-- no integer variable has the width 1 (the library has no `Qint1`) -/
def WidthOK (σ : SEnv) : Prop := ∀ n w x, σ n = some (.int w x) → w ≠ 1

/-- the widened form of `semW_width` -/
theorem semWT_width (σ : SEnv) (hσ : WidthOK σ) : ∀ e : PExp, OAll (·.ty ≠ .qint 1) (semWT σ e)
  | .name n => fun v h => by
    obtain ⟨sv, hs, rfl⟩ := Option.map_eq_some_iff.mp h
    cases sv with
    | bool _ => nofun
    | int w x => exact fun hw => hσ n w x hs (Ty.qint.inj hw)
  | .cbool _ => OAll.some nofun
  | .cchar _ => OAll.none
  | .unsupported _ => OAll.none
  | .tuple _ => OAll.none
  | .cint c => by
    simp only [semWT, semW]
    cases hw : constWidth c with
    | none => exact OAll.none
    | some w => exact OAll.some (tyClosed_width.ge2 w (constWidth_ge c w hw))
  | .subs n p => fun v h => by
    -- a subscript of the bool / Qint fragment selects a bit
    simp only [semWT, semW, Option.map_eq_some_iff] at h
    obtain ⟨sv, h, rfl⟩ := h
    split at h
    · split at h <;> cases h
      nofun
    · cases h
  | .not e => by rw [semWT_not]; exact OAll.bind_any fun x => notT_ty tyClosed_width x
  | .inv e => by rw [semWT_inv]; exact (semWT_width σ hσ e).bind fun _ hx _ h => by simpa only [invT_ty h] using hx
  | .boolop isAnd _ => by rw [semWT_boolop]; exact OAll.bind_any fun xs => boolopT_ty tyClosed_width isAnd xs
  | .ite c a b => by
    rw [semWT_ite]
    exact OAll.bind_any fun _ => (semWT_width σ hσ a).bind fun _ hx =>
      (semWT_width σ hσ b).bind fun _ hy => iteT_ty tyClosed_width hx hy
  | .cmp op _ _ => by
    rw [semWT_cmp]; exact OAll.bind_any fun x => OAll.bind_any fun y => cmpT_ty tyClosed_width op x y
  | .bin op l r => by
    rw [semWT_bin]
    refine (semWT_width σ hσ l).bind fun _ hx => ?_
    split
    · exact fun _ h => by simpa only [shiftT_ty h] using hx
    · exact (semWT_width σ hσ r).bind fun _ hy => arithT_ty tyClosed_width hx hy

theorem semW_width (σ : SEnv) (hσ : WidthOK σ) (e : PExp) (w x : Nat) (h : semW σ e = some (.int w x)) : w ≠ 1 :=
  fun hw => semWT_width σ hσ e (.int w x) (by simp only [semWT, h]; rfl) (hw ▸ rfl)

theorem find_bind (env : Front.Env) (b : Binding) (n : String) :
    (env.bind b).find n = if n = b.name then some b else env.find n := by
  unfold Env.bind Env.find
  rw [List.find?_append, List.find?_filter]
  by_cases hn : n = b.name
  · subst hn
    have : List.find? (fun a : Binding => decide ((a.name != b.name) = true ∧ (a.name == b.name) = true)) env
        = none := by
      rw [List.find?_eq_none]
      intro x _
      simp
    rw [this]
    simp [List.find?]
  · have hfun : (fun a : Binding => decide ((a.name != b.name) = true ∧ (a.name == n) = true))
        = fun a : Binding => a.name == n := by
      funext a
      by_cases ha : a.name = n
      · subst ha; simp [hn]
      · simp [ha]
    rw [hfun]
    have hb : ([b] : List Binding).find? (fun a => a.name == n) = none := by
      have : (b.name == n) = false := by simp [Ne.symm hn]
      simp only [List.find?, this]
    rw [hb]
    simp [hn]

theorem find_append_ret (env : Front.Env) (b : Binding) (n : String) (hnone : env.find b.name = none) :
    Env.find (env ++ [b]) n = if n = b.name then some b else env.find n := by
  unfold Env.find at *
  rw [List.find?_append]
  by_cases hn : n = b.name
  · subst hn
    simp [hnone]
  · have hb : ([b] : List Binding).find? (fun a => a.name == n) = none := by
      have : (b.name == n) = false := by simp [Ne.symm hn]
      simp only [List.find?, this]
    rw [hb]
    simp [hn]

/-- `decompose_to_symbols` of a bit list from index `k` -/
def defsOf (t : String) : Nat → List BExp → List (String × BExp)
  | _, [] => []
  | k, b :: bs => (bitName t k, b) :: defsOf t (k + 1) bs

theorem decomposeList_atoms (t : String) (k : Nat) (bits : List BExp) :
    Val.decomposeList t k (bits.map .atom) = defsOf t k bits := by
  induction bits generalizing k with
  | nil => simp [Val.decomposeList, defsOf]
  | cons b bs ih =>
    simp only [List.map_cons, Val.decomposeList, Val.decompose, defsOf, ih, List.singleton_append]
    rfl

theorem decompose_ofBits (t : String) (bits : List BExp) :
    (Val.ofBits bits).decompose t = defsOf t 0 bits := by
  simp only [Val.ofBits, Val.decompose, decomposeList_atoms]

theorem defsOf_names (t : String) (k : Nat) (bits : List BExp) :
    (defsOf t k bits).map (·.1) = (List.range' k bits.length).map (bitName t) := by
  induction bits generalizing k with
  | nil => simp [defsOf]
  | cons b bs ih => simp [defsOf, ih, List.range'_succ]

theorem defsOf_names0 (t : String) (bits : List BExp) :
    (defsOf t 0 bits).map (·.1) = (List.range bits.length).map (bitName t) := by
  rw [defsOf_names, List.range_eq_range']

def stepDef (ρ : QV.Env) (d : String × BExp) : QV.Env := fun x => if x == d.1 then d.2.eval ρ else ρ x

theorem runDefs_nil (ρ : QV.Env) : runDefs [] ρ = ρ := rfl

theorem runDefs_cons (d : String × BExp) (ds : List (String × BExp)) (ρ : QV.Env) :
    runDefs (d :: ds) ρ = runDefs ds (stepDef ρ d) := by
  cases d; rfl

theorem runDefs_append (a b : List (String × BExp)) (ρ : QV.Env) :
    runDefs (a ++ b) ρ = runDefs b (runDefs a ρ) := by
  unfold runDefs; rw [List.foldl_append]

theorem runDefs_frame : ∀ (defs : List (String × BExp)) (ρ : QV.Env) (x : String),
    x ∉ defs.map (·.1) → runDefs defs ρ x = ρ x
  | [], ρ, x, _ => rfl
  | d :: ds, ρ, x, hx => by
    simp only [List.map_cons, List.mem_cons, not_or] at hx
    rw [runDefs_cons, runDefs_frame ds _ x hx.2]
    simp only [stepDef, beq_iff_eq, hx.1, if_false]

theorem nodup_map_bitName (base : String) (w : Nat) : ((List.range w).map (bitName base)).Nodup := by
  rw [List.Nodup, List.pairwise_map]
  exact List.Pairwise.imp (fun {a b} (h : a ≠ b) (hh : bitName base a = bitName base b) =>
    h (child_disjoint (t := base) (sub_refl _) (Or.inl hh))) List.nodup_range

mutual
theorem decompose_snd : ∀ (v : Val) (base : String), (v.decompose base).map (·.2) = v.flatten
  | .atom e, base => by simp [Val.decompose, Val.flatten]
  | .list vs, base => by rw [Val.decompose, Val.flatten]; exact decomposeList_snd vs base 0
theorem decomposeList_snd : ∀ (vs : List Val) (base : String) (i : Nat),
    (Val.decomposeList base i vs).map (·.2) = Val.flattenList vs
  | [], _, _ => by simp [Val.decomposeList, Val.flattenList]
  | v :: vs, base, i => by
    rw [Val.decomposeList, List.map_append, decompose_snd v, decomposeList_snd vs, Val.flattenList]
end

/-- bit `i` of `bits` evaluates the same under every assignment that differs from `ρ` only on the first `i`
of the names `ns`: run as the definitions `ns[0] := bits[0]; ns[1] := bits[1]; …`, each expression still sees
the old value of every symbol it reads -/
def LowBits (ns : List String) (ρ : QV.Env) (bits : List BExp) : Prop :=
  ∀ (i : Nat) (b : BExp), bits[i]? = some b → ∀ ρ'', (∀ s, s ∉ ns.take i → ρ'' s = ρ s) → b.eval ρ'' = b.eval ρ

/-- `seq_eval` from the middle of the run: `W` are the targets already written, `ρ1` the assignment they left -/
theorem seq_eval_from (ρ : QV.Env) : ∀ (ds : List (String × BExp)) (W : List String) (ρ1 : QV.Env),
    (∀ s, s ∉ W → ρ1 s = ρ s) → (ds.map (·.1)).Nodup →
    (∀ (i : Nat) (d : String × BExp), ds[i]? = some d →
      ∀ ρ'', (∀ s, s ∉ W ++ (ds.take i).map (·.1) → ρ'' s = ρ s) → d.2.eval ρ'' = d.2.eval ρ) →
    ds.map (fun d => runDefs ds ρ1 d.1) = ds.map (fun d => d.2.eval ρ)
  | [], _, _, _, _, _ => rfl
  | d :: ds, W, ρ1, h1, hnd, hb => by
    simp only [List.map_cons, List.nodup_cons] at hnd
    have i2 := seq_eval_from ρ ds (W ++ [d.1]) (stepDef ρ1 d)
      (fun s hs => by
        simp only [List.mem_append, List.mem_singleton, not_or] at hs
        simp only [stepDef, beq_iff_eq, hs.2, if_false]
        exact h1 s hs.1)
      hnd.2
      (fun i d' hd' ρ'' ha => hb (i + 1) d' (by simpa using hd') ρ'' (fun s hs => ha s (by simpa using hs)))
    have hd : runDefs ds (stepDef ρ1 d) d.1 = d.2.eval ρ := by
      rw [runDefs_frame ds _ d.1 hnd.1]
      simp only [stepDef, beq_self_eq_true, if_true]
      exact hb 0 d rfl ρ1 (fun s hs => h1 s (by simpa using hs))
    simp only [runDefs_cons, List.map_cons, List.cons.injEq]
    exact ⟨hd, i2⟩

theorem seq_eval (ρ : QV.Env) (ds : List (String × BExp)) (hnd : (ds.map (·.1)).Nodup)
    (hlow : LowBits (ds.map (·.1)) ρ (ds.map (·.2))) :
    (ds.map (·.1)).map (runDefs ds ρ) = evalBits ρ (ds.map (·.2)) := by
  have h2 := seq_eval_from ρ ds [] ρ (fun _ _ => rfl) hnd (fun i d hd ρ'' ha =>
    hlow i d.2 (by simp [hd]) ρ'' (fun s hs => ha s (by simpa [List.map_take] using hs)))
  simpa [evalBits, List.map_map, Function.comp_def] using h2

theorem LowBits.single (ns : List String) (ρ : QV.Env) (b : BExp) : LowBits ns ρ [b] := by
  intro i b' hb ρ'' ha
  cases i with
  | zero => rw [show ρ'' = ρ from funext fun s => ha s (by simp)]
  | succ i => simp at hb

theorem LowBits.syms {ns : List String} (ρ : QV.Env) (hnd : ns.Nodup) : LowBits ns ρ (ns.map BExp.sym) := by
  intro i b hb ρ'' ha
  rw [List.getElem?_map] at hb
  obtain ⟨s, hs, rfl⟩ := Option.map_eq_some_iff.mp hb
  obtain ⟨hi, rfl⟩ := List.getElem?_eq_some_iff.mp hs
  refine ha _ fun hm => ?_
  obtain ⟨j, hj, hjs⟩ := List.mem_iff_getElem.mp hm
  rw [List.length_take] at hj
  rw [List.getElem_take] at hjs
  exact List.pairwise_iff_getElem.mp hnd j i (by omega) hi (by omega) hjs

theorem LowBits.fill {ns : List String} {ρ : QV.Env} {bits : List BExp} (n : Nat) (h : LowBits ns ρ bits) :
    LowBits ns ρ (Arith.fill n bits) := by
  unfold Arith.fill
  split
  · exact h
  · intro i b hb ρ'' ha
    by_cases hi : i < bits.length
    · rw [List.getElem?_append_left hi] at hb
      exact h i b hb ρ'' ha
    · rw [List.getElem?_append_right (by omega)] at hb
      have : b = .ff := by
        have := List.mem_of_getElem? hb
        simpa using (List.eq_of_mem_replicate this)
      subst this
      simp [BExp.eval]

theorem LowBits.zipWith_ite {ns : List String} {ρ : QV.Env} {cb : BExp} {x y : List BExp}
    (hc : ∀ ρ'', (∀ s, s ∉ ns → ρ'' s = ρ s) → cb.eval ρ'' = cb.eval ρ) (hx : LowBits ns ρ x)
    (hy : LowBits ns ρ y) : LowBits ns ρ (List.zipWith (BExp.ite cb) x y) := by
  intro i b hb ρ'' ha
  rw [List.getElem?_zipWith] at hb
  cases hxi : x[i]? with
  | none => simp [hxi] at hb
  | some a =>
    cases hyi : y[i]? with
    | none => simp [hxi, hyi] at hb
    | some c =>
      simp [hxi, hyi] at hb
      subst hb
      simp only [BExp.eval, hc ρ'' fun s hs => ha s fun hm => hs (List.mem_of_mem_take hm),
        hx i a hxi ρ'' ha, hy i c hyi ρ'' ha]

theorem LowBits.widen {f : Nat → String} {ρ : QV.Env} {bits : List BExp} {m n : Nat}
    (h : LowBits ((List.range m).map f) ρ bits) (hl : bits.length ≤ m) (hmn : m ≤ n) :
    LowBits ((List.range n).map f) ρ bits := by
  intro i b hb ρ'' ha
  have hi : i < bits.length := (List.getElem?_eq_some_iff.mp hb).1
  refine h i b hb ρ'' fun s hs => ha s ?_
  rwa [← List.map_take, List.take_range, Nat.min_eq_left (by omega)] at hs ⊢

end QV.Sem
