import QV.Proofs.CompilerSem2d
namespace QV.Compiler
open QV

variable {Kn : String → Prop} {kv : String → Bool} {scope : List String} {ρ : Env} {σ0 : FState} {wo : Bool}
variable {K : BExp → Prop}

theorem uncompute_sem {r : List Nat} {s s' : CState} (h : uncompute.run s = .ok (r, s')) :
    cur σ0 s' = runF (rep s.qc.marked s.qc.gatesComputed.toList) (cur σ0 s) ∧
    s'.qc.qmap = s.qc.qmap ∧ s'.qc.numQubits = s.qc.numQubits ∧ s'.qc.anc = s.qc.anc ∧
    (∀ p ∈ s'.expq, p ∈ s.expq) ∧
    s'.qc.free = s.qc.marked.foldl setIns s.qc.free ∧
    s'.qc.marked = s.qc.marked.filter (fun x => !r.contains x) ∧
    (∀ g ∈ s.qc.gatesComputed.toList, s.qc.marked.contains g.target = true → g.target ∈ r) ∧
    s'.qc.gatesComputed.toList = s.qc.gatesComputed.toList.filter (fun g => !s.qc.marked.contains g.target) ∧
    s'.qc.kept = s.qc.kept := by
  obtain ⟨t, rp, hf, ht, rfl⟩ := uncompute_run h
  obtain ⟨extra, e1, e2, _⟩ := rp.gates
  refine ⟨?_, rp.qmap, rp.nq, rp.anc, fun p hp => rp.expq ▸ hp, by rw [← hf], rfl, ht, rfl, rp.kept⟩
  show runF t.qc.gates.toList σ0 = _
  rw [e1, runF_append, runF_gcore e2, rep, List.filter_reverse]
  rfl

/-- the right-hand side of a statement, compiled at top level from `s` to `t` with result `iret`.  Unlike `ExprPostK`
it covers a bare symbol or constant (an alias or a `_ret` copy, no ancilla): `iret` is in use, holds `v` and is not
one of the newly marked qubits. -/
def TopGoalK (Kn : String → Prop) (kv : String → Bool) (σ0 : FState) (wo : Bool) (K : BExp → Prop) (v : Bool)
    (s t : CState) (iret : Nat) : Prop :=
  PreK Kn kv σ0 t ∧
  SemK Kn σ0 wo (CtlK Kn kv t) NoQ K (fun m => Avail s m ∧ ¬ Avail t m ∧ m ≠ iret) s t ∧
  ¬ Avail t iret ∧ cur σ0 t iret = v

theorem TopGoalK.known {v : Bool} {n : String} {a : Nat} {s t : CState} (hk : Kn n)
    (hp' : PreK Kn kv σ0 t) (sem : SemK Kn σ0 wo (CtlK Kn kv t) NoQ NoK NoQ s t)
    (hq : dictGet? t.qc.qmap n = some a) (hv : kv n = v) : TopGoalK Kn kv σ0 wo K v s t a :=
  ⟨hp', sem.mono (fun _ _ h => h) (fun _ h => h.elim) (fun _ h => h.elim), hp'.sym_notAvail hk hq,
    by rw [(hp'.tbl n a hk hq).2.2, hv]⟩

/-- `r = n` with `r` a return name: the symbol's qubit is copied (`CX`) into a new qubit named `r` -/
theorem copyTop {n r : String} {q a : Nat} {u : Unit} {s t0 t : CState} (hp : PreK Kn kv σ0 s)
    (hn : Kn n ∧ kv n = ρ n) (hq : dictGet? s.qc.qmap n = some q) (hr : ∀ m, Kn m → m ≠ r)
    (hadd : (addQubit r).run s = .ok (a, t0)) (hcx : (cx q a).run t0 = .ok (u, t)) :
    TopGoalK Kn kv σ0 wo NoK (ρ n) s t a := by
  have hk : Kn n := hn.1
  obtain ⟨rfl, sem0, hcur0, _, hf0, ha0, hqm0⟩ := addQubit_semK (Kn := Kn) (σ0 := σ0) (wo := wo)
    (Q := CtlK Kn kv t) hadd (fun m _ hkm _ => hr m hkm)
  have hp0 : PreK Kn kv σ0 t0 :=
    hp.newName (addQubit_ok (B := fun _ => True) hadd hp.good (Or.inl trivial)).1.good sem0 hf0 ha0 hqm0
      (fun hk' => absurd rfl (hr r hk'))
  have hq0 : dictGet? t0.qc.qmap n = some q := sem0.qkeep n q hk hq
  have hava : Avail s s.qc.numQubits := Or.inr (Nat.le_refl _)
  have hpriv : PrivK Kn t0 s.qc.numQubits := by
    refine ⟨?_, fun m hkm hqm => ?_⟩
    · exact hp0.good.qmap_notAvail (by rw [hqm0]; exact dictGet?_dictSet_self)
        (by rw [hf0]; exact fun h' => absurd (hp.good.free_lt _ h') (Nat.lt_irrefl _))
    · rw [hqm0, dictGet?_dictSet_ne (hr m hkm)] at hqm
      exact absurd (hp.good.qmap_lt _ (dictGet?_mem hqm)) (Nat.lt_irrefl _)
  have hv0 := (hp.tbl n q hk hq).2.2
  obtain ⟨hpt, ac, semc, _⟩ := cx_own (wo := wo) (Q := CtlK Kn kv t) hcx hp0 hpriv (hp0.sym_notAvail hk hq0)
    (fun _ => Or.inr ⟨n, hk, by rw [(cx_run hcx).qmap]; exact hq0, by rw [hcur0, hv0]⟩)
  have hnavt : ¬ Avail t s.qc.numQubits := fun h' => hpriv.1 (semc.avail _ h')
  refine ⟨hpt, (sem0.trans' semc).mono ?_ (fun _ h' => h'.elim id id) (fun _ h' => (h'.elim id id).elim), hnavt, ?_⟩
  · rintro x hx (h' | rfl)
    · exact h'
    · exact hx.elim (absurd hava) (absurd · hnavt)
  · rw [ac.cur_eq rfl σ0, hcur0, hp.zero _ hava]
    simp only [List.all_cons, List.all_nil, Bool.and_true, Bool.false_bne]
    rw [hv0, hn.2]

theorem topSymK {n r : String} {iret : Nat} {s t : CState}
    (h : (compileSymbol n (some r)).run s = .ok (iret, t)) (hp : PreK Kn kv σ0 s) (hn : Kn n ∧ kv n = ρ n)
    (hr : ∀ m, Kn m → m ≠ r) : TopGoalK Kn kv σ0 wo NoK (ρ n) s t iret := by
  have hk : Kn n := hn.1
  rcases compileSymbol_run h with ⟨rfl, hq, _⟩ | ⟨sy, q, s1, hsy, _, hadd, hcx, hq⟩
  · exact TopGoalK.known hk hp (SemK.refl _) hq hn.2
  · cases hsy
    exact copyTop hp hn hq hr hadd hcx

theorem topExprK {e : BExp} {r : String} {iret : Nat} {s t : CState}
    (h : (compileExpr e none (some r)).run s = .ok (iret, t)) (hp : PreK Kn kv σ0 s)
    (hsc : ∀ n ∈ scope, Kn n ∧ kv n = ρ n) (hc : hasConst e = true → KConst Kn kv)
    (hwf : wfExpW scope wo e = true) (hdist : Distinct (compKeys e)) (hr : ∀ m, Kn m → m ≠ r)
    (hcache : ∀ p ∈ s.expq, ∀ c ∈ compKeys e, (p.1 == c) = false) :
    TopGoalK Kn kv σ0 wo (· ∈ compKeys e) (e.eval ρ) s t iret := by
  have gen : isLeaf e = false → TopGoalK Kn kv σ0 wo (· ∈ compKeys e) (e.eval ρ) s t iret := by
    intro hl
    obtain ⟨hp', sem, hv, _⟩ := exprSemK (σ0 := σ0) hsc e hwf hc hdist none (some r) h hp hcache
      (fun _ hd => nomatch hd) (fun x hx hm => hr r (hsc r (Option.some.inj hx ▸ hm)).1 rfl)
      (fun hl' => by rw [hl] at hl'; cases hl')
    obtain ⟨_, hnav, hval, _⟩ := hv rfl
    exact ⟨hp', sem.mono (fun _ _ h' => nomatch h') (fun _ h' => h') (fun _ h' => ⟨h'.1, h'.2.1, h'.2.2 rfl⟩),
      hnav, hval⟩
  cases e with
  | sym n =>
    unfold compileExpr at h
    obtain ⟨p, sem, hnav, hval⟩ := topSymK (wo := wo) h hp (hsc n (List.contains_iff_mem.mp hwf)) hr
    exact ⟨p, sem.mono (fun _ _ h' => h') (fun _ h' => h'.elim) (fun _ h' => h'), hnav, hval⟩
  | tt =>
    unfold compileExpr at h
    obtain ⟨hp', sem, hq⟩ := constTrue_semK (wo := wo) (Q := CtlK Kn kv t) h hp (fun _ => (hc rfl).1.2)
    exact TopGoalK.known (hc rfl).1.1 hp' sem hq (hc rfl).1.2
  | ff =>
    unfold compileExpr at h
    obtain ⟨hp', sem, hq⟩ := constFalse_semK (wo := wo) (Q := CtlK Kn kv t) h hp (fun _ => (hc rfl).2.2)
    exact TopGoalK.known (hc rfl).2.1 hp' sem hq (hc rfl).2.2
  | not a => exact gen rfl
  | and l => exact gen rfl
  | or l => exact gen rfl
  | xor l => exact gen rfl
  | ite a b c => exact nomatch hwf
  | imp a b => exact nomatch hwf

theorem mapQubit_run2 {name : String} {index : Nat} {promote : Bool} {u : Unit} {s s' : CState}
    (h : (mapQubit name index promote).run s = .ok (u, s')) (hg : Good s) :
    s'.qc.gates = s.qc.gates ∧ s'.qc.gatesComputed = s.qc.gatesComputed ∧ s'.qc.marked = s.qc.marked ∧
    s'.qc.free = s.qc.free ∧ s'.qc.numQubits = s.qc.numQubits ∧ s'.expq = s.expq ∧ s'.qc.kept = s.qc.kept ∧
    (∀ x ∈ s'.qc.anc, x ∈ s.qc.anc) ∧ (promote = true → index ∉ s'.qc.anc) ∧
    (∀ x ∈ s.qc.anc, x ≠ index → x ∈ s'.qc.anc) ∧
    dictGet? s'.qc.qmap name = some index ∧
    (∀ x, scratchName x = false → x ≠ name → dictGet? s'.qc.qmap x = dictGet? s.qc.qmap x) := by
  obtain ⟨an, qm, rfl, hsub, hni, hanc, _, hkeep⟩ := mapQubit_shape h hg
  exact ⟨rfl, rfl, rfl, rfl, rfl, rfl, rfl, fun x hx => hsub.subset hx, hni, hanc, dictGet?_dictSet_self,
    fun x hx hxn => (dictGet?_dictSet_ne hxn).trans (hkeep x hx)⟩

mutual
theorem compKeys_notSym : ∀ (e c : BExp), c ∈ compKeys e → isSym c = false
  | .not a, c, h => (List.mem_cons.mp h).elim (fun e => by rw [e]; rfl) (compKeys_notSym a c)
  | .and l, c, h => (List.mem_cons.mp h).elim (fun e => by rw [e]; rfl) (compKeysList_notSym l c)
  | .or l, c, h => (List.mem_cons.mp h).elim (fun e => by rw [e]; rfl) (compKeysList_notSym l c)
  | .xor l, c, h => (List.mem_cons.mp h).elim (fun e => by rw [e]; rfl) (compKeysList_notSym l c)
  | .sym _, _, h => (List.not_mem_nil h).elim
  | .tt, _, h => (List.not_mem_nil h).elim
  | .ff, _, h => (List.not_mem_nil h).elim
  | .ite _ _ _, _, h => (List.not_mem_nil h).elim
  | .imp _ _, _, h => (List.not_mem_nil h).elim
theorem compKeysList_notSym : ∀ (l : List BExp) (c : BExp), c ∈ compKeysList l → isSym c = false
  | [], _, h => (List.not_mem_nil h).elim
  | a :: as, c, h => (List.mem_append.mp h).elim (compKeys_notSym a c) (compKeysList_notSym as c)
end

theorem foldl_setIns_nodup : ∀ (l f : List Nat), f.Nodup → (l.foldl setIns f).Nodup
  | [], _, h => h
  | a :: l, f, h => foldl_setIns_nodup l (setIns f a) (setIns_nodup h)

theorem envOf_cons_ne {r n : String} {v : Bool} {env : List (String × Bool)} (h : n ≠ r) :
    envOf ((r, v) :: env) n = envOf env n := by
  have : (r == n) = false := by simpa using fun e => h e.symm
  simp [envOf, this]

theorem envOf_cons_self {r : String} {v : Bool} {env : List (String × Bool)} :
    envOf ((r, v) :: env) r = v := by
  simp [envOf]

theorem mcx_nq_pos {cls : GClass} (h : cls.isMCXLike = true) : 0 < cls.nQubits := by
  -- only `Barrier` and `Nop` act on no qubit
  cases cls <;> first | exact Nat.succ_pos _ | cases h

/-- straight-line definition lists over the expression class of the repaired compiler: `slDefs` with `wfExpW` for
`wfExp` -/
def slDefsW (scope : List String) : List (String × BExp) → Bool
  | [] => true
  | (r, e) :: rest => !reservedName r && !scope.contains r && wfExpW scope false e && slDefsW (scope ++ [r]) rest

theorem slDefsW_of_slDefs : ∀ (defs : List (String × BExp)) (scope : List String),
    slDefs scope defs = true → slDefsW scope defs = true
  | [], _, _ => rfl
  | (r, e) :: rest, scope, h => by
    obtain ⟨h123, h4⟩ := Bool.and_eq_true_iff.mp h
    obtain ⟨h12, h3⟩ := Bool.and_eq_true_iff.mp h123
    exact Bool.and_eq_true_iff.mpr
      ⟨Bool.and_eq_true_iff.mpr ⟨h12, wfExpW_of_wfExp e h3⟩, slDefsW_of_slDefs rest _ h4⟩

theorem slDefsW_cons {scope : List String} {r : String} {e : BExp} {rest : List (String × BExp)} :
    slDefsW scope ((r, e) :: rest) = true ↔
      reservedName r = false ∧ r ∉ scope ∧ wfExpW scope false e = true ∧ slDefsW (scope ++ [r]) rest = true := by
  show (!reservedName r && !scope.contains r && wfExpW scope false e && slDefsW (scope ++ [r]) rest) = true ↔ _
  simp only [Bool.and_eq_true, Bool.not_eq_true', List.contains_eq_mem, decide_eq_false_iff_not, and_assoc]

/-! What follows the right-hand side of a statement `r = e` does not depend on how the expression was analysed:
`bindResultM` (`HeadG`), then the inline `uncompute` or `keep_ancillas` (`EndG`).  `Rhs` is what these steps need to
know about the right-hand side; `Inv` / `Head` below and `BI` / `TopG` of `CompilerGenStmt.lean` both provide it.
The states in time: `s` (between two statements), `t1` after the right-hand side, `t3` after `bindResultM` (the `3`
in the field names of `HeadG`), `t5` after the end.  `Head` is `HeadG` together with what the straight-line classes
know about `t1`. -/

/-- what `expqmap.remove_symbol(r)`, `expqmap[r] = iret` and `map_qubit(r, iret, promote)` do (`bindResultM`) -/
structure HeadG (r : String) (t1 t3 : CState) (iret : Nat) : Prop where
  g3 : Good t3
  gates3 : t3.qc.gates = t1.qc.gates
  comp3 : t3.qc.gatesComputed = t1.qc.gatesComputed
  mk3 : t3.qc.marked = t1.qc.marked
  fr3 : t3.qc.free = t1.qc.free
  nq3 : t3.qc.numQubits = t1.qc.numQubits
  kp3 : t3.qc.kept = t1.qc.kept
  anc3a : ∀ x ∈ t3.qc.anc, x ∈ t1.qc.anc
  anc3b : iret ∉ t3.qc.anc
  anc3c : ∀ x ∈ t1.qc.anc, x ≠ iret → x ∈ t3.qc.anc
  qm3r : dictGet? t3.qc.qmap r = some iret
  qm3o : ∀ x, scratchName x = false → x ≠ r → dictGet? t3.qc.qmap x = dictGet? t1.qc.qmap x
  ex3 : ∀ p ∈ t3.expq, (p ∈ t1.expq ∧ p.1.syms.contains r = false ∧ p.2 ≠ iret) ∨ p = (.sym r, iret)

theorem stmt_headG {r : String} {iret : Nat} {u : Unit} {t1 t3 : CState}
    (hg1 : Good t1) (hlt1 : iret < t1.qc.numQubits)
    (h : (bindResultM r iret).run t1 = .ok (u, t3)) : HeadG r t1 t3 iret := by
  obtain ⟨u1, t1', hrs, h1⟩ := run_bind_ok.mp h
  obtain ⟨u2, t2, hset, hmap⟩ := run_bind_ok.mp h1
  have hg1' : Good t1' := (expqRemoveSymbol_ok (B := fun _ => True) hrs hg1).good
  have hs1' : t1' = { t1 with expq := t1.expq.filter (fun p => !p.1.syms.contains r) } := by
    unfold expqRemoveSymbol at hrs
    exact run_modify_ok.mp hrs
  have hqc1' : t1'.qc = t1.qc := by rw [hs1']
  have hex1' : ∀ p ∈ t1'.expq, p ∈ t1.expq ∧ p.1.syms.contains r = false := by
    rw [hs1']
    intro p hp
    obtain ⟨m1, m2⟩ := List.mem_filter.mp hp
    exact ⟨m1, by simpa using m2⟩
  obtain ⟨hqc2', hk2⟩ := expqSet_run hset
  have hqc2 : t2.qc = t1.qc := hqc2'.trans hqc1'
  have hg2 : Good t2 := (expqSet_ok (B := fun _ => True) hset hg1' (by rw [hqc1']; exact hlt1)).good
  obtain ⟨m1, m2, m3, m4, m5, m6, mk, m7, m8, m9, m10, m11⟩ := mapQubit_run2 hmap hg2
  have hg3 : Good t3 := (mapQubit_ok (B := fun _ => True) hmap hg2 (by rw [hqc2]; exact hlt1) trivial
    (by intro hpf; cases hpf)).1.good
  refine ⟨hg3, by rw [m1, hqc2], by rw [m2, hqc2], by rw [m3, hqc2], by rw [m4, hqc2], by rw [m5, hqc2],
    by rw [mk, hqc2], fun x hx => by rw [← hqc2]; exact m7 x hx, m8 rfl,
    fun x hx hxi => m9 x (by rw [hqc2]; exact hx) hxi, m10, fun x hx hxr => by rw [m11 x hx hxr, hqc2], ?_⟩
  intro p hp
  rw [m6] at hp
  rcases hk2 p hp with ⟨h1, h2⟩ | h'
  · exact Or.inl ⟨(hex1' p h1).1, (hex1' p h1).2, h2⟩
  · exact Or.inr h'

/-- the right-hand side of a statement has been compiled from `s` (between two statements) to `t1`, appending the
gates `l`: every control of `l` is marked or had, at gate time, the value it has in `t1`
(the hypothesis of `bennettF`); every marked qubit was scratch space in `s`, is not kept and is the target of a
gate that the inline `uncompute` will replay -/
structure Rhs (σ0 : FState) (s t1 : CState) (l : List AGate) : Prop where
  good : Good t1
  gates : t1.qc.gates.toList = s.qc.gates.toList ++ l
  comp : t1.qc.gatesComputed.toList = s.qc.gatesComputed.toList ++ l
  tgt : ∀ g ∈ l, ¬ Avail t1 g.target
  ben : CtlOK (fun f c => c ∈ t1.qc.marked ∨ f c = cur σ0 t1 c) l (cur σ0 s)
  avail : ∀ q, Avail t1 q → Avail s q
  zero0 : ∀ q, Avail s q → cur σ0 s q = false
  comp0 : ∀ g ∈ s.qc.gatesComputed.toList, ¬ Avail s g.target
  marks : ∀ m ∈ t1.qc.marked, Avail s m ∧ m ∉ t1.qc.kept ∧ Tgt t1 m
  freeNd : t1.qc.free.Nodup
  keptNF : ∀ k ∈ t1.qc.kept, k ∉ t1.qc.free

/-- what the end of a statement establishes about the state `t5` the next statement starts from; `M` the
qubits it released.  `nl`: if the result is the only ancilla of `t1` that is in use, unkept and unmarked, no
ancilla is left in use -/
structure EndG (σ0 : FState) (M : List Nat) (t1 t3 t5 : CState) (iret : Nat) : Prop where
  good : Good t5
  avail : ∀ x, Avail t5 x ↔ (Avail t1 x ∨ x ∈ M)
  zeroM : ∀ q ∈ M, cur σ0 t5 q = false
  val : ∀ q, q ∉ M → cur σ0 t5 q = cur σ0 t1 q
  free : ∀ x, x ∈ t5.qc.free ↔ (x ∈ t1.qc.free ∨ x ∈ M)
  qmap : t5.qc.qmap = t3.qc.qmap
  anc : t5.qc.anc = t3.qc.anc
  nomark : t5.qc.marked = []
  freeNd : t5.qc.free.Nodup
  comp : ∀ g ∈ t5.qc.gatesComputed.toList, ¬ Avail t5 g.target
  expq : ∀ p ∈ t5.expq, p ∈ t3.expq ∧ p.2 ∉ M
  keptNF : ∀ k ∈ t5.qc.kept, k ∉ t5.qc.free
  nl : (∀ a ∈ t1.qc.anc, a ∉ t1.qc.free → a ∉ t1.qc.kept → a ∉ t1.qc.marked → a = iret) →
    ∀ a ∈ t5.qc.anc, a ∈ t5.qc.free ∨ a ∈ t5.qc.kept
  nq : t5.qc.numQubits = t1.qc.numQubits

/-- the statement's result is kept to the end: the inline `uncompute` replays, in reverse, the gates whose
target is marked; `bennettF` shows that the released ancillas are zero again -/
theorem Rhs.unc {r : String} {iret : Nat} {unc : List Nat} {u : Unit} {l : List AGate}
    {s t1 t3 t4 t5 : CState} (c : Rhs σ0 s t1 l) (hd : HeadG r t1 t3 iret)
    (hunc : uncompute.run t3 = .ok (unc, t4)) (hrm : (expqRemove unc).run t4 = .ok (u, t5)) :
    EndG σ0 t1.qc.marked t1 t3 t5 iret := by
  obtain ⟨c1, c2, c3, c4, c5, c6, c7, c8, c9, c10⟩ := uncompute_sem (σ0 := σ0) hunc
  have hg4 : Good t4 := (uncompute_ok (B := fun _ => True) hunc hd.g3).good
  have hqc5 := expqRemove_run hrm
  have hmk3 := hd.mk3
  have hcomp3 : t3.qc.gatesComputed.toList = s.qc.gatesComputed.toList ++ l := by rw [hd.comp3, c.comp]
  have hMc : ∀ q, t1.qc.marked.contains q = true ↔ q ∈ t1.qc.marked := fun _ => List.contains_iff_mem
  -- no gate of earlier statements is replayed: the marked qubits were scratch space when this one began
  have hrep : rep t3.qc.marked t3.qc.gatesComputed.toList = rep t1.qc.marked l := by
    rw [hcomp3, hmk3]; unfold rep
    rw [List.filter_append, List.filter_eq_nil_iff.mpr (fun g hg hc => c.comp0 g hg (c.marks _ ((hMc _).mp hc)).1),
      List.nil_append]
  have hok : ∀ g ∈ l, g.cls.isMCXLike = true ∧ g.wires.Nodup ∧ g.wires ≠ [] := by
    intro g hg
    have hgo := c.good.comp_ok g (by rw [c.comp]; exact List.mem_append_right _ hg)
    exact ⟨hgo.1, hgo.nodup, hgo.wires_ne_nil⟩
  obtain ⟨bM, bN⟩ := bennettF t1.qc.marked (cur σ0 t1) l (cur σ0 s) hok
    (CtlOK.mono (fun f q hq => hq.imp (hMc q).mpr id) l _ c.ben) (cur_of_gates c.gates).symm
  have hcur5 : cur σ0 t5 = runF (rep t1.qc.marked l) (cur σ0 t1) := by
    rw [show cur σ0 t5 = cur σ0 t4 by unfold cur; rw [hqc5], c1, hrep, cur_congr hd.gates3]
  have hfree5 : ∀ x, x ∈ t5.qc.free ↔ (x ∈ t1.qc.free ∨ x ∈ t1.qc.marked) := by
    intro x
    rw [hqc5, c6, hmk3, hd.fr3]
    exact ⟨mem_foldl_setIns, mem_foldl_setIns_of_mem _ _ x⟩
  have hnq5 : t5.qc.numQubits = t1.qc.numQubits := by rw [hqc5, c3, hd.nq3]
  have hav5 : ∀ x, Avail t5 x ↔ (Avail t1 x ∨ x ∈ t1.qc.marked) := by
    intro x
    unfold Avail
    rw [hfree5, hnq5, or_right_comm]
  -- every marked qubit is the target of a gate of `gates_computed`, so it loses its mark
  have hMunc : ∀ m ∈ t1.qc.marked, m ∈ unc := by
    intro m hm
    obtain ⟨g, hg, ht⟩ := (c.marks m hm).2.2
    have : g.target ∈ unc := c8 g (by rw [hd.comp3]; exact hg) (by rw [hmk3, ht]; exact (hMc m).mpr hm)
    rwa [ht] at this
  have hkept5 : t5.qc.kept = t1.qc.kept := by rw [hqc5, c10, hd.kp3]
  refine ⟨(expqRemove_ok (B := fun _ => True) hrm hg4).good, hav5, fun q hq => ?_, fun q hq => ?_, hfree5,
    by rw [hqc5, c2], by rw [hqc5, c4], ?_,
    by rw [hqc5, c6, hmk3, hd.fr3]; exact foldl_setIns_nodup _ _ c.freeNd, ?_, ?_, ?_, ?_, hnq5⟩
  · rw [hcur5, bM q ((hMc q).mpr hq)]
    exact c.zero0 q (c.marks q hq).1
  · rw [hcur5]
    exact bN q (by
      cases hc : t1.qc.marked.contains q
      · rfl
      · exact absurd ((hMc q).mp hc) hq)
  · rw [hqc5, c7, hmk3]
    apply List.filter_eq_nil_iff.mpr
    intro m hm
    simp [hMunc m hm]
  · intro g hg
    rw [hqc5, c9, hmk3] at hg
    obtain ⟨hg1, hg2⟩ := List.mem_filter.mp hg
    have hnM : g.target ∉ t1.qc.marked := fun hm => by
      rw [(hMc _).mpr hm] at hg2; cases hg2
    have hna1 : ¬ Avail t1 g.target := by
      rw [hcomp3] at hg1
      rcases List.mem_append.mp hg1 with h' | h'
      · exact fun ha => c.comp0 g h' (c.avail _ ha)
      · exact c.tgt g h'
    exact fun ha => ((hav5 _).mp ha).elim hna1 hnM
  · intro p hp
    obtain ⟨h4, hnu⟩ := expqRemove_sub hrm p hp
    exact ⟨c5 p h4, fun hm => hnu (hMunc _ hm)⟩
  · intro k hk hf
    rw [hkept5] at hk
    rcases (hfree5 k).mp hf with h' | h'
    · exact c.keptNF k hk h'
    · exact (c.marks k h').2.1 hk
  · intro pend a ha
    rw [hqc5, c4] at ha
    have hai : a ≠ iret := fun e => hd.anc3b (e ▸ ha)
    by_cases hf : a ∈ t1.qc.free
    · exact Or.inl ((hfree5 a).mpr (Or.inl hf))
    · by_cases hk : a ∈ t1.qc.kept
      · exact Or.inr (by rw [hkept5]; exact hk)
      · by_cases hm : a ∈ t1.qc.marked
        · exact Or.inl ((hfree5 a).mpr (Or.inr hm))
        · exact absurd (pend a (hd.anc3a a ha) hf hk hm) hai

/-- the statement's result is undone by the final `uncompute_all`: `keep_ancillas` leaves every qubit as it
is, moves the ancillas in use to the kept set and drops the marks -/
theorem Rhs.keep {r : String} {iret : Nat} {u : Unit} {l : List AGate} {s t1 t3 t5 : CState}
    (c : Rhs σ0 s t1 l) (hd : HeadG r t1 t3 iret) (hk : keepAncillas.run t3 = .ok (u, t5)) :
    EndG σ0 [] t1 t3 t5 iret := by
  have hg5 : Good t5 := (keepAncillas_ok (B := fun _ => True) hk hd.g3).good
  unfold keepAncillas at hk
  have hs5 := modQC_run hk
  have hgc5 : t5.qc.gatesComputed = t3.qc.gatesComputed := by rw [hs5]
  have hf5 : t5.qc.free = t3.qc.free := by rw [hs5]
  have hn5 : t5.qc.numQubits = t3.qc.numQubits := by rw [hs5]
  have hk5 : t5.qc.kept = (t3.qc.anc.filter (fun a => !t3.qc.free.contains a)).foldl setIns t3.qc.kept := by
    rw [hs5]
  have hav : ∀ x, Avail t5 x ↔ Avail t1 x := Avail.congr (hf5.trans hd.fr3) (hn5.trans hd.nq3)
  have hcur : cur σ0 t5 = cur σ0 t1 := by rw [cur_congr (show t5.qc.gates = t3.qc.gates by rw [hs5]), cur_congr hd.gates3]
  refine ⟨hg5, fun x => (by rw [hav]; simp), fun q hq => (by cases hq), fun q _ => (by rw [hcur]),
    fun x => (by rw [hf5, hd.fr3]; simp), by rw [hs5], by rw [hs5], by rw [hs5], (by rw [hf5, hd.fr3]; exact c.freeNd), ?_,
    fun p hp => ⟨(by rw [hs5] at hp; exact hp), List.not_mem_nil⟩, ?_, fun _ a ha => ?_, hn5.trans hd.nq3⟩
  · intro g hg ha
    rw [hgc5, hd.comp3, c.comp] at hg
    have ha1 : Avail t1 g.target := (hav _).mp ha
    rcases List.mem_append.mp hg with h' | h'
    · exact c.comp0 g h' (c.avail _ ha1)
    · exact c.tgt g h' ha1
  · intro k hk' hf
    rw [hf5] at hf
    rw [hk5] at hk'
    rcases mem_foldl_setIns hk' with h' | h'
    · exact c.keptNF k (by rw [← hd.kp3]; exact h') (by rw [← hd.fr3]; exact hf)
    · have := (List.mem_filter.mp h').2
      simp only [Bool.not_eq_true', List.contains_eq_mem, decide_eq_false_iff_not] at this
      exact this hf
  · rw [show t5.qc.anc = t3.qc.anc by rw [hs5]] at ha
    by_cases hf : a ∈ t3.qc.free
    · exact Or.inl (by rw [hf5]; exact hf)
    · refine Or.inr ?_
      rw [hk5]
      exact mem_foldl_setIns_of_mem _ _ a (Or.inr (List.mem_filter.mpr ⟨ha, by simpa using hf⟩))

theorem Rhs.stmtEnd {r : String} {iret : Nat} {b : Bool} {u : Unit} {l : List AGate} {s t1 t3 t5 : CState}
    (c : Rhs σ0 s t1 l) (hd : HeadG r t1 t3 iret) (h : (stmtEndM b).run t3 = .ok (u, t5)) :
    ∃ M, (∀ m ∈ M, m ∈ t1.qc.marked) ∧ EndG σ0 M t1 t3 t5 iret := by
  unfold stmtEndM at h
  rcases run_ite_ok.mp h with ⟨_, h⟩ | ⟨_, h⟩
  · obtain ⟨unc, t4, hunc, hrm⟩ := run_bind_ok.mp h
    exact ⟨_, fun _ hm => hm, c.unc hd hunc hrm⟩
  · exact ⟨[], fun _ hm => (nomatch hm), c.keep hd h⟩

/-- the state invariant after the statement `r = e`, from what holds of the names other than `r` after the
right-hand side (`r` may have been bound before); `v` the value of `e`, `M` the released qubits -/
theorem Pre2.stmt {env : List (String × Bool)} {r : String} {v : Bool} {iret : Nat} {M : List Nat}
    {t1 t3 t5 : CState}
    (names1 : ∀ n q, Known scope n → n ≠ r → dictGet? t1.qc.qmap n = some q →
      q ∉ t1.qc.free ∧ q ∉ t1.qc.anc ∧ cur σ0 t1 q = kval (envOf env) n)
    (zero1 : ∀ q, Avail t1 q → cur σ0 t1 q = false) (freeAnc1 : ∀ q ∈ t1.qc.free, q ∈ t1.qc.anc)
    (scopeOK : ∀ n ∈ scope, reservedName n = false)
    (hbind : ∀ n ∈ scope, n ≠ r → ∃ q, dictGet? t1.qc.qmap n = some q)
    (nav : ¬ Avail t1 iret) (val : cur σ0 t1 iret = v)
    (hd : HeadG r t1 t3 iret) (he : EndG σ0 M t1 t3 t5 iret) (hM : ∀ m ∈ M, m ∈ t1.qc.anc ∧ m ≠ iret)
    (hres : reservedName r = false) :
    Pre2 (scope ++ [r]) (envOf ((r, v) :: env)) σ0 t5 := by
  obtain ⟨hrT, hrF, _⟩ := notReserved hres
  have hiretM : iret ∉ M := fun hm => (hM _ hm).2 rfl
  have hiretF : iret ∉ t5.qc.free := fun hf =>
    ((he.free _).mp hf).elim (fun h' => nav (Or.inl h')) hiretM
  have hkv : ∀ n, n ≠ r → kval (envOf ((r, v) :: env)) n = kval (envOf env) n := by
    intro n hn; unfold kval; rw [envOf_cons_ne hn]
  have hkvr : kval (envOf ((r, v) :: env)) r = v := by
    unfold kval; rw [if_neg hrT, if_neg hrF, envOf_cons_self]
  have hknown : ∀ n, Known (scope ++ [r]) n → n ≠ r → Known scope n := by
    rintro n (hk | hk | hk) hn
    · rcases List.mem_append.mp hk with hk | hk
      · exact Or.inl hk
      · exact absurd (by simpa using hk) hn
    · exact Or.inr (Or.inl hk)
    · exact Or.inr (Or.inr hk)
  have hqmK : ∀ n, Known scope n → n ≠ r → dictGet? t5.qc.qmap n = dictGet? t1.qc.qmap n := fun n hk hn => by
    rw [he.qmap, hd.qm3o n (known_notAnc scopeOK hk) hn]
  refine ⟨he.good, fun q hq => ?_, fun n q hk hq => ?_, fun n hn => ?_, fun n hn => ?_, he.freeNd, fun q hq => ?_,
    fun m hm => (by rw [he.nomark] at hm; cases hm), he.keptNF⟩
  · by_cases hqm : q ∈ M
    · exact he.zeroM q hqm
    · rw [he.val q hqm]; exact zero1 q (((he.avail q).mp hq).resolve_right hqm)
  · by_cases hn : n = r
    · subst hn
      rw [he.qmap, hd.qm3r] at hq
      cases hq
      exact ⟨hiretF, by rw [he.anc]; exact hd.anc3b, by rw [he.val _ hiretM, hkvr]; exact val⟩
    · have hk' := hknown n hk hn
      rw [hqmK n hk' hn] at hq
      obtain ⟨t1f, t1a, t1v⟩ := names1 n q hk' hn hq
      have hqM : q ∉ M := fun hm => t1a (hM q hm).1
      exact ⟨fun hf => ((he.free _).mp hf).elim t1f hqM, fun ha => t1a (hd.anc3a q (by rw [← he.anc]; exact ha)),
        by rw [he.val q hqM, hkv n hn]; exact t1v⟩
  · by_cases hnr : n = r
    · rw [hnr]; exact ⟨iret, by rw [he.qmap]; exact hd.qm3r⟩
    · have hns : n ∈ scope := (List.mem_append.mp hn).elim id (fun h' => absurd (by simpa using h') hnr)
      obtain ⟨q, hq⟩ := hbind n hns hnr
      exact ⟨q, by rw [hqmK n (Or.inl hns) hnr]; exact hq⟩
  · rcases List.mem_append.mp hn with hn | hn
    · exact scopeOK n hn
    · have : n = r := by simpa using hn
      rw [this]; exact hres
  · rw [he.anc]
    rcases (he.free q).mp hq with h' | h'
    · exact hd.anc3c q (freeAnc1 q h') (fun e' => nav (Or.inl (e' ▸ h')))
    · exact hd.anc3c q (hM q h').1 (hM q h').2

/-- invariant between two definitions; `done` holds the cache keys of the definitions compiled so far -/
structure Inv (scope : List String) (ρ : Env) (σ0 : FState) (done : List BExp) (s : CState) : Prop where
  pre : Pre2 scope ρ σ0 s
  nomark : s.qc.marked = []
  comp : ∀ g ∈ s.qc.gatesComputed.toList, ¬ Avail s g.target
  cache : ∀ p ∈ s.expq, isSym p.1 = true ∨ p.1 ∈ done

structure Head (scope : List String) (ρ : Env) (σ0 : FState) (wo : Bool) (e : BExp) (r : String)
    (s t1 t3 : CState) (iret : Nat) : Prop where
  hp1 : Pre2 scope ρ σ0 t1
  sem1 : Sem2 scope σ0 wo (CtlQ scope ρ t1) NoQ (· ∈ compKeys e)
    (fun m => Avail s m ∧ ¬ Avail t1 m ∧ m ≠ iret) s t1
  hnav1 : ¬ Avail t1 iret
  hval1 : cur σ0 t1 iret = e.eval ρ
  hM : ∀ m ∈ t1.qc.marked, Avail s m ∧ ¬ Avail t1 m ∧ m ≠ iret ∧ (wo = false → Tgt t1 m)
  hd : HeadG r t1 t3 iret

theorem stmt_head {e : BExp} {r : String} {iret : Nat} {u : Unit} {s t1 t3 : CState} (hp : Pre2 scope ρ σ0 s) (hnm : s.qc.marked = [])
    (hr : ∀ m, Known scope m → m ≠ r) (hwf : wfExpW scope wo e = true) (hdistE : Distinct (compKeys e))
    (hcache : ∀ p ∈ s.expq, ∀ c ∈ compKeys e, (p.1 == c) = false)
    (he : (compileExpr e none (some r)).run s = .ok (iret, t1))
    (hb : (bindResultM r iret).run t1 = .ok (u, t3)) :
    Head scope ρ σ0 wo e r s t1 t3 iret := by
  obtain ⟨hpk, semk, hnav1, hval1⟩ := topExprK he hp.toK (known_sc hp.scopeOK) (fun _ => known_const) hwf hdistE hr hcache
  have hp1 := hp.ofK hpk semk
  have sem1 := Sem2.ofK semk
  refine ⟨hp1, sem1, hnav1, hval1, fun m hm => ?_, stmt_headG hp1.good (notAvail_lt hnav1) hb⟩
  rcases sem1.marks m hm with h' | h'
  · rw [hnm] at h'; cases h'
  · exact ⟨h'.1.1, h'.1.2.1, h'.1.2.2, h'.2⟩

theorem Head.rhs {done : List BExp} {e : BExp} {r : String} {iret : Nat} {s t1 t3 : CState}
    (hinv : Inv scope ρ σ0 done s) (hd : Head scope ρ σ0 false e r s t1 t3 iret) : ∃ l, Rhs σ0 s t1 l := by
  obtain ⟨l, hgl, hcl, htl, hql⟩ := hd.sem1.seg
  refine ⟨l, hd.hp1.good, hgl, hcl, htl, ?_, hd.sem1.avail, hinv.pre.zero, hinv.comp, fun m hm => ?_,
    hd.hp1.freeNd, hd.hp1.keptNF⟩
  · -- a control that is the qubit of a known name held the name's value, as it does in `t1`
    refine CtlOK.mono (fun f c hq => hq.imp id ?_) l _ (hql rfl)
    rintro ⟨n, hk, hq', hv⟩
    rw [hv, (hd.hp1.tbl n c hk hq').2.2]
  · obtain ⟨a, _, _, tg⟩ := hd.hM m hm
    exact ⟨a, fun hk => hinv.pre.notKept a (by rw [← hd.sem1.kkeep]; exact hk), tg rfl⟩

theorem Inv.step {done : List BExp} {env : List (String × Bool)} {e : BExp} {r : String} {iret : Nat}
    {M : List Nat} {s t1 t3 t5 : CState} (hinv : Inv scope (envOf env) σ0 done s)
    (hd : Head scope (envOf env) σ0 false e r s t1 t3 iret) (he : EndG σ0 M t1 t3 t5 iret)
    (hM : ∀ m ∈ M, m ∈ t1.qc.marked) (hres : reservedName r = false) :
    Inv (scope ++ [r]) (envOf ((r, e.eval (envOf env)) :: env)) σ0 (done ++ compKeys e) t5 := by
  have hp1 := hd.hp1
  refine ⟨Pre2.stmt (fun n q hk _ hq => hp1.tbl n q hk hq) hp1.zero hp1.freeAnc hp1.scopeOK
      (fun n hn _ => hp1.bound n hn) hd.hnav1 hd.hval1 hd.hd he
      (fun m hm => ⟨hp1.mkAnc m (hM m hm), (hd.hM m (hM m hm)).2.2.1⟩) hres, he.nomark, he.comp, ?_⟩
  intro p hp
  rcases hd.hd.ex3 p (he.expq p hp).1 with ⟨h1, _, _⟩ | h'
  · rcases hd.sem1.keys p h1 with ⟨p00, hp00, e00⟩ | h'
    · rw [← e00]
      exact (hinv.cache p00 hp00).imp id (fun h' => List.mem_append_left _ h')
    · exact Or.inr (List.mem_append_right _ h')
  · rw [h']; exact Or.inl rfl

theorem defs_sem {retBits : Option (List String)} {doUnc : Bool} :
    ∀ (defs : List (String × BExp)) (scope : List String) (env : List (String × Bool))
    (done : List BExp) {u : Unit} {s s' : CState},
    (compileDefs retBits doUnc defs).run s = .ok (u, s') → Inv scope (envOf env) σ0 done s →
    slDefsW scope defs = true → Distinct (done ++ defs.flatMap (fun p => compKeys p.2)) →
    ∃ scope' done', Inv scope' (envOf (evalDefs defs env)) σ0 done' s' ∧ (∀ n ∈ scope, n ∈ scope') ∧
      (∀ p ∈ defs, p.1 ∈ scope') := by
  intro defs
  induction defs with
  | nil =>
    intro scope env done u s s' h hinv _ _
    unfold compileDefs at h
    obtain ⟨_, rfl⟩ := run_pure_ok.mp h
    exact ⟨scope, done, hinv, fun n hn => hn, fun p hp => absurd hp List.not_mem_nil⟩
  | cons p rest ih =>
    obtain ⟨r, e⟩ := p
    intro scope env done u s s' h hinv hsl hdist
    rw [compileDefs_cons] at h
    obtain ⟨iret, t1, he, k1⟩ := run_bind_ok.mp h
    obtain ⟨u1, t3, hb, k2⟩ := run_bind_ok.mp k1
    obtain ⟨u2, t5, hend, k5⟩ := run_bind_ok.mp k2
    obtain ⟨hres, hnr, hwf, hrest⟩ := slDefsW_cons.mp hsl
    have hr : ∀ m, Known scope m → m ≠ r := fun m =>
      Known.ne_of_fresh hnr (notReserved hres).1 (notReserved hres).2.1
    have hd0 : Distinct (done ++ (compKeys e ++ rest.flatMap (fun p => compKeys p.2))) := by
      simpa [List.flatMap_cons] using hdist
    have hd1 := List.pairwise_append.mp hd0
    have hdistE : Distinct (compKeys e) := (List.pairwise_append.mp hd1.2.1).1
    have hcache : ∀ p ∈ s.expq, ∀ c ∈ compKeys e, (p.1 == c) = false := by
      intro p hp c hc
      rcases hinv.cache p hp with h' | h'
      · exact beq_sym_false h' (compKeys_notSym e c hc)
      · exact hd1.2.2 p.1 h' c (List.mem_append_left _ hc)
    have hd := stmt_head hinv.pre hinv.nomark hr hwf hdistE hcache he hb
    obtain ⟨l, rhs⟩ := hd.rhs hinv
    obtain ⟨M, hM, hend'⟩ := rhs.stmtEnd hd.hd hend
    obtain ⟨scope', done', hfin, hsub, hmem⟩ := ih (scope ++ [r]) ((r, e.eval (envOf env)) :: env)
      (done ++ compKeys e) k5 (hinv.step hd hend' hM hres) hrest (by
        rw [List.append_assoc]; exact hd0)
    refine ⟨scope', done', hfin, fun n hn => hsub n (List.mem_append_left _ hn), fun p hp => ?_⟩
    rcases List.mem_cons.mp hp with rfl | hp
    · exact hsub r (by simp)
    · exact hmem p hp

theorem entry_pre2 {inputs : List String} {cs : List Nat} {x : List Bool} (N : Nat)
    (hnd : inputs.Nodup) (hfresh : ∀ n ∈ inputs, reservedName n = false) (hx : x.length = inputs.length) :
    Pre2 inputs (envOf (inputs.zip x)) (toF (initState x N)) (entry cs inputs) := by
  have hcur : ∀ q, cur (toF (initState x N)) (entry cs inputs) q = x.getD q false :=
    fun q => initState_getD x N q
  refine ⟨good_entry cs inputs, fun q hq => ?_, fun n q hk hq => ?_, fun n hn => ?_, hfresh, List.nodup_nil,
    List.forall_mem_nil _, List.forall_mem_nil _, List.forall_mem_nil _⟩
  · rw [hcur]
    have hge : inputs.length ≤ q := hq.elim (fun h => (List.not_mem_nil h).elim) id
    have : x[q]? = none := by simp; omega
    simp [List.getD_eq_getElem?_getD, this]
  · have hi := entry_mem (dictGet?_mem hq)
    exact ⟨List.not_mem_nil, List.not_mem_nil,
      by rw [hcur, kval_scope hfresh (List.mem_of_getElem? hi), envOf_zip hnd hi]⟩
  · obtain ⟨i, hi⟩ := idx_of_mem hn
    exact ⟨i, entry_pos hnd hi⟩

theorem init_pre2 {inputs : List String} {cs : List Nat} {x : List Bool} {u : Unit} {s1 : CState} (N : Nat)
    (hin : (addInputs inputs).run { choices := cs, inputs := inputs } = .ok (u, s1))
    (hnd : inputs.Nodup) (hfresh : ∀ n ∈ inputs, reservedName n = false) (hx : x.length = inputs.length) :
    Pre2 inputs (envOf (inputs.zip x)) (toF (initState x N)) s1 ∧ s1.qc.marked = [] ∧
      s1.qc.gatesComputed.toList = [] ∧ s1.expq = [] ∧ s1.qc.numQubits = inputs.length := by
  cases addInputs_init hin
  exact ⟨entry_pre2 N hnd hfresh hx, rfl, rfl, rfl, rfl⟩

/-- Straight-line definition lists, final uncomputation on or off: the qubit mapped to a defined name that is a
requested return bit (any defined name when the final uncomputation is off) ends with the value the reference
semantics `evalDefs` gives the name, on every input. -/
theorem compile_named_sem {inputs : List String} {defs : List (String × BExp)} {rets : List String}
    {unc : Bool} {cs : List Nat} {s : CState}
    (h : (compile inputs defs (some rets) unc).run { choices := cs } = .ok ((), s))
    (hnd : inputs.Nodup) (hfresh : ∀ n ∈ inputs, reservedName n = false)
    (hsl : slDefsW inputs defs = true) (hdist : Distinct (defs.flatMap (fun p => compKeys p.2)))
    (x : List Bool) (hx : x.length = inputs.length) (r : String) (hr : ∃ p ∈ defs, p.1 = r)
    (hrr : unc = true → r ∈ rets) :
    ∃ q, dictGet? s.qc.qmap r = some q ∧
      (runClassical s.qc.gates.toList (initState x s.qc.numQubits)).getD q false =
        envOf (evalDefs defs (inputs.zip x)) r := by
  obtain ⟨s2, hdefs, hend⟩ := compile_frame h x hx
  obtain ⟨scope', done', hfin, _, hmem⟩ := defs_sem defs inputs (inputs.zip x) [] hdefs
    ⟨entry_pre2 s.qc.numQubits hnd hfresh hx, rfl, List.forall_mem_nil _, List.forall_mem_nil _⟩ hsl
    (by simpa using hdist)
  obtain ⟨p, hpd, rfl⟩ := hr
  have hrs : p.1 ∈ scope' := hmem p hpd
  obtain ⟨q, hq⟩ := hfin.pre.bound p.1 hrs
  obtain ⟨hq', hv⟩ := hend p.1 q hq hrr
  exact ⟨q, hq', by rw [hv, (hfin.pre.tbl p.1 q (Or.inl hrs) hq).2.2, kval_scope hfin.pre.scopeOK hrs]⟩

/-- One definition `r = e`, with or without final uncomputation, for any set `Kn` of known names between the
arguments and `Known inputs` that does not contain `r` and contains the constants if `e` mentions one.  The defined
name is a requested return bit, or there is no final uncomputation, so the statement ends with the inline
`uncompute`, which replays no gate whose target is the result qubit; neither does the final `uncompute_all`. -/
theorem compile_one {Kn : String → Prop} {inputs : List String} {r : String} {e : BExp} {rets : List String}
    {unc : Bool} {cs : List Nat} {s : CState}
    (h : (compile inputs [(r, e)] (some rets) unc).run { choices := cs } = .ok ((), s))
    (hr : unc = true → r ∈ rets)
    (hnd : inputs.Nodup) (hfresh : ∀ n ∈ inputs, reservedName n = false)
    (hin : ∀ n ∈ inputs, Kn n) (hkn : ∀ n, Kn n → Known inputs n ∧ n ≠ r)
    (hc : hasConst e = true → Kn "TRUE" ∧ Kn "FALSE")
    (hwf : wfExpW inputs true e = true) (hdist : Distinct (compKeys e))
    (x : List Bool) (hx : x.length = inputs.length) :
    ∃ q, dictGet? s.qc.qmap r = some q ∧
      (runClassical s.qc.gates.toList (initState x s.qc.numQubits)).getD q false =
        e.eval (envOf (inputs.zip x)) := by
  obtain ⟨s2, hdefs, hend⟩ := compile_frame h x hx
  have hp1' : PreK Kn (kval (envOf (inputs.zip x))) (toF (initState x s.qc.numQubits)) (entry cs inputs) :=
    (entry_pre2 s.qc.numQubits hnd hfresh hx).toK.mono fun n hn => ⟨(hkn n hn).1, rfl⟩
  rw [compileDefs_cons] at hdefs
  obtain ⟨iret, t1, he, k1⟩ := run_bind_ok.mp hdefs
  obtain ⟨u1, t3, hb, k2⟩ := run_bind_ok.mp k1
  obtain ⟨u2, t5, hse, k5⟩ := run_bind_ok.mp k2
  have hinl : inlineUncompute (some rets) unc r = true := by
    cases unc with
    | false => rfl
    | true => rw [inlineUncompute_some]; exact List.contains_iff_mem.mpr (hr rfl)
  rw [hinl, stmtEndM, if_pos rfl] at hse
  obtain ⟨unc', t4, hunc, hrm⟩ := run_bind_ok.mp hse
  unfold compileDefs at k5
  obtain ⟨_, rfl⟩ := run_pure_ok.mp k5
  obtain ⟨hpt, sem, hnav, hval⟩ := topExprK (wo := true) he hp1'
    (fun n hn => ⟨hin n hn, kval_scope hfresh hn⟩)
    (fun h' => ⟨⟨(hc h').1, kval_TRUE⟩, ⟨(hc h').2, kval_FALSE⟩⟩) hwf hdist (fun m hm => (hkn m hm).2)
    (List.forall_mem_nil _)
  have hd := stmt_headG hpt.good (notAvail_lt hnav) hb
  obtain ⟨extra, e1, e2, e3, e4⟩ := uncompute_gates hunc
  have hqc5 := expqRemove_run hrm
  obtain ⟨hq', hv⟩ := hend r iret (by rw [hqc5, e3]; exact hd.qm3r) hr
  refine ⟨iret, hq', ?_⟩
  rw [hv]
  unfold cur
  rw [hqc5, e1, runF_append, untargeted_runF]
  · rw [hd.gates3]; exact hval
  · intro g hg hlast
    have ht : g.target = iret := by unfold AGate.target; rw [hlast]; rfl
    have hm := e2 g hg
    rw [ht, hd.mk3] at hm
    rcases sem.marks iret hm with h' | h'
    · cases h'
    · exact h'.1.2.2 rfl

/-- `compile_one` with both constants among the known names, so the defined name is not `TRUE` / `FALSE` -/
theorem compile_const_sem {inputs : List String} {r : String} {e : BExp} {rets : List String}
    {unc : Bool} {cs : List Nat} {s : CState}
    (h : (compile inputs [(r, e)] (some rets) unc).run { choices := cs } = .ok ((), s))
    (hr : unc = true → r ∈ rets)
    (hnd : inputs.Nodup) (hfresh : ∀ n ∈ inputs, n ≠ r ∧ reservedName n = false)
    (hrT : r ≠ "TRUE" ∧ r ≠ "FALSE")
    (hwf : wfExpW inputs true e = true) (hdist : Distinct (compKeys e))
    (x : List Bool) (hx : x.length = inputs.length) :
    ∃ q, dictGet? s.qc.qmap r = some q ∧
      (runClassical s.qc.gates.toList (initState x s.qc.numQubits)).getD q false =
        e.eval (envOf (inputs.zip x)) :=
  compile_one (Kn := Known inputs) h hr hnd (fun n hn => (hfresh n hn).2) (fun _ hn => Or.inl hn)
    (fun _ hk => ⟨hk, Known.ne_of_fresh (fun hm => (hfresh r hm).1 rfl) hrT.1 hrT.2 hk⟩)
    (fun _ => ⟨Or.inr (Or.inl rfl), Or.inr (Or.inr rfl)⟩) hwf hdist x hx

/-- class (c) of `QV.C02` over the expression class of the repaired compiler: `inFragmentNamed` with `slDefsW`
for `slDefs`, i.e. `Or` of any arity over any arguments (symbols, constants, compound expressions) -/
def inFragmentNamedW (inputs : List String) (defs : List (String × BExp)) (rets : List String) : Bool :=
  decide inputs.Nodup && inputs.all (fun n => !reservedName n) && slDefsW inputs defs &&
    distinctB (defs.flatMap (fun p => compKeys p.2)) && rets.all (fun r => defs.any (fun p => p.1 == r))

theorem inFragmentNamedW_of_inFragmentNamed {inputs : List String} {defs : List (String × BExp)}
    {rets : List String} (h : inFragmentNamed inputs defs rets = true) :
    inFragmentNamedW inputs defs rets = true := by
  simp only [inFragmentNamed, Bool.and_eq_true] at h
  simp only [inFragmentNamedW, Bool.and_eq_true]
  exact ⟨⟨⟨h.1.1.1, slDefsW_of_slDefs _ _ h.1.1.2⟩, h.1.2⟩, h.2⟩

theorem inFragmentNamedW_parts {inputs : List String} {defs : List (String × BExp)} {rets : List String}
    (h : inFragmentNamedW inputs defs rets = true) :
    inputs.Nodup ∧ (∀ n ∈ inputs, reservedName n = false) ∧ slDefsW inputs defs = true ∧
      Distinct (defs.flatMap fun p => compKeys p.2) ∧ ∀ r ∈ rets, ∃ p ∈ defs, p.1 = r := by
  simp only [inFragmentNamedW, Bool.and_eq_true, decide_eq_true_eq, List.all_eq_true, Bool.not_eq_true',
    List.any_eq_true, beq_iff_eq] at h
  exact ⟨h.1.1.1.1, h.1.1.1.2, h.1.1.2, distinctB_iff.mp h.1.2, h.2⟩

theorem inFragmentConst_single {inputs : List String} {defs : List (String × BExp)} {rets : List String}
    (h : inFragmentConst inputs defs rets = true) :
    ∃ r e, defs = [(r, e)] ∧ inputs.Nodup ∧ (∀ n ∈ inputs, n ≠ r ∧ reservedName n = false) ∧
      (r ≠ "TRUE" ∧ r ≠ "FALSE") ∧ wfExp inputs true e = true ∧ Distinct (compKeys e) ∧ ∀ r' ∈ rets, r' = r := by
  match defs, h with
  | [(r, e)], h =>
    simp only [inFragmentConst, Bool.and_eq_true, decide_eq_true_eq, List.all_eq_true, bne_iff_ne, ne_eq,
      Bool.not_eq_true', beq_iff_eq] at h
    exact ⟨r, e, rfl, h.1.1.1.1.1.1, h.1.1.1.1.1.2, ⟨h.1.1.1.1.2, h.1.1.1.2⟩, h.1.1.2, distinctB_iff.mp h.1.2, h.2⟩

end QV.Compiler
