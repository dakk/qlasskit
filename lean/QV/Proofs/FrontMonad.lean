import QV.Model.Sem
import QV.Proofs.Mul
import QV.Proofs.StateExcept
namespace QV.Sem
open QV.Arith QV.Front

/-! The monad `M = StateT St (Except String)`: the `_ok` lemmas are equivalences (for `simp`), the `_inv` forms take
one step of a given run apart without visiting the rest of the term. -/

theorem run_bind_ok {α β} (x : M α) (f : α → M β) (s : St) (r : β × St) :
    (x >>= f).run s = .ok r ↔ ∃ a s1, x.run s = .ok (a, s1) ∧ (f a).run s1 = .ok r := SE.run_bind_ok x f s r

theorem run_pure_ok {α} (a : α) (s : St) (b : α) (s1 : St) :
    (pure a : M α).run s = .ok (b, s1) ↔ b = a ∧ s1 = s := SE.run_pure_ok a s b s1

theorem run_throw_ok {α} (e : String) (s : St) (r : α × St) :
    ((throw e : M α).run s = .ok r) ↔ False := SE.run_throw_ok e s r

theorem run_lift_ok {α} (x : Except String α) (s : St) (a : α) (s1 : St) :
    ((liftM x : M α).run s = .ok (a, s1)) ↔ x = .ok a ∧ s1 = s := SE.run_lift_ok x s a s1

theorem run_event_ok (e : String) (s : St) (u : Unit) (s1 : St) :
    (event e).run s = .ok (u, s1) ↔ s1 = { s with events := s.events ++ [e] } := by
  simp [event, modify, modifyGet, MonadStateOf.modifyGet, StateT.modifyGet, StateT.run, pure, Except.pure,
    eq_comm]

theorem run_ite_ok {α} (c : Prop) [Decidable c] (x y : M α) (s : St) (r : α × St) :
    (if c then x else y).run s = .ok r ↔ (c ∧ x.run s = .ok r) ∨ (¬c ∧ y.run s = .ok r) := SE.run_ite_ok c x y s r

theorem bind_inv {α β} {x : M α} {f : α → M β} {s : St} {r : β × St} (h : (x >>= f).run s = .ok r) :
    ∃ a s1, x.run s = .ok (a, s1) ∧ (f a).run s1 = .ok r := (run_bind_ok x f s r).mp h

theorem pure_inv {α} {a b : α} {s s1 : St} (h : (pure a : M α).run s = .ok (b, s1)) : b = a :=
  ((run_pure_ok a s b s1).mp h).1

theorem lift_inv {α} {x : Except String α} {s : St} {a : α} {s1 : St}
    (h : (liftM x : M α).run s = .ok (a, s1)) : x = .ok a ∧ s1 = s := (run_lift_ok x s a s1).mp h

theorem throw_inv {α} {e : String} {s : St} {r : α × St} (h : (throw e : M α).run s = .ok r) : False :=
  (run_throw_ok e s r).mp h

theorem event_inv {α} {c : Prop} [Decidable c] {e : String} {k : M α} {s : St} {r : α × St}
    (h : (if c then (do event e; k) else k).run s = .ok r) : ∃ s1, k.run s1 = .ok r := by
  split at h
  · obtain ⟨_, s1, _, h⟩ := bind_inv h
    exact ⟨s1, h⟩
  · exact ⟨s, h⟩

/-- the translated value `v` of type `t` denotes `sv` under the assignment `ρ` of the argument bits -/
inductive Den (ρ : QV.Env) : Ty → Val → SVal → Prop
  | bool (a : BExp) : Den ρ .bool (.atom a) (.bool (a.eval ρ))
  | int (bits : List BExp) : Den ρ (.qint bits.length) (Val.ofBits bits) (.int bits.length (val ρ bits))

theorem Den.mk_int {ρ : QV.Env} (bits : List BExp) (w x : Nat) (hl : bits.length = w) (hv : val ρ bits = x) :
    Den ρ (.qint w) (Val.ofBits bits) (.int w x) := by
  subst hl; subst hv; exact Den.int bits

theorem Den.mk_bool {ρ : QV.Env} (a : BExp) (b : Bool) (h : a.eval ρ = b) :
    Den ρ .bool (.atom a) (.bool b) := by
  subst h; exact Den.bool a

theorem bits?_ofBits (l : List BExp) : (Val.ofBits l).bits? = some l := by
  unfold Val.ofBits Val.bits?
  induction l with
  | nil => rfl
  | cons a as ih => simp [List.mapM_cons, ih]

theorem bitsOf_ofBits (l : List BExp) : bitsOf (Val.ofBits l) = .ok l := by
  simp [bitsOf, bits?_ofBits, pure, Except.pure]

theorem atomOf_atom (a : BExp) : atomOf (.atom a) = .ok a := rfl

-- `atomOf_ofBits`, `bitsOf_atom`: kept, not used below
theorem atomOf_ofBits (l : List BExp) (a : BExp) : atomOf (Val.ofBits l) = .ok a ↔ False := by
  simp [atomOf, Val.ofBits, throw, throwThe, MonadExceptOf.throw]

theorem bitsOf_atom (a : BExp) (l : List BExp) : bitsOf (.atom a) = .ok l ↔ False := by
  simp [bitsOf, Val.bits?, throw, throwThe, MonadExceptOf.throw]

theorem atomOf_ok {v : Val} {a : BExp} (h : atomOf v = .ok a) : v = .atom a := by
  cases v with
  | atom b => cases h; rfl
  | list l => cases h

theorem ofBits_syms (names : List String) :
    Val.list (names.map fun s => Val.atom (BExp.sym s)) = Val.ofBits (names.map BExp.sym) := by
  simp [Val.ofBits, List.map_map, Function.comp_def]

theorem val_syms (ρ : QV.Env) (names : List String) :
    val ρ (names.map BExp.sym) = valLE (names.map ρ) := by
  simp [val, evalBits, BExp.eval, Function.comp_def]

def Sound (ρ : QV.Env) (env : Front.Env) (σ : SEnv) (e : PExp) : Prop :=
  ∀ (s : St) (t : Ty) (v : Val) (s' : St),
    (tr Quirks.none env e).run s = .ok ((t, v), s') → ∃ sv, semW σ e = some sv ∧ Den ρ t v sv

-- only the first two are used (`soundT_not`); every other type dispatch goes through `cases` on `DenT` and `Ty.bne_iff`
theorem bne_bool_bool : (Ty.bool != Ty.bool) = false := rfl
theorem bne_qint_bool (w : Nat) : (Ty.qint w != Ty.bool) = true := rfl
theorem beq_qint_bool (w : Nat) : (Ty.qint w == Ty.bool) = false := rfl
theorem beq_bool_bool : (Ty.bool == Ty.bool) = true := rfl
theorem bne_bool_qint (w : Nat) : (Ty.bool != Ty.qint w) = true := rfl
theorem bne_qint_qint (a b : Nat) : (Ty.qint a != Ty.qint b) = !(a == b) := rfl

theorem ite_lt_qint (a b : Nat) : (if a < b then Ty.qint b else Ty.qint a) = Ty.qint (max a b) := by
  split <;> congr 1 <;> omega
theorem ite_gt_qint (a b : Nat) : (if a > b then Ty.qint a else Ty.qint b) = Ty.qint (max a b) := by
  split <;> congr 1 <;> omega

theorem candidates_eq : Gen.constQintCandidates.map (·.2) = constWidths := by decide

theorem constToQtype_ok {ρ : QV.Env} {c : Int} {t : Ty} {bits : List BExp}
    (h : constToQtype c = .ok (t, bits)) :
    ∃ w, constWidth c = some w ∧ t = .qint w ∧ bits.length = w ∧ val ρ bits = (c % (2 : Int) ^ w).toNat := by
  unfold constToQtype at h
  rw [candidates_eq] at h
  split at h
  · rename_i w hw
    cases h
    have hpos : 0 < w := by
      have hmem := List.mem_of_find?_eq_some hw
      simp only [constWidths, List.mem_cons, List.mem_nil_iff, or_false] at hmem
      omega
    obtain ⟨h4, h5⟩ := qintConst_spec ρ w (c % (2 : Int) ^ w).toNat hpos
    refine ⟨w, hw, rfl, h5, ?_⟩
    rw [h4]
    apply Nat.mod_eq_of_lt
    have hp : (0 : Int) < 2 ^ w := Int.pow_pos (by decide)
    rw [Int.toNat_lt (Int.emod_nonneg _ (by omega))]
    simpa using Int.emod_lt_of_pos c hp
  · cases h

theorem isPow2_spec (n : Nat) (h : isPow2 n = true) : ∃ k, n = 2 ^ k := by
  simp only [isPow2, List.any_eq_true, beq_iff_eq] at h
  obtain ⟨k, _, hk⟩ := h
  exact ⟨k, hk⟩

theorem val_bitwiseGeneric (ρ : QV.Env) (op : BExp → BExp → BExp) (f : Bool → Bool → Bool)
    (hop : ∀ a b, (op a b).eval ρ = f (a.eval ρ) (b.eval ρ)) (l r : List BExp) :
    val ρ (bitwiseGeneric op l r) = natBitwise f (max l.length r.length) (val ρ l) (val ρ r) := by
  rw [bitwiseGeneric, natBitwise, val, evalBits_zipWith ρ hop, evalBits_eq_toBitsLE ρ _ _ (widenL_length l r),
    evalBits_eq_toBitsLE ρ _ _ (widenR_length l r), val_widenL, val_widenR]

theorem iteZip_atoms (c : BExp) (x y : List BExp) :
    iteZip c (x.map .atom) (y.map .atom) = .ok ((List.zipWith (BExp.ite c) x y).map .atom) := by
  induction x generalizing y with
  | nil => simp [iteZip, pure, Except.pure]
  | cons a as ih =>
    cases y with
    | nil => simp [iteZip, pure, Except.pure]
    | cons b bs => simp [iteZip, ih, bind, Except.bind, pure, Except.pure]

/-- the first loop of `BoolOp`: collects the operands, each of which must be a single expression -/
theorem atoms_loop (xs : List (Ty × Val)) :
    ∀ (init : List BExp) (s : St) (es : List BExp) (s1 : St),
      (forIn xs init (fun (x : Ty × Val) (acc : List BExp) => (do
          let a ← (liftM (atomOf x.2) : M BExp)
          pure (ForInStep.yield (acc ++ [a])) : M (ForInStep (List BExp))))).run s = .ok (es, s1) →
      ∃ as, xs.map (·.2) = as.map Val.atom ∧ es = init ++ as := by
  induction xs with
  | nil =>
    intro init s es s1 h
    simp only [List.forIn_nil, run_pure_ok] at h
    exact ⟨[], rfl, by simp [h.1]⟩
  | cons x xs ih =>
    intro init s es s1 h
    simp only [List.forIn_cons, run_bind_ok, run_lift_ok, run_pure_ok] at h
    obtain ⟨_, _, ⟨a, _, ⟨ha, rfl⟩, rfl, rfl⟩, h2⟩ := h
    obtain ⟨as, h3, h4⟩ := ih _ _ _ _ h2
    exact ⟨a :: as, by simp [atomOf_ok ha, h3], by simp [h4]⟩

end QV.Sem
