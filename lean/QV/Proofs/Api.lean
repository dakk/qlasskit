import QV.Model.Api
/-!
`step = close ∘ stepCore`: `stepCore` computes the state an operation leaves and its outcome,
`close` appends the outcome to the heap as the operation's own slot.  Away from the defects (namespace quirks off,
`opTrigger` false) `stepCore` returns `(touch s op, outcome)`, the outcome being that of the repaired operation in any
state with the same argument slots (`stepCore_away`).  `Keeps P s s'` (namespace, defaults and the fingerprints of the
objects of `s` unchanged in `s'`) is a preorder with two generators, `touch_keeps` and `close_keeps`; `frame`,
`frame_run` and `later_calls_ok` of `Props/C10.lean` are its fields.  What `close` appends and returns is read off the
outcome alone (`close_eq`), which with `stepCore_none` is `history_free`.
-/
namespace QV.Api

@[simp] theorem none_exec : Quirks.none.execIntoModuleGlobals = false := rfl
@[simp] theorem none_eval : Quirks.none.evalSeesLocals = false := rfl
@[simp] theorem none_oraclize : Quirks.none.oraclizeRenames = false := rfl
@[simp] theorem none_grover : Quirks.none.groverMutatesOracle = false := rfl
@[simp] theorem none_bindOrig : Quirks.none.bindOrigWithoutDefs = false := rfl
@[simp] theorem none_defShadows : Quirks.none.defShadowsAnnotation = false := rfl

@[simp] theorem defShadows_none (annots : List String) (defs : List DefView) :
    defShadows Quirks.none annots defs = false := by simp [defShadows]

@[simp] theorem collides_none (ns : List (String × Src)) (r : List String) :
    collides Quirks.none ns r = false := by simp [collides]

@[simp] theorem nsWrite_none (ns : List (String × Src)) (n : String) (s : Src) :
    nsWrite Quirks.none ns n s = ns := by simp [nsWrite]

@[simp] theorem origNow_none (P : Pool) (ns : List (String × Src)) (f : QF) :
    f.origNow Quirks.none P ns = f.orig := by simp [QF.origNow]

theorem fp_none_ns (P : Pool) (ns ns' : List (String × Src)) (o : Obj) :
    o.fp Quirks.none P ns = o.fp Quirks.none P ns' := by
  have h : QF.fp Quirks.none P ns = QF.fp Quirks.none P ns' := by funext f; simp [QF.fp]
  cases o <;> simp only [Obj.fp, h]

/-- `QCircuit.copy` sets `self.__native = None` -/
def Obj.uncache : Obj → Obj
  | .qf f => .qf { f with native := false }
  | .alg a => .alg { a with native := false }
  | o => o

/-- the one write of a repaired operation to an object that exists -/
def touch (s : ApiState) : Op → ApiState
  | .readOnly kind r => if kind == "qc_copy" then setObj s r (s.objs.getD r .dead).uncache else s
  | _ => s

theorem getQF_eq_some {s : ApiState} {r : Nat} {f : QF} (h : getQF s r = some f) :
    s.objs.getD r .dead = .qf f := by
  unfold getQF at h
  split at h
  · next h0 => cases h; exact h0
  · cases h

theorem setObj_self {s : ApiState} {r : Nat} {o : Obj} (h : s.objs.getD r .dead = o) : setObj s r o = s := by
  subst h
  unfold setObj
  by_cases hl : r < s.objs.length
  · rw [List.getD_eq_getElem?_getD, List.getElem?_eq_getElem hl, Option.getD_some, List.set_getElem_self]
  · rw [List.set_eq_of_length_le (Nat.le_of_not_lt hl)]

theorem mapM_defView_congr (s s' : ApiState) (l : List Nat)
    (h : ∀ r ∈ l, s.objs.getD r .dead = s'.objs.getD r .dead) :
    l.mapM (defView s) = l.mapM (defView s') := by
  induction l with
  | nil => rfl
  | cons a l ih =>
    have ha : defView s a = defView s' a := by
      simp only [defView, getQF, h a List.mem_cons_self]
    simp only [List.mapM_cons, ha, ih (fun r hr => h r (List.mem_cons_of_mem _ hr))]

theorem getQF_congr {s s' : ApiState} {r : Nat} (h : s.objs.getD r .dead = s'.objs.getD r .dead) :
    getQF s r = getQF s' r := by
  simp only [getQF, h]

theorem groverFinish_away {q : Quirks} (hg : q.groverMutatesOracle = false) (s s' : ApiState) (r : Nat) (f : QF)
    (own : Option QF) (iters : Nat) :
    groverFinish q s r f own iters = (s, (groverFinish Quirks.none s' r f own iters).2) := by
  unfold groverFinish
  simp only [hg, none_grover, Bool.false_and, Bool.false_eq_true, ↓reduceIte]
  split <;> rfl

section Away
variable {q : Quirks} (hq : q.execIntoModuleGlobals = false) (he : q.evalSeesLocals = false)
  (hd : q.defShadowsAnnotation = false) (P : Pool) (K : Oracle) (s s' : ApiState)
include hq

theorem collides_off (ns : List (String × Src)) (r : List String) : collides q ns r = false := by
  simp only [collides, hq, Bool.false_and]

include he hd

theorem fromFunction_away (src : Src) (key : String) (annots : List String) (params : Bool) (defs : List DefView) :
    fromFunction q P K s src key annots params defs =
      (s, (fromFunction Quirks.none P K s' src key annots params defs).2) := by
  unfold fromFunction
  simp only [collides, nsWrite, evalHitsLocal, defShadows, hq, he, hd, none_exec, none_eval, none_defShadows,
    Bool.false_and, Bool.false_eq_true, ↓reduceIte]
  split
  · rfl
  · split <;> rfl

theorem oraclizeCore_away {r : Nat} {f : QF} (e : String) (hf : getQF s r = some f)
    (hn : (q.oraclizeRenames && f.name == "oracle") = false) :
    oraclizeCore q P K s r f e = (s, (oraclizeCore Quirks.none P K s' r f e).2) := by
  unfold oraclizeCore
  simp only [collides_off hq, collides_none, none_oraclize, Bool.false_eq_true, ↓reduceIte]
  cases hren : q.oraclizeRenames
  · exact fromFunction_away hq he hd P K s s' ..
  · -- the function is not called `oracle`: the assignment `qf.name = qf.name` writes the object back
    have hne : (f.name == "oracle") = false := by simpa [hren] using hn
    simp only [hne, Bool.false_eq_true, ↓reduceIte]
    rw [setObj_self (getQF_eq_some hf)]
    exact fromFunction_away hq he hd P K s s' ..

theorem groverPre_away {r : Nat} {f : QF} (elem : Option String) (hf : getQF s r = some f)
    (hn : (q.oraclizeRenames && elem.isSome && f.name == "oracle") = false) :
    groverPre q P K s r f elem = (s, (groverPre Quirks.none P K s' r f elem).2) := by
  cases elem with
  | none => rfl
  | some e => simp only [groverPre, oraclizeCore_away hq he hd P K s s' e hf (by simpa using hn)]

theorem groverCore_away {r : Nat} {f : QF} (elem : Option String) (iters : Nat) (hf : getQF s r = some f)
    (hg : q.groverMutatesOracle = false)
    (hn : (q.oraclizeRenames && elem.isSome && f.name == "oracle") = false) :
    groverCore q P K s r f elem iters = (s, (groverCore Quirks.none P K s' r f elem iters).2) := by
  unfold groverCore
  rw [groverPre_away hq he hd P K s s' elem hf hn]
  split
  · rfl
  · dsimp only
    split
    · rfl
    · rfl
    · exact groverFinish_away hg ..

theorem stepCore_away (op : Op) (ht : opTrigger q s op = false)
    (h : ∀ r ∈ op.refs, s.objs.getD r .dead = s'.objs.getD r .dead) :
    stepCore q P K s op = (touch s op, (stepCore Quirks.none P K s' op).2) := by
  cases op with
  | compile i defs c =>
    simp only [stepCore, touch, collides_off hq, collides_none, mapM_defView_congr s s' defs h, Bool.false_eq_true,
      ↓reduceIte, fromFunction_away hq he hd P K s s']
    repeat' split
    all_goals rfl
  | secretOracle n sec => exact fromFunction_away hq he hd P K s s' ..
  | readOnly kind r =>
    simp only [stepCore, touch, collides_off hq, collides_none, ← h r List.mem_cons_self, Bool.and_false,
      Bool.false_eq_true, ↓reduceIte]
    cases hs : s.objs.getD r .dead with
    | dead | unbound _ _ =>
      -- nothing to reset: the slot is written back as it is
      simp only [Obj.uncache, setObj_self hs, ite_self]
    | qf f => simp only []; split <;> rfl
    | alg a =>
      simp only []
      split
      · next htt =>
        -- `truth_table` of an algorithm raises, and it is not `qc_copy`
        have : (kind == "qc_copy") = false := by rw [beq_iff_eq] at htt; subst htt; decide
        simp only [this, Bool.false_eq_true, ↓reduceIte]
      · split <;> rfl
  | bind r pkey =>
    simp only [opTrigger] at ht
    simp only [stepCore, touch, collides_off hq, collides_none, h r List.mem_cons_self, boundOrig, ht, none_bindOrig,
      Bool.false_eq_true, ↓reduceIte]
    cases s'.objs.getD r .dead with
    | unbound i defs => simp only []; split <;> rfl
    | dead | qf _ | alg _ => rfl
  | oraclize r e =>
    simp only [stepCore, touch, ← getQF_congr (h r List.mem_cons_self)]
    cases hf : getQF s r with
    | none => rfl
    | some f =>
      simp only [opTrigger, hf, Option.map_some] at ht
      exact oraclizeCore_away hq he hd P K s s' e hf (by simpa using ht)
  | grover r e n =>
    simp only [stepCore, touch, ← getQF_congr (h r List.mem_cons_self)]
    cases hf : getQF s r with
    | none => rfl
    | some f =>
      simp only [opTrigger, hf, Option.map_some, Bool.or_eq_false_iff] at ht
      exact groverCore_away hq he hd P K s s' e n hf ht.1 (by simpa using ht.2)
  | dj r | bv r =>
    simp only [stepCore, touch, getQF_congr (h r List.mem_cons_self)]
    cases getQF s' r with
    | none => rfl
    | some f =>
      simp only []
      split
      · rfl
      · split <;> rfl
  | simon r =>
    simp only [stepCore, touch, getQF_congr (h r List.mem_cons_self)]
    cases getQF s' r with
    | none => rfl
    | some f => simp only []; split <;> rfl

end Away

theorem opTrigger_none (s : ApiState) (op : Op) : opTrigger Quirks.none s op = false := by
  cases op <;> rfl

theorem stepCore_none (P : Pool) (K : Oracle) (s s' : ApiState) (op : Op)
    (h : ∀ r ∈ op.refs, s.objs.getD r .dead = s'.objs.getD r .dead) :
    stepCore Quirks.none P K s op = (touch s op, (stepCore Quirks.none P K s' op).2) :=
  stepCore_away rfl rfl rfl P K s s' op (opTrigger_none s op) h

theorem stepCore_eq_none_of_no_trigger (q : Quirks) (P : Pool) (K : Oracle) (s : ApiState) (op : Op)
    (hq : q.execIntoModuleGlobals = false) (he : q.evalSeesLocals = false)
    (hd : q.defShadowsAnnotation = false)
    (ht : opTrigger q s op = false) :
    stepCore q P K s op = stepCore Quirks.none P K s op :=
  (stepCore_away hq he hd P K s s op ht (fun _ _ => rfl)).trans (stepCore_none P K s s op (fun _ _ => rfl)).symm

/-- the slot and the status are read off the outcome -/
theorem close_eq (t : Tri Obj) :
    ∃ o res, ∀ s : ApiState, close (s, t) = ({ s with objs := s.objs ++ [o] }, res) := by
  cases t <;> exact ⟨_, _, fun _ => rfl⟩

theorem fingerprint_snoc (q : Quirks) (P : Pool) (s : ApiState) (o : Obj) :
    fingerprint q P { s with objs := s.objs ++ [o] } s.objs.length = o.fp q P s.ns := by
  simp [fingerprint, List.getD_eq_getElem?_getD]

theorem fingerprint_snoc_of_lt (q : Quirks) (P : Pool) (s : ApiState) (o : Obj) {r : Nat} (hr : r < s.objs.length) :
    fingerprint q P { s with objs := s.objs ++ [o] } r = fingerprint q P s r := by
  simp only [fingerprint, List.getD_eq_getElem?_getD, List.getElem?_append_left hr]

/-! ### what the rest of the session sees of a repaired step: nothing -/

structure Keeps (P : Pool) (s s' : ApiState) : Prop where
  ns : s'.ns = s.ns
  defaults : s'.defaults = s.defaults
  len : s.objs.length ≤ s'.objs.length
  fp : ∀ r, r < s.objs.length → fingerprint Quirks.none P s' r = fingerprint Quirks.none P s r

theorem Keeps.refl (P : Pool) (s : ApiState) : Keeps P s s := ⟨rfl, rfl, Nat.le_refl _, fun _ _ => rfl⟩

theorem Keeps.trans {P : Pool} {s s' s'' : ApiState} (h : Keeps P s s') (h' : Keeps P s' s'') : Keeps P s s'' :=
  ⟨h'.ns.trans h.ns, h'.defaults.trans h.defaults, Nat.le_trans h.len h'.len,
    fun r hr => (h'.fp r (Nat.lt_of_lt_of_le hr h.len)).trans (h.fp r hr)⟩

theorem setObj_keeps {P : Pool} {s : ApiState} {r : Nat} {o : Obj}
    (ho : o.fp Quirks.none P s.ns = (s.objs.getD r .dead).fp Quirks.none P s.ns) : Keeps P s (setObj s r o) := by
  refine ⟨rfl, rfl, Nat.le_of_eq List.length_set.symm, fun r' hr' => ?_⟩
  simp only [fingerprint, setObj, List.getD_eq_getElem?_getD, List.getElem?_set] at ho ⊢
  split
  · next hr => rw [if_pos (hr ▸ hr')]; exact hr ▸ ho
  · rfl

/-- no fingerprint contains the `__native` cache -/
theorem uncache_fp (q : Quirks) (P : Pool) (ns : List (String × Src)) (o : Obj) : o.uncache.fp q P ns = o.fp q P ns := by
  cases o <;> rfl

theorem touch_keeps (P : Pool) (s : ApiState) (op : Op) : Keeps P s (touch s op) := by
  unfold touch
  split
  · split
    · exact setObj_keeps (uncache_fp ..)
    · exact .refl P s
  · exact .refl P s

theorem touch_length (s : ApiState) (op : Op) : (touch s op).objs.length = s.objs.length := by
  unfold touch
  repeat' split
  all_goals first | rfl | exact List.length_set

/-- the operation's own slot goes behind the existing ones -/
theorem close_keeps (P : Pool) (s : ApiState) (t : Tri Obj) : Keeps P s (close (s, t)).1 := by
  obtain ⟨o, res, hc⟩ := close_eq t
  rw [hc]
  exact ⟨rfl, rfl, by simp, fun r hr => fingerprint_snoc_of_lt _ P s o hr⟩

theorem step_none (P : Pool) (K : Oracle) (s s' : ApiState) (op : Op)
    (h : ∀ r ∈ op.refs, s.objs.getD r .dead = s'.objs.getD r .dead) :
    step Quirks.none P K s op = close (touch s op, (stepCore Quirks.none P K s' op).2) :=
  congrArg close (stepCore_none P K s s' op h)

theorem step_keeps (P : Pool) (K : Oracle) (s : ApiState) (op : Op) :
    Keeps P s (step Quirks.none P K s op).1 := by
  rw [step_none P K s s op (fun _ _ => rfl)]
  exact (touch_keeps P s op).trans (close_keeps P _ _)

theorem step_length (P : Pool) (K : Oracle) (s : ApiState) (op : Op) :
    (step Quirks.none P K s op).1.objs.length = s.objs.length + 1 := by
  obtain ⟨o, res, hc⟩ := close_eq (stepCore Quirks.none P K s op).2
  rw [step_none P K s s op (fun _ _ => rfl), hc, List.length_append, touch_length]
  rfl

theorem run_keeps (P : Pool) (K : Oracle) : ∀ (ops : List Op) (s : ApiState), Keeps P s (run Quirks.none P K s ops)
  | [], s => .refl P s
  | op :: ops, s => (step_keeps P K s op).trans (run_keeps P K ops _)

end QV.Api
