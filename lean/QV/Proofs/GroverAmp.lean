import QV.Proofs.Algo
import QV.Proofs.Grover
import QV.Proofs.ListAux
/-!
Over the exact integer amplitude semantics `QV.Grover.runWave` that `C15_statement` is stated in.  `Amp` names both
the structure `QV.Grover.Amp` (`Amp.sq`, `A : Amp`) and the namespace `QV.Amp` of the C16 semantics (`Amp.run`,
`Amp.embed`, …); `Grover.Wave` and `Amp.State` are the same type, so the layer lemmas of `Hadamard.lean` apply.
`n` search qubits, `m` oracle qubits (`mid`; `k` in `run_layer2`, `mcz_reg`) of which number `k` is `_ret`, phase qubit
`n + m`.  The constructor only ever applies one one-qubit gate list (`H`, `H X`, `X H`) to every search qubit and to the
phase qubit: a layer of one integer matrix on the register phase qubit ⊗ search register (`reg`, `run_layer2`), the
other qubits riding along.  `MCtrl(Z)` changes the sign of the register's `|1…1⟩` (`mcz_reg`), and two layers whose
matrices multiply to `2·I` conjugate that into `2^(n+1)·(I − 2|u⟩⟨u|)` (`kron_conj`).  A clean xor-oracle acts by
precomposition with its inverse (`QV/Proofs/Algo.lean`; on classical gate lists `runWave` is `Amp.run`), so a state
uniform on solutions and on non-solutions (`ClassUniform`) stays so through an iteration, the numerators following
`rstep`.
-/
namespace QV.Grover
open QV.Amp (sgn sumBits countBits sumBits_congr sumBits_smul sumBits_add sumBits_zero
  sumBits_single sumBits_ite sumBits_snoc allFalse app1 layerM_sum kron_comp)

theorem runWave_append (a b : List AGate) (ψ : Wave) :
    runWave (a ++ b) ψ = runWave b (runWave a ψ) := by
  simp [runWave, List.foldl_append]

theorem runWave_cons (g : AGate) (gs : List AGate) (ψ : Wave) :
    runWave (g :: gs) ψ = runWave gs (applyWave g ψ) := rfl

theorem runWave_nil (ψ : Wave) : runWave [] ψ = ψ := rfl

theorem applyWave_gH (i : Nat) (ψ : Wave) (s : BState) :
    applyWave (gH i) ψ s = ψ (s.set i false) + sgn (s.getD i false) * ψ (s.set i true) := by
  simp [applyWave, gH, GClass.isMCXLike, isZLike, sgn]

theorem applyWave_gX (i : Nat) (ψ : Wave) (s : BState) :
    applyWave (gX i) ψ s = ψ (s.flip i) := by
  simp [applyWave, gX, GClass.isMCXLike, AGate.applyClassical]

theorem applyWave_gMCZ (ctrls : List Nat) (t : Nat) (ψ : Wave) (s : BState) :
    applyWave (gMCZ ctrls t) ψ s
      = if (ctrls ++ [t]).all (fun c => s.getD c false) then - ψ s else ψ s := by
  simp [applyWave, gMCZ, GClass.isMCXLike, isZLike]

/-- `H` then `X` (`for i: h(i); x(i)`) -/
def hxM (b c : Bool) : Int := sgn (!b && c)
/-- `X` then `H` -/
def xhM (b c : Bool) : Int := sgn (b && !c)

theorem xh_hx (c a : Bool) :
    xhM c false * hxM false a + xhM c true * hxM true a = if c = a then 2 else 0 := by
  cases c <;> cases a <;> simp [xhM, hxM, sgn]

theorem flip_set_same (s : BState) (i : Nat) (v : Bool) : (s.flip i).set i v = s.set i v := by
  apply List.ext_getElem?
  intro j
  simp only [BState.flip, List.getElem?_set, List.getElem?_modify, List.length_modify]
  by_cases h : i = j
  · subst h; simp
  · simp [h]

theorem h_step (i : Nat) (ψ : Wave) : applyWave (gH i) ψ = app1 hM i ψ := by
  funext s
  rw [applyWave_gH]; unfold app1
  cases s.getD i false <;> simp [hM, sgn]

theorem xh_step (i : Nat) (ψ : Wave) : applyWave (gH i) (applyWave (gX i) ψ) = app1 xhM i ψ := by
  funext s
  rw [applyWave_gH, applyWave_gX, applyWave_gX, flip_set, flip_set]; unfold app1
  cases s.getD i false <;> simp [xhM, sgn] <;> ring

theorem hx_step (i : Nat) (ψ : Wave) (s : BState) (h : i < s.length) :
    applyWave (gX i) (applyWave (gH i) ψ) s = app1 hxM i ψ s := by
  rw [applyWave_gX, applyWave_gH, flip_set_same, flip_set_same, flip_getD, if_pos ⟨rfl, h⟩]; unfold app1
  cases s.getD i false <;> simp [hxM, sgn]

theorem hLayer_eq (n : Nat) : hLayer n = (List.range n).flatMap fun i => [gH i] :=
  List.map_eq_flatMap

theorem kron_row_one (m : Bool → Bool → Int) (h : ∀ a, m true a = 1) :
    ∀ (n : Nat) (x : List Bool), kron m (List.replicate n true) x = 1
  | 0, _ => rfl
  | _ + 1, [] => rfl
  | n + 1, a :: x => by rw [List.replicate_succ, kron, h, kron_row_one m h n x]; rfl

theorem kron_col_one (m : Bool → Bool → Int) (h : ∀ b, m b true = 1) :
    ∀ (n : Nat) (z : List Bool), kron m z (List.replicate n true) = 1
  | 0, z => by cases z <;> rfl
  | _ + 1, [] => rfl
  | n + 1, b :: z => by rw [List.replicate_succ, kron, h, kron_col_one m h n z]; rfl

theorem hx_one (a : Bool) : hxM true a = 1 := by cases a <;> rfl
theorem xh_one (b : Bool) : xhM b true = 1 := by cases b <;> rfl

/-- if the one-qubit matrices multiply to `2·I` and row `1` of the first and column `1` of the second are all ones, then
layer · (scale `|1…1⟩` by `w`) · layer is `2^n·I + (w − 1)·J`, `J` the all-ones matrix: for `w = -1` the reflection
about the uniform vector -/
theorem kron_conj (m1 m2 : Bool → Bool → Int)
    (hm : ∀ c a, m2 c false * m1 false a + m2 c true * m1 true a = if c = a then 2 else 0)
    (h1 : ∀ a, m1 true a = 1) (h2 : ∀ b, m2 b true = 1)
    (n : Nat) (g : List Bool → Int) (w : Int) (z : List Bool) (hz : z.length = n) :
    sumBits n (fun y => kron m2 z y *
        ((if y = List.replicate n true then w else 1) * sumBits n (fun x => kron m1 y x * g x)))
      = 2 ^ n * g z + (w - 1) * sumBits n g := by
  -- `diag(w at 1…1, 1 elsewhere) = I + (w − 1)·|1…1⟩⟨1…1|`: the `I` term is `kron_comp`; the other picks `y = 1…1`
  -- (`sumBits_single`), where row `1…1` of `m1` and column `1…1` of `m2` are all ones
  rw [sumBits_congr n _ (fun y => kron m2 z y * sumBits n (fun x => kron m1 y x * g x)
        + (if y = List.replicate n true
            then (w - 1) * (kron m2 z y * sumBits n (fun x => kron m1 y x * g x)) else 0))
      (fun y _ => by split <;> ring),
    sumBits_add, kron_comp m1 m2 hm n g z hz, sumBits_single n _ _ List.length_replicate,
    kron_col_one m2 h2]
  simp only [kron_row_one m1 h1, Int.one_mul]

theorem kron_hM_zeros : ∀ (n : Nat) (y : List Bool), kron hM y (List.replicate n false) = 1
  | 0, y => by cases y <;> simp [kron]
  | n + 1, [] => by simp [kron]
  | n + 1, a :: y => by
    simp [kron, List.replicate_succ, hM, sgn, kron_hM_zeros n y]

theorem set_last (l : List Bool) (b v : Bool) : (l ++ [b]).set l.length v = l ++ [v] := by
  simp

theorem getD_last (l : List Bool) (b : Bool) : (l ++ [b]).getD l.length false = b := by
  simp [List.getD_eq_getElem?_getD]

theorem all_range_getD (n : Nat) (y r : List Bool) (hy : y.length = n) :
    (List.range n).all (fun c => (y ++ r).getD c false) = decide (y = List.replicate n true) := by
  rw [Bool.eq_iff_iff]
  simp only [List.all_eq_true, List.mem_range, decide_eq_true_eq]
  constructor
  · intro H
    rw [List.eq_replicate_iff]
    refine ⟨hy, ?_⟩
    intro b hb
    obtain ⟨i, hi, rfl⟩ := List.mem_iff_getElem.mp hb
    have := H i (by omega)
    simpa [List.getD_eq_getElem?_getD, List.getElem?_append_left, hi] using this
  · intro H c hc
    subst H
    simp [List.getD_eq_getElem?_getD, List.getElem?_append_left, hc]

theorem app1_last (m : Bool → Bool → Int) (φ : Wave) (l : List Bool) (c : Bool) :
    app1 m l.length φ (l ++ [c]) = m c false * φ (l ++ [false]) + m c true * φ (l ++ [true]) := by
  unfold app1; rw [getD_last, set_last, set_last]

theorem mcz_last (ctrls : List Nat) (φ : Wave) (l : List Bool) (c : Bool) (h : ∀ i ∈ ctrls, i < l.length) :
    applyWave (gMCZ ctrls l.length) φ (l ++ [c])
      = (if (ctrls.all fun i => l.getD i false) && c then -1 else 1) * φ (l ++ [c]) := by
  have e : (ctrls.all fun i => (l ++ [c]).getD i false) = ctrls.all fun i => l.getD i false :=
    List.all_congr_mem fun i hi => by
      rw [List.getD_eq_getElem?_getD, List.getD_eq_getElem?_getD, List.getElem?_append_left (h i hi)]
  rw [applyWave_gMCZ, List.all_append, e, List.all_cons, List.all_nil, getD_last, Bool.and_true]
  split <;> simp

/-- the wave on the register (phase bit `c`) :: (search register `x`), the qubits in between holding `mid`.  The phase
bit comes first because `sumBits` and `kron` peel the head of a list: a sum over the register then splits into the two
values of the phase bit by unfolding, with no side condition on lengths. -/
def reg (ψ : Wave) (mid : List Bool) : List Bool → Int
  | c :: x => ψ (x ++ mid ++ [c])
  | [] => 0

theorem run_layer2 (gs : Nat → List AGate) (m : Bool → Bool → Int)
    (h : ∀ (i : Nat) (ψ : Wave) (s : BState), i < s.length → runWave (gs i) ψ s = app1 m i ψ s)
    (n k : Nat) (ψ : Wave) (mid : List Bool) (hm : mid.length = k) : ∀ t : List Bool, t.length = n + 1 →
    reg (runWave ((List.range n).flatMap gs ++ gs (n + k)) ψ) mid t
      = sumBits (n + 1) (fun t' => kron m t t' * reg ψ mid t')
  | c :: y, ht => by
    have hy : y.length = n := Nat.succ.inj ht
    have hl : n + k = (y ++ mid).length := by rw [List.length_append, hy, hm]
    have hs : ∀ c' : Bool, runWave ((List.range n).flatMap gs) ψ (y ++ mid ++ [c'])
        = sumBits n (fun x => kron m y x * ψ (x ++ mid ++ [c'])) := fun c' => by
      rw [runWave, Amp.foldl_layer applyWave gs m h n ψ _ (by rw [List.length_append, ← hl]; omega), List.append_assoc,
        layerM_sum m n ψ y _ hy]
      simp only [List.append_assoc]
    show runWave _ ψ (y ++ mid ++ [c])
      = sumBits n (fun x => m c false * kron m y x * ψ (x ++ mid ++ [false]))
        + sumBits n (fun x => m c true * kron m y x * ψ (x ++ mid ++ [true]))
    rw [runWave_append, h _ _ _ (by rw [List.length_append, ← hl]; simp), hl, app1_last, hs, hs]
    simp only [Int.mul_assoc, sumBits_smul]

theorem mcz_reg (n k : Nat) (φ : Wave) (mid : List Bool) (hm : mid.length = k) : ∀ t : List Bool, t.length = n + 1 →
    reg (applyWave (gMCZ (List.range n) (n + k)) φ) mid t
      = (if t = List.replicate (n + 1) true then -1 else 1) * reg φ mid t
  | c :: y, ht => by
    have hy : y.length = n := Nat.succ.inj ht
    have hl : n + k = (y ++ mid).length := by rw [List.length_append, hy, hm]
    show applyWave _ φ (y ++ mid ++ [c]) = _ * φ (y ++ mid ++ [c])
    rw [hl, mcz_last _ _ _ c (fun i hi => by rw [← hl]; have := List.mem_range.mp hi; omega),
      all_range_getD n y mid hy]
    congr 1
    by_cases h1 : y = List.replicate n true <;> cases c <;> simp [h1, List.replicate_succ]

/-- stated in words at `C15.diffuser_reflection`; `2^(n+1)` is the model's global scaling: `2(n+1)` `H` gates -/
theorem diffuser_reflection (n m : Nat) (ψ : Wave) (z mid : List Bool) (b : Bool)
    (hz : z.length = n) (hm : mid.length = m) :
    runWave (diffuser n (n + m)) ψ (z ++ mid ++ [b])
      = 2 ^ (n + 1) * ψ (z ++ mid ++ [b])
        - 2 * sumBits n (fun x => ψ (x ++ mid ++ [false]) + ψ (x ++ mid ++ [true])) := by
  have e : diffuser n (n + m)
      = ((List.range n).flatMap (fun i => [gH i, gX i]) ++ [gH (n + m), gX (n + m)])
        ++ (gMCZ (List.range n) (n + m)
          :: ((List.range n).flatMap (fun i => [gX i, gH i]) ++ [gX (n + m), gH (n + m)])) := by
    simp only [diffuser, List.append_assoc, List.cons_append, List.nil_append]
  have hb : (b :: z).length = n + 1 := congrArg (· + 1) hz
  -- on the register: layer of `H X`, sign of `|1…1⟩`, layer of `X H`
  show reg (runWave (diffuser n (n + m)) ψ) mid (b :: z) = _
  rw [e, runWave_append, runWave_cons,
    run_layer2 (fun i => [gX i, gH i]) xhM (fun i ψ s _ => congrFun (xh_step i ψ) s) n m _ mid hm _ hb,
    sumBits_congr (n + 1) _ _ (fun t ht => by
      rw [mcz_reg n m _ mid hm t ht, run_layer2 (fun i => [gH i, gX i]) hxM hx_step n m ψ mid hm t ht]),
    kron_conj hxM xhM xh_hx hx_one xh_one (n + 1) (reg ψ mid) (-1) (b :: z) hb]
  show _ * ψ (z ++ mid ++ [b])
    + _ * (sumBits n (fun x => ψ (x ++ mid ++ [false])) + sumBits n (fun x => ψ (x ++ mid ++ [true]))) = _
  rw [sumBits_add]; ring

theorem applyWave_classical (g : AGate) (h : (g.cls.isMCXLike || g.cls.isNop) = true) (ψ : Wave) :
    applyWave g ψ = Amp.applyGate g ψ := by
  unfold applyWave Amp.applyGate
  by_cases hm : g.cls.isMCXLike = true
  · simp [hm]
  · cases hc : g.cls <;> simp_all [GClass.isNop, GClass.isMCXLike, isZLike]

theorem runWave_classical : ∀ (gs : List AGate), allClassical gs = true → ∀ ψ : Wave,
    runWave gs ψ = Amp.run gs ψ
  | [], _, ψ => rfl
  | g :: gs, h, ψ => by
    simp only [allClassical, List.all_cons, Bool.and_eq_true] at h
    rw [runWave_cons, Amp.run_cons, applyWave_classical g h.1, runWave_classical gs h.2]

theorem wf_of_classical (og : List AGate) (h1 : allClassical og = true)
    (h2 : ∀ g ∈ og, g.wires.Nodup) : Amp.wfOracle og = true := by
  simp only [Amp.wfOracle, List.all_eq_true]
  intro g hg
  have h := (List.all_eq_true.mp h1) g hg
  simp only [Bool.or_eq_true] at h
  refine Amp.wfGate_iff.mpr ?_
  rcases h with h | h
  · exact Or.inl ⟨h, h2 g hg⟩
  · exact Or.inr h

theorem flip_append_left (s t : BState) (i : Nat) (h : i < s.length) :
    BState.flip (s ++ t) i = BState.flip s i ++ t := by
  apply List.ext_getElem?
  intro j
  simp only [BState.flip, List.getElem?_modify]
  by_cases hj : j < s.length
  · rw [List.getElem?_append_left hj, List.getElem?_append_left (by simpa using hj),
      List.getElem?_modify]
  · have hj' : s.length ≤ j := by omega
    rw [List.getElem?_append_right hj', List.getElem?_append_right (by simpa using hj')]
    have : ¬ i = j := by omega
    simp [this]

theorem applyClassical_frame (g : AGate) (s t : BState) (hw : ∀ w ∈ g.wires, w < s.length) :
    g.applyClassical (s ++ t) = g.applyClassical s ++ t := by
  unfold AGate.applyClassical
  cases hl : g.wires.getLast? with
  | none => rfl
  | some tg =>
    have htg : tg < s.length := hw tg (List.mem_of_getLast? hl)
    have hall : (g.wires.dropLast.all fun c => (s ++ t).getD c false)
        = g.wires.dropLast.all fun c => s.getD c false :=
      List.all_congr_mem fun c hc => by
        rw [List.getD_eq_getElem?_getD, List.getD_eq_getElem?_getD,
          List.getElem?_append_left (hw c (List.dropLast_subset _ hc))]
    simp only [hall]
    split
    · exact flip_append_left s t tg htg
    · rfl

theorem runClassical_frame : ∀ (gs : List AGate) (s t : BState),
    (∀ g ∈ gs, ∀ w ∈ g.wires, w < s.length) →
    runClassical gs (s ++ t) = runClassical gs s ++ t
  | [], _, _, _ => rfl
  | g :: gs, s, t, hw => by
    have hg := hw g (by simp)
    have hgs : ∀ g' ∈ gs, ∀ w ∈ g'.wires, w < s.length := fun g' h => hw g' (by simp [h])
    simp only [runClassical, List.foldl_cons]
    by_cases hm : g.cls.isMCXLike = true
    · simp only [hm, if_true]
      rw [applyClassical_frame g s t hg]
      exact runClassical_frame gs _ t (by rw [applyClassical_length]; exact hgs)
    · simp only [hm]
      exact runClassical_frame gs s t hgs

theorem oracleState_eq (n nq ret : Nat) (x : BState) (r : Bool) (hx : x.length = n)
    (h1 : n ≤ ret) : oracleState nq ret x r = x ++ Amp.embed (nq - n) (ret - n) r :=
  hx ▸ Amp.initState_set x nq ret r (hx ▸ h1)

theorem run_frame (gs : List AGate) (hwf : Amp.wfOracle gs = true) (ψ : Wave) (s t : BState)
    (hw : ∀ g ∈ gs, ∀ w ∈ g.wires, w < s.length) :
    Amp.run gs ψ (s ++ t) = Amp.run gs (fun s' => ψ (s' ++ t)) s := by
  rw [Amp.run_oracle gs hwf, Amp.run_oracle gs hwf]
  congr 1
  -- the frame lemma for the reversed list, from the forward one at the preimage (no wire bound for `gs.reverse`)
  have := runClassical_frame gs (runClassical gs.reverse s) t (by rw [runClassical_length]; exact hw)
  rw [Amp.fwd_back gs hwf] at this
  rw [← this, Amp.back_fwd gs hwf]

/-- what the proofs use of a clean xor-oracle: search register `x` (qubits `0..n-1`), `m` oracle
qubits of which number `k` is `_ret` and the others are scratch; the phase qubit `n + m` is not touched -/
structure OracleSpec (og : List AGate) (n m k : Nat) (f : BState → Bool) : Prop where
  xor : Amp.XorOracle og n m k f
  cl : allClassical og = true
  km : k < m
  wires : ∀ g ∈ og, ∀ w ∈ g.wires, w < n + m

theorem oracleSpec_of_clean (n nq ret : Nat) (og : List AGate) (f : BState → Bool)
    (h : CleanXorOracle n nq ret og f) : OracleSpec og n (nq - n) (ret - n) f := by
  obtain ⟨h1, h2, h3, h4, h5, h6⟩ := h
  refine ⟨⟨wf_of_classical og h3 h5, fun x r hx => ?_⟩, h3, by omega,
    fun g hg w hw => by have := h4 g hg w hw; omega⟩
  have := h6 x hx r
  rwa [oracleState_eq n nq ret x r hx h1, oracleState_eq n nq ret x _ hx h1] at this

/-- amplitude (numerator) at `_ret = r`, phase qubit `= pb` of a class with sector numerators
`A` (phase qubit written in the basis |±⟩): `zp zm op om` are `_ret` = 0 / 1 (`z` / `o`) × phase |+⟩ / |−⟩ (`p` / `m`) -/
def ampOf (A : Amp) (r pb : Bool) : Int :=
  (if r then A.op else A.zp) + sgn pb * (if r then A.om else A.zm)

def classOf (f : BState → Bool) (R : RState) (x : BState) : Amp := if f x then R.sol else R.non

/-- `ψ` is supported on clean basis states (scratch qubits 0) and there equals `c ·` the
reduced state `R`: uniform on solutions and on non-solutions in each (`_ret`, ±) sector -/
def ClassUniform (n m k : Nat) (f : BState → Bool) (c : Int) (R : RState) (ψ : Wave) : Prop :=
  ∀ (x mid : List Bool) (pb : Bool), x.length = n → mid.length = m →
    ψ (x ++ mid ++ [pb]) =
      if allFalse (mid.set k false) then c * ampOf (classOf f R x) (mid.getD k false) pb else 0

theorem ampOf_oracleStep (f : BState → Bool) (R : RState) (x : BState) (r pb : Bool) :
    ampOf (classOf f (oracleStep R) x) r pb = ampOf (classOf f R x) (xor r (f x)) pb := by
  unfold classOf oracleStep
  cases f x <;> cases r <;> rfl

theorem ampOf_phaseStep (f : BState → Bool) (R : RState) (x : BState) (r pb : Bool) :
    ampOf (classOf f (phaseStep R) x) r pb
      = (if (r && pb) then -1 else 1) * ampOf (classOf f R x) r pb := by
  unfold classOf phaseStep ampOf
  cases f x <;> cases r <;> cases pb <;>
    simp only [sgn, Bool.and_self, Bool.and_true, Bool.and_false, Bool.false_eq_true, ↓reduceIte] <;>
    ring

theorem ampOf_add (f : BState → Bool) (R : RState) (x : BState) (r : Bool) :
    ampOf (classOf f R x) r false + ampOf (classOf f R x) r true
      = if f x then 2 * (if r then R.sol.op else R.sol.zp)
        else 2 * (if r then R.non.op else R.non.zp) := by
  unfold classOf ampOf
  cases f x <;> simp only [sgn, Bool.false_eq_true, ↓reduceIte] <;> ring

theorem ampOf_diffuseStep (f : BState → Bool) (N M : Int) (R : RState) (x : BState) (r pb : Bool) :
    ampOf (classOf f (diffuseStep N M R) x) r pb
      = N * ampOf (classOf f R x) r pb
        - 2 * (M * (if r then R.sol.op else R.sol.zp) + (N - M) * (if r then R.non.op else R.non.zp)) := by
  unfold classOf diffuseStep ampOf
  cases f x <;> cases r <;> simp only [Bool.false_eq_true, ↓reduceIte] <;> ring

/-- the compiled oracle swaps the `_ret = 0/1` sectors on solutions only (`Amp.run_xorOracle`
with the phase qubit as a frame) -/
theorem oracle_step (og : List AGate) (n m k : Nat) (f : BState → Bool) (c : Int) (R : RState)
    (ψ : Wave) (hO : OracleSpec og n m k f) (hψ : ClassUniform n m k f c R ψ) :
    ClassUniform n m k f c (oracleStep R) (runWave og ψ) := by
  intro x mid pb hx hmid
  rw [runWave_classical og hO.cl, run_frame og hO.xor.1 ψ (x ++ mid) [pb]
    (by rw [List.length_append, hx, hmid]; exact hO.wires)]
  simp only [Amp.run_xorOracle og n m k f hO.xor hO.km (fun x r => c * ampOf (classOf f R x) r pb)
    (fun s' => ψ (s' ++ [pb])) (fun x mid hx hmid => hψ x mid pb hx hmid) x mid hx hmid, ampOf_oracleStep]

/-- `MCtrl(Z)` from `_ret` (qubit `n + k`) onto the phase qubit (`n + m`)
swaps |+⟩ and |−⟩ where `_ret = 1` -/
theorem phase_step (n m k : Nat) (f : BState → Bool) (c : Int) (R : RState) (ψ : Wave)
    (hk : k < m) (hψ : ClassUniform n m k f c R ψ) :
    ClassUniform n m k f c (phaseStep R) (applyWave (gMCZ [n + k] (n + m)) ψ) := by
  intro x mid pb hx hmid
  have hl : n + m = (x ++ mid).length := by rw [List.length_append, hx, hmid]
  rw [hl, mcz_last _ _ _ pb (fun i hi => by rw [← hl, List.mem_singleton.mp hi]; omega), List.all_cons,
    List.all_nil, Bool.and_true, ← hx, Amp.getD_append_right', hψ x mid pb hx hmid, ampOf_phaseStep]
  by_cases hA : allFalse (mid.set k false) = true
  · rw [if_pos hA, if_pos hA, Int.mul_left_comm]
  · rw [if_neg hA, if_neg hA, Int.mul_zero]

/-- the diffuser on class-uniform states: on the two `+` sectors subtract twice the mean -/
theorem diffuse_step (n m k : Nat) (f : BState → Bool) (c : Int) (R : RState) (ψ : Wave)
    (hψ : ClassUniform n m k f c R ψ) :
    ClassUniform n m k f (2 * c) (diffuseStep (2 ^ n) (countBits n f) R)
      (runWave (diffuser n (n + m)) ψ) := by
  intro z mid pb hz hmid
  rw [diffuser_reflection n m ψ z mid pb hz hmid, hψ z mid pb hz hmid]
  by_cases hA : allFalse (mid.set k false) = true
  · rw [if_pos hA, if_pos hA,
      sumBits_congr n _ (fun x => c * (if f x
            then 2 * (if mid.getD k false then R.sol.op else R.sol.zp)
            else 2 * (if mid.getD k false then R.non.op else R.non.zp)))
        (fun x hx' => by
          rw [hψ x mid false hx' hmid, hψ x mid true hx' hmid, if_pos hA, if_pos hA, ← Int.mul_add,
            ampOf_add]),
      sumBits_smul, sumBits_ite, ampOf_diffuseStep, pow_succ]
    ring
  · rw [if_neg hA, if_neg hA, sumBits_congr n _ (fun _ => 0) (fun x hx' => by
      rw [hψ x mid false hx' hmid, hψ x mid true hx' hmid, if_neg hA, if_neg hA]; rfl), sumBits_zero]
    rfl

/-- one Grover iteration (`oracle_qc + diffuser_qc`) is one step of the reduced recurrence;
the integer wave picks up the factor 2 (`2(n+1)` more `H` gates) -/
theorem iteration_step (og : List AGate) (n m k : Nat) (f : BState → Bool) (c : Int) (R : RState)
    (ψ : Wave) (hO : OracleSpec og n m k f) (hψ : ClassUniform n m k f c R ψ) :
    ClassUniform n m k f (2 * c) (rstep (2 ^ n) (countBits n f) R)
      (runWave (iteration n og (n + m) (n + k)) ψ) := by
  unfold iteration oracleWithPhase rstep
  rw [runWave_append, runWave_append, runWave_cons, runWave_nil]
  exact diffuse_step n m k f c _ _ (phase_step n m k f c _ _ hO.km (oracle_step og n m k f c R ψ hO hψ))

theorem class_uniform_iter (og : List AGate) (n m k : Nat) (f : BState → Bool)
    (hO : OracleSpec og n m k f) : ∀ (j : Nat) (c : Int) (R : RState) (ψ : Wave),
    ClassUniform n m k f c R ψ →
    ClassUniform n m k f (2 ^ j * c) (riter (2 ^ n) (countBits n f) j R)
      (runWave (repeatGates (iteration n og (n + m) (n + k)) j) ψ)
  | 0, c, R, ψ, h => by simpa [riter, repeatGates, runWave_nil] using h
  | j + 1, c, R, ψ, h => by
    rw [repeatGates, runWave_append, riter]
    have := class_uniform_iter og n m k f hO j (2 * c) _ _ (iteration_step og n m k f c R ψ hO h)
    have e : (2 : Int) ^ (j + 1) * c = 2 ^ j * (2 * c) := by ring
    rw [e]; exact this

theorem zeroWave_eq : zeroWave = Amp.ket0 := rfl

theorem allFalse_split : ∀ (mid : List Bool) (k : Nat), k < mid.length →
    allFalse mid = (!(mid.getD k false) && allFalse (mid.set k false))
  | [], _, h => by cases h
  | a :: t, 0, _ => by cases a <;> rfl
  | a :: t, k + 1, h => by
    show (!a && allFalse t) = (!(t.getD k false) && (!a && allFalse (t.set k false)))
    rw [allFalse_split t k (Nat.lt_of_succ_lt_succ h), Bool.and_left_comm]

theorem init_uniform (n m k : Nat) (f : BState → Bool) (hk : k < m) :
    ClassUniform n m k f 1 RState.init (runWave (hLayer n ++ [gH (n + m)]) zeroWave) := by
  intro x mid pb hx hmid
  have h1 : ∀ x' : List Bool, zeroWave (x' ++ mid ++ [true]) = 0 := fun x' => by simp [zeroWave]
  have h0 : Amp.ket0 (mid ++ [false]) = if allFalse mid then 1 else 0 := by simp [Amp.ket0, allFalse]
  -- a layer of `H` on the register; of `|0…0⟩` only the half with phase bit `0` is there
  show reg (runWave (hLayer n ++ [gH (n + m)]) zeroWave) mid (pb :: x) = _
  rw [hLayer_eq, run_layer2 (fun i => [gH i]) hM (fun i ψ s _ => congrFun (h_step i ψ) s) n m _ mid hmid _
      (congrArg (· + 1) hx)]
  show sumBits n (fun x' => hM pb false * kron hM x x' * zeroWave (x' ++ mid ++ [false]))
    + sumBits n (fun x' => hM pb true * kron hM x x' * zeroWave (x' ++ mid ++ [true])) = _
  rw [sumBits_congr n _ (fun x' => sgn (Amp.dot x' x) * Amp.ket0 (x' ++ (mid ++ [false])))
      (fun x' _ => by
        rw [Amp.kron_hM, List.append_assoc, hM, Bool.and_false]
        exact congrArg (· * _) (Int.one_mul _)),
    Amp.sum_ket0, sumBits_congr n _ (fun _ => 0) (fun x' _ => by rw [h1 x', Int.mul_zero]), sumBits_zero,
    Int.add_zero, h0, allFalse_split mid k (by omega)]
  unfold classOf ampOf RState.init
  cases allFalse (mid.set k false) <;> cases mid.getD k false <;> simp

/-- stated in words at `C15.class_uniform_invariant` -/
theorem class_uniform_invariant (n nq ret : Nat) (og : List AGate) (f : BState → Bool)
    (h : CleanXorOracle n nq ret og f) (j : Nat) :
    ClassUniform n (nq - n) (ret - n) f (2 ^ j)
      (riter (2 ^ n) (countBits n f) j RState.init)
      (runWave (hLayer n ++ [gH nq] ++ repeatGates (iteration n og nq ret) j) zeroWave) := by
  have hO := oracleSpec_of_clean n nq ret og f h
  obtain ⟨h1, h2, -⟩ := h
  obtain ⟨m, rfl⟩ : ∃ m, nq = n + m := ⟨nq - n, by omega⟩
  obtain ⟨k, rfl⟩ : ∃ k, ret = n + k := ⟨ret - n, by omega⟩
  simp only [Nat.add_sub_cancel_left] at hO ⊢
  rw [runWave_append]
  have := class_uniform_iter og n m k f hO j 1 _ _ (init_uniform n m k f hO.km)
  simpa using this

theorem sum_flatMap_pair (l : List BState) (F : BState → Int) :
    ((l.flatMap fun s => [false :: s, true :: s]).map F).sum
      = (l.map fun s => F (false :: s) + F (true :: s)).sum := by
  induction l with
  | nil => rfl
  | cons a l ih =>
    simp only [List.flatMap_cons, List.map_append, List.sum_append, List.map_cons, List.sum_cons,
      List.map_nil, List.sum_nil, ih]
    ring

theorem allStates_sum (L : Nat) : ∀ F : BState → Int, ((allStates L).map F).sum = sumBits L F := by
  induction L with
  | zero => intro F; simp [allStates, sumBits]
  | succ L ih =>
    intro F
    rw [allStates, sum_flatMap_pair, ih, sumBits_add]
    rfl

theorem filter_flatMap_pair (l : List BState) (f : BState → Bool) :
    ((l.flatMap fun s => [false :: s, true :: s]).filter f).length
      = (l.filter fun s => f (false :: s)).length + (l.filter fun s => f (true :: s)).length := by
  induction l with
  | nil => rfl
  | cons a l ih =>
    simp only [List.flatMap_cons, List.filter_append, List.length_append, ih, List.filter_cons]
    cases f (false :: a) <;> cases f (true :: a) <;>
      simp only [Bool.false_eq_true, if_true, if_false, List.filter_nil, List.length_cons,
        List.length_nil] <;> omega

/-- the number of solutions, as counted in `C15_statement` and as counted by `countBits` -/
theorem count_allStates (n : Nat) : ∀ f : BState → Bool,
    ((allStates n).filter f).length = countBits n f := by
  induction n with
  | zero => intro f; cases h : f [] <;> simp [allStates, countBits, h]
  | succ n ih =>
    intro f
    rw [allStates, filter_flatMap_pair, ih, ih]
    rfl

theorem allFalse_cons_false (t : List Bool) : allFalse (false :: t) = allFalse t := rfl
theorem allFalse_cons_true (t : List Bool) : allFalse (true :: t) = false := rfl

theorem sum_clean (m k : Nat) (hk : k < m) (G : Bool → Int) :
    sumBits m (fun mid => if allFalse (mid.set k false) then G (mid.getD k false) else 0)
      = G false + G true := by
  have hv : ∀ r, (if allFalse ((Amp.embed m k r).set k false) then G ((Amp.embed m k r).getD k false) else 0)
      = G r :=
    fun r => by rw [Amp.embed_set_false, Amp.allFalse_zeros, if_pos rfl, Amp.embed_getD m k r hk]
  rw [Amp.sumBits_eq_pair m (Amp.embed m k false) (Amp.embed m k true) _ (Amp.embed_length ..)
    (Amp.embed_length ..) (fun e => Bool.noConfusion (Amp.embed_inj hk e)) (fun mid hm h0 h1 => if_neg fun hA => by
      have := Amp.rest_eq_embed mid m k hm hk hA
      cases hr : mid.getD k false <;> rw [hr] at this
      exacts [h0 this, h1 this]), hv, hv]

theorem prob_uniform (n m k : Nat) (f : BState → Bool) (c : Int) (R : RState) (ψ : Wave)
    (hk : k < m) (hψ : ClassUniform n m k f c R ψ) (x : BState) (hx : x.length = n) :
    sumBits (m + 1) (fun rest => ψ (x ++ rest) ^ 2) = 2 * c ^ 2 * (classOf f R x).sq := by
  rw [sumBits_snoc]
  have hG := sum_clean m k hk (fun r =>
    (c * ampOf (classOf f R x) r false) ^ 2 + (c * ampOf (classOf f R x) r true) ^ 2)
  refine (sumBits_congr m _ _ (fun mid hmid => ?_)).trans (hG.trans ?_)
  · rw [← List.append_assoc, ← List.append_assoc, hψ x mid false hx hmid, hψ x mid true hx hmid]
    by_cases hA : allFalse (mid.set k false) = true <;> simp [hA]
  · unfold ampOf Amp.sq
    simp only [sgn, Bool.false_eq_true, ↓reduceIte]
    ring

theorem hCount_classical (og : List AGate) (h : allClassical og = true) : hCount og = 0 := by
  simp only [hCount, List.countP_eq_zero]
  intro g hg
  have := (List.all_eq_true.mp h) g hg
  cases hc : g.cls <;> simp_all [GClass.isMCXLike, GClass.isNop]

theorem countP_layer (p : AGate → Bool) (gs : Nat → List AGate) (c : Nat) (h : ∀ i, (gs i).countP p = c) :
    ∀ n, ((List.range n).flatMap gs).countP p = n * c
  | 0 => (Nat.zero_mul c).symm
  | n + 1 => by rw [Amp.flatMap_range_succ, List.countP_append, countP_layer p gs c h n, h, Nat.succ_mul]

theorem countP_repeat (p : AGate → Bool) (l : List AGate) : ∀ c, (repeatGates l c).countP p = c * l.countP p
  | 0 => (Nat.zero_mul _).symm
  | c + 1 => by rw [repeatGates, List.countP_append, countP_repeat p l c, Nat.succ_mul, Nat.add_comm]

theorem mem_repeatGates {l : List AGate} {g : AGate} : ∀ {c : Nat}, g ∈ repeatGates l c → g ∈ l
  | 0, h => by cases h
  | _ + 1, h => (List.mem_append.mp h).elim id mem_repeatGates

theorem mem_groverGates {q : Quirks} {n : Nat} {og : List AGate} {nq ret k : Nat} {g : AGate}
    (h : g ∈ groverGates q n og nq ret k) :
    g ∈ og ∨ (∃ i, (i < n ∨ i = nq) ∧ (g = gH i ∨ g = gX i)) ∨ g = gMCZ [ret] nq ∨
      g = gMCZ (List.range n) nq := by
  simp only [groverGates, hLayer, List.mem_append, List.mem_map, List.mem_range, List.mem_singleton] at h
  rcases h with (⟨i, hi, rfl⟩ | rfl) | h
  · exact .inr (.inl ⟨i, .inl hi, .inl rfl⟩)
  · exact .inr (.inl ⟨nq, .inr rfl, .inl rfl⟩)
  · have h := mem_repeatGates h
    simp only [iteration, oracleWithPhase, diffuser, List.mem_append, List.mem_flatMap, List.mem_range,
      List.mem_cons, List.not_mem_nil, or_false] at h
    rcases h with (h | rfl) | ((((⟨i, hi, h⟩ | h) | rfl) | ⟨i, hi, h⟩) | h)
    · exact .inl h
    · exact .inr (.inr (.inl rfl))
    · exact .inr (.inl ⟨i, .inl hi, h⟩)
    · exact .inr (.inl ⟨nq, .inr rfl, h⟩)
    · exact .inr (.inr (.inr rfl))
    · exact .inr (.inl ⟨i, .inl hi, h.symm⟩)
    · exact .inr (.inl ⟨nq, .inr rfl, h.symm⟩)

/-- `p` constantly true, `a = b = z = 1`: the length; `p` = "is an `H`", `a = 1`, `b = z = 0`: the exponent of the
normalisation -/
theorem countP_grover (p : AGate → Bool) (q : Quirks) (n : Nat) (og : List AGate) (nq ret k a b z : Nat)
    (hH : ∀ i, [gH i].countP p = a) (hX : ∀ i, [gX i].countP p = b)
    (hZ : ∀ c t, [gMCZ c t].countP p = z) :
    (groverGates q n og nq ret k).countP p
      = (n + 1) * a + repeatCopies q k * (og.countP p + z + ((n + 1) * (a + b) + z + (n + 1) * (b + a))) := by
  have hHX : ∀ i, [gH i, gX i].countP p = a + b := fun i => by
    rw [← hH i, ← hX i, ← List.countP_append]; rfl
  have hXH : ∀ i, [gX i, gH i].countP p = b + a := fun i => by
    rw [← hH i, ← hX i, ← List.countP_append]; rfl
  simp only [groverGates, iteration, oracleWithPhase, diffuser, hLayer_eq, List.countP_append, countP_repeat,
    countP_layer p _ a hH, countP_layer p _ _ hHX, countP_layer p _ _ hXH, hH, hZ, hHX, hXH]
  ring

/-- number of `H` gates of the algorithm circuit (the amplitudes are integers times `2^(-h/2)`) -/
theorem hCount_grover (q : Quirks) (n : Nat) (og : List AGate) (nq ret k : Nat)
    (hcl : allClassical og = true) (hk : 1 ≤ k) :
    hCount (groverGates q n og nq ret k) = n + 1 + k * (2 * n + 2) := by
  have hog : og.countP (fun g => g.cls == .H) = 0 := hCount_classical og hcl
  show (groverGates q n og nq ret k).countP (fun g => g.cls == .H) = _
  rw [countP_grover _ q n og nq ret k 1 0 0 (fun _ => rfl) (fun _ => rfl) (fun _ _ => rfl), hog,
    repeatCopies_pos q hk]
  ring

/-- the probability numerator of reading `x` is `2·4^k ·` the squared reduced amplitudes of the class of `x` – a function
of `n`, the number of solutions, `k` and of whether `f x` holds, and of nothing else -/
theorem probNum_grover (q : Quirks) (n nq ret : Nat) (og : List AGate) (f : BState → Bool)
    (h : CleanXorOracle n nq ret og f) (k : Nat) (hk : 1 ≤ k) (x : BState) (hx : x.length = n) :
    probNum (groverGates q n og nq ret k) (nq + 1) n x
      = 2 * (2 ^ k) ^ 2 * (classOf f (riter (2 ^ n) (countBits n f) k RState.init) x).sq := by
  have hinv := class_uniform_invariant n nq ret og f h k
  obtain ⟨h1, h2, -⟩ := h
  have e : nq + 1 - n = (nq - n) + 1 := by omega
  unfold probNum groverGates
  rw [allStates_sum, e, repeatCopies_pos q hk]
  exact prob_uniform n (nq - n) (ret - n) f _ _ _ (by omega) hinv x hx

end QV.Grover
