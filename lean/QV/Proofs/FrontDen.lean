import QV.Proofs.FrontMonad
import QV.Proofs.SemTVal
namespace QV.Sem
open QV.Arith QV.Front

theorem flattenList_atoms (l : List BExp) : Val.flattenList (l.map Val.atom) = l := by
  induction l with
  | nil => rfl
  | cons a as ih => simp [Val.flattenList, Val.flatten, ih]

theorem flatten_ofBits (l : List BExp) : (Val.ofBits l).flatten = l := by
  simp [Val.ofBits, Val.flatten, flattenList_atoms]

/-- `Den` for every type.  A tuple is any list value (nested as a tuple literal builds it, or flat as a tuple-typed
name evaluates) whose leaves, in order, evaluate to the bits of a tuple value of that type -/
inductive DenT (ρ : QV.Env) : Ty → Val → TVal → Prop
  | bool (a : BExp) : DenT ρ .bool (.atom a) (.bool (a.eval ρ))
  | int (bits : List BExp) : DenT ρ (.qint bits.length) (Val.ofBits bits) (.int bits.length (val ρ bits))
  | char (bits : List BExp) (h8 : bits.length = 8) : DenT ρ .qchar (Val.ofBits bits) (.char (val ρ bits))
  | tup (vs : List Val) (svs : List TVal) (hwf : TVal.wfList svs = true)
      (hbits : evalBits ρ (Val.flattenList vs) = TVal.bitsList svs) :
      DenT ρ (.tuple (TVal.tyList svs)) (.list vs) (.tuple svs)

theorem DenT.mk_int {ρ : QV.Env} (bits : List BExp) (w x : Nat) (hl : bits.length = w) (hv : val ρ bits = x) :
    DenT ρ (.qint w) (Val.ofBits bits) (.int w x) := by
  subst hl; subst hv; exact DenT.int bits

theorem DenT.mk_bool {ρ : QV.Env} (a : BExp) (b : Bool) (h : a.eval ρ = b) :
    DenT ρ .bool (.atom a) (.bool b) := by
  subst h; exact DenT.bool a

theorem DenT.mk_char {ρ : QV.Env} (bits : List BExp) (x : Nat) (hl : bits.length = 8) (hv : val ρ bits = x) :
    DenT ρ .qchar (Val.ofBits bits) (.char x) := by
  subst hv; exact DenT.char bits hl

theorem DenT.mk_tup {ρ : QV.Env} (ts : List Ty) (vs : List Val) (svs : List TVal)
    (hty : TVal.tyList svs = ts) (hwf : TVal.wfList svs = true)
    (hbits : evalBits ρ (Val.flattenList vs) = TVal.bitsList svs) :
    DenT ρ (.tuple ts) (.list vs) (.tuple svs) := by
  subst hty; exact DenT.tup vs svs hwf hbits

theorem denT_bool_inv {ρ : QV.Env} {v : Val} {sv : TVal} (h : DenT ρ .bool v sv) :
    ∃ a, v = .atom a ∧ sv = .bool (a.eval ρ) := by
  cases h; exact ⟨_, rfl, rfl⟩

theorem denT_qint_inv {ρ : QV.Env} {n : Nat} {v : Val} {sv : TVal} (h : DenT ρ (.qint n) v sv) :
    ∃ bits, v = Val.ofBits bits ∧ bits.length = n ∧ sv = .int n (val ρ bits) := by
  generalize ht : Ty.qint n = t at h
  cases h <;> cases ht
  exact ⟨_, rfl, rfl, rfl⟩

theorem denT_qchar_inv {ρ : QV.Env} {v : Val} {sv : TVal} (h : DenT ρ .qchar v sv) :
    ∃ bits, v = Val.ofBits bits ∧ bits.length = 8 ∧ sv = .char (val ρ bits) := by
  cases h with
  | char bits h8 => exact ⟨bits, rfl, h8, rfl⟩

theorem denT_tuple_inv {ρ : QV.Env} {ts : List Ty} {v : Val} {sv : TVal} (h : DenT ρ (.tuple ts) v sv) :
    ∃ vs svs, v = .list vs ∧ sv = .tuple svs ∧ TVal.tyList svs = ts ∧ TVal.wfList svs = true ∧
      evalBits ρ (Val.flattenList vs) = TVal.bitsList svs := by
  generalize ht : Ty.tuple ts = t at h
  cases h <;> cases ht
  exact ⟨_, _, rfl, rfl, rfl, ‹_›, ‹_›⟩

theorem den_ty {ρ : QV.Env} {t : Ty} {v : Val} {sv : TVal} (h : DenT ρ t v sv) : sv.ty = t := by
  cases h <;> rfl

theorem den_wf {ρ : QV.Env} {t : Ty} {v : Val} {sv : TVal} (h : DenT ρ t v sv) : sv.wf = true := by
  cases h with
  | bool a => rfl
  | int bits => simp [TVal.wf, val_lt]
  | char bits h8 =>
    have := val_lt ρ bits
    rw [h8] at this
    simpa [TVal.wf] using this
  | tup vs svs hwf _ => simpa [TVal.wf] using hwf

theorem den_bits {ρ : QV.Env} {t : Ty} {v : Val} {sv : TVal} (h : DenT ρ t v sv) :
    evalBits ρ v.flatten = sv.bits := by
  cases h with
  | bool a => simp [Val.flatten, evalBits, TVal.bits]
  | int bits =>
    rw [flatten_ofBits, TVal.bits]
    exact evalBits_eq_toBitsLE ρ bits _ rfl
  | char bits h8 =>
    rw [flatten_ofBits, TVal.bits]
    exact evalBits_eq_toBitsLE ρ bits _ h8
  | tup vs svs _ hbits => simpa [Val.flatten, TVal.bits] using hbits

theorem den_flatten_length {ρ : QV.Env} {t : Ty} {v : Val} {sv : TVal} (h : DenT ρ t v sv) :
    v.flatten.length = t.bits := by
  have := congrArg List.length (den_bits h)
  rwa [evalBits_length, TVal.bits_length, den_ty h] at this

theorem length_of_evalBits_eq {ρ : QV.Env} {l : List BExp} {svs : List TVal}
    (h : evalBits ρ l = TVal.bitsList svs) : l.length = Ty.bitsList (TVal.tyList svs) := by
  have := congrArg List.length h
  rwa [evalBits_length, TVal.bitsList_length] at this

def SoundT (ρ : QV.Env) (env : Front.Env) (σ : TEnv) (e : PExp) : Prop :=
  ∀ (s : St) (t : Ty) (v : Val) (s' : St), wellT σ e = true →
    (tr Quirks.none env e).run s = .ok ((t, v), s') → ∃ sv, semT σ e = some sv ∧ DenT ρ t v sv

theorem bne_qchar_bool : (Ty.qchar != Ty.bool) = true := rfl
theorem bne_tuple_bool (ts : List Ty) : (Ty.tuple ts != Ty.bool) = true := rfl
-- `beq_qchar_bool`, `beq_tuple_bool`, `atomOf_list`: kept, not used below
theorem beq_qchar_bool : (Ty.qchar == Ty.bool) = false := rfl
theorem beq_tuple_bool (ts : List Ty) : (Ty.tuple ts == Ty.bool) = false := rfl

theorem atomOf_list (l : List Val) (a : BExp) : atomOf (.list l) = .ok a ↔ False := by
  simp [atomOf, throw, throwThe, MonadExceptOf.throw]

theorem soundT_cbool (ρ : QV.Env) (env : Front.Env) (σ : TEnv) (b : Bool) : SoundT ρ env σ (.cbool b) := by
  intro s t v s' _ h
  rw [tr, run_pure_ok] at h
  obtain ⟨h, rfl⟩ := h
  cases h
  refine ⟨.bool b, by simp [semT], ?_⟩
  apply DenT.mk_bool
  cases b <;> rfl

theorem soundT_cint (ρ : QV.Env) (env : Front.Env) (σ : TEnv) (c : Int) : SoundT ρ env σ (.cint c) := by
  intro s t v s' _ h
  rw [tr] at h
  obtain ⟨⟨t1, bits⟩, _, h1, h2⟩ := bind_inv h
  obtain ⟨w, hw, rfl, hl, hv⟩ := constToQtype_ok (ρ := ρ) (lift_inv h1).1
  cases pure_inv h2
  exact ⟨_, by simp only [semT, hw], DenT.mk_int _ _ _ hl hv⟩

theorem qcharConst_spec (ρ : QV.Env) (c : Nat) (hc : c < 256) :
    val ρ (qcharConst c) = c ∧ (qcharConst c).length = 8 := by
  unfold qcharConst
  obtain ⟨h1, h2⟩ := natBitsLE_spec ρ 8 32 c (by simpa using hc) (by decide) (by decide)
  constructor
  · rw [val_fill, h1]
  · rw [fill_length]; omega

theorem soundT_cchar (ρ : QV.Env) (env : Front.Env) (σ : TEnv) (c : Nat) (hc : c < 256) :
    SoundT ρ env σ (.cchar c) := by
  intro s t v s' _ h
  rw [tr, run_pure_ok] at h
  obtain ⟨h, rfl⟩ := h
  cases h
  obtain ⟨h1, h2⟩ := qcharConst_spec ρ c hc
  exact ⟨.char c, by simp [semT, hc], DenT.mk_char _ _ h2 h1⟩

theorem soundT_not (ρ : QV.Env) (env : Front.Env) (σ : TEnv) (e : PExp) (ih : SoundT ρ env σ e) :
    SoundT ρ env σ (.not e) := by
  intro s t v s' hw h
  rw [tr] at h
  simp only [run_bind_ok] at h
  obtain ⟨⟨t1, v1⟩, s1, h1, h2⟩ := h
  obtain ⟨sv, hs, hd⟩ := ih _ _ _ _ (by simpa [wellT] using hw) h1
  cases hd with
  | bool a =>
    simp only [bne_bool_bool, Bool.false_eq_true, if_false, run_bind_ok, run_lift_ok, run_pure_ok,
      atomOf_atom, Except.ok.injEq] at h2
    obtain ⟨_, _, ⟨rfl, rfl⟩, h4, rfl⟩ := h2
    cases h4
    exact ⟨.bool (!(a.eval ρ)), by rw [semT, hs]; rfl, DenT.mk_bool _ _ (by simp [BExp.eval])⟩
  | int bits =>
    simp only [bne_qint_bool, if_true, run_bind_ok, run_throw_ok, false_and, exists_false] at h2
  | char bits h8 =>
    simp only [bne_qchar_bool, if_true, run_bind_ok, run_throw_ok, false_and, exists_false] at h2
  | tup vs svs _ _ =>
    simp only [bne_tuple_bool, if_true, run_bind_ok, run_throw_ok, false_and, exists_false] at h2

theorem soundT_inv (ρ : QV.Env) (env : Front.Env) (σ : TEnv) (e : PExp) (ih : SoundT ρ env σ e) :
    SoundT ρ env σ (.inv e) := by
  intro s t v s' hw h
  rw [tr] at h
  simp only [run_bind_ok] at h
  obtain ⟨⟨t1, v1⟩, s1, h1, h2⟩ := h
  simp only [wellT, Bool.and_eq_true, Bool.not_eq_true'] at hw
  obtain ⟨sv, hs, hd⟩ := ih _ _ _ _ hw.1 h1
  cases hd with
  | bool a =>
    simp only [Ty.size?, run_throw_ok] at h2
  | int bits =>
    simp only [Ty.size?, run_bind_ok, run_lift_ok, run_pure_ok, bitsOf_ofBits, Except.ok.injEq] at h2
    obtain ⟨_, _, ⟨rfl, rfl⟩, h4, rfl⟩ := h2
    cases h4
    refine ⟨.int bits.length (2 ^ bits.length - 1 - val ρ bits), by rw [semT, hs]; rfl, ?_⟩
    apply DenT.mk_int _ _ _ (bitwiseNot_length bits)
    have := val_bitwiseNot ρ bits
    omega
  | char bits h8 =>
    have := hw.2
    rw [hs] at this
    simp [isCharO] at this
  | tup vs svs _ _ =>
    simp only [Ty.size?, run_throw_ok] at h2

end QV.Sem
