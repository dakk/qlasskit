/-! Successful runs of `Except ε` and of `StateT σ (Except ε)`: a run that ends in `.ok` went through every
step.  Stated once, for every state and error type; the compiler's `M`, the translator's `M` and the rewriter's
`RM` / `X` are instances. -/
namespace QV.SE
universe u v
variable {ε : Type u} {σ α β : Type v}

theorem bind_ok (x : Except ε α) (f : α → Except ε β) (r : β) :
    (x >>= f) = .ok r ↔ ∃ a, x = .ok a ∧ f a = .ok r := by
  cases x <;> simp [bind, Except.bind]

theorem pure_ok (a b : α) : (pure a : Except ε α) = .ok b ↔ b = a := by
  simp [pure, Except.pure, eq_comm]

theorem throw_ok (e : ε) (r : α) : (throw e : Except ε α) = .ok r ↔ False := by
  simp [throw, throwThe, MonadExceptOf.throw]

theorem run_bind_ok (x : StateT σ (Except ε) α) (f : α → StateT σ (Except ε) β) (s : σ) (r : β × σ) :
    (x >>= f).run s = .ok r ↔ ∃ a s1, x.run s = .ok (a, s1) ∧ (f a).run s1 = .ok r := by
  rw [StateT.run_bind, bind_ok]
  exact ⟨fun ⟨(a, s1), h⟩ => ⟨a, s1, h⟩, fun ⟨a, s1, h⟩ => ⟨(a, s1), h⟩⟩

theorem run_pure_ok (a : α) (s : σ) (b : α) (s1 : σ) :
    (pure a : StateT σ (Except ε) α).run s = .ok (b, s1) ↔ b = a ∧ s1 = s := by
  simp [StateT.run_pure, pure_ok]

theorem run_throw_ok (e : ε) (s : σ) (r : α × σ) :
    (throw e : StateT σ (Except ε) α).run s = .ok r ↔ False := by
  simp [throw, throwThe, MonadExceptOf.throw, StateT.run, StateT.lift, bind, Except.bind]

theorem run_get_ok (s a s1 : σ) :
    (get : StateT σ (Except ε) σ).run s = .ok (a, s1) ↔ a = s ∧ s1 = s := by
  simp [StateT.run_get, pure_ok]

theorem run_set_ok (t s : σ) (u : PUnit) (s1 : σ) :
    (set t : StateT σ (Except ε) PUnit).run s = .ok (u, s1) ↔ s1 = t := by
  simp [StateT.run_set, pure_ok]

theorem run_modify_ok (f : σ → σ) (s : σ) (u : PUnit) (s1 : σ) :
    (modify f : StateT σ (Except ε) PUnit).run s = .ok (u, s1) ↔ s1 = f s := by
  simp [StateT.run_modify, pure_ok]

theorem run_lift_ok (x : Except ε α) (s : σ) (a : α) (s1 : σ) :
    (liftM x : StateT σ (Except ε) α).run s = .ok (a, s1) ↔ x = .ok a ∧ s1 = s := by
  cases x <;> simp [liftM, monadLift, MonadLift.monadLift, StateT.lift, StateT.run, bind, Except.bind,
    pure, Except.pure, eq_comm]

theorem run_ite_ok (c : Prop) [Decidable c] (x y : StateT σ (Except ε) α) (s : σ) (r : α × σ) :
    (if c then x else y).run s = .ok r ↔ (c ∧ x.run s = .ok r) ∨ (¬ c ∧ y.run s = .ok r) := by
  by_cases h : c <;> simp [h]

theorem run_discard_ok (m : StateT σ (Except ε) α) (s : σ) (u : PUnit) (s1 : σ) :
    (discard m).run s = .ok (u, s1) ↔ ∃ a, m.run s = .ok (a, s1) := by
  show (StateT.map (Function.const α PUnit.unit) m).run s = _ ↔ _
  unfold StateT.map StateT.run
  simp only [bind, Except.bind, pure, Except.pure]
  cases h : m s with
  | error e => simp
  | ok p => obtain ⟨a, s2⟩ := p; simp

/-- a computation whose `isOk` (`toBool`) evaluates to `true` has a result: the examples exhibit a run of a model
by one evaluation of the kernel, and the result is never written out or unified -/
theorem ok_of_isOk {x : Except ε α} (h : x.isOk = true) : ∃ a, x = .ok a := by
  cases x with
  | ok a => exact ⟨a, rfl⟩
  | error e => cases h

theorem ok_pair_of_isOk {x : Except ε (α × β)} (h : x.isOk = true) : ∃ a b, x = .ok (a, b) :=
  let ⟨(a, b), e⟩ := ok_of_isOk h
  ⟨a, b, e⟩

end QV.SE
