import QV.Proofs.Export
/-!
The line reader inverts the printer on readable tokens; every step of reading is one of two facts
about `splitOn`: it goes through a separator (`splitOn_sep`) and leaves a part without one whole
(`splitOn_noSep`).
-/
namespace QV.Export

open splitHead (joinWith)

theorem mem_joinSp {x : Char} : ∀ {ts : List Text}, x ∈ joinSp ts → x = ' ' ∨ ∃ t ∈ ts, x ∈ t
  | [], h => nomatch h
  | [t], h => .inr ⟨t, List.mem_cons_self, h⟩
  | t :: u :: ts, h => by
    rw [show joinSp (t :: u :: ts) = t ++ ' ' :: joinSp (u :: ts) from rfl, List.mem_append, List.mem_cons] at h
    rcases h with h | h | h
    · exact .inr ⟨t, List.mem_cons_self, h⟩
    · exact .inl h
    · exact (mem_joinSp h).imp_right fun ⟨p, hp, hx⟩ => ⟨p, List.mem_cons_of_mem _ hp, hx⟩

theorem splitOn_ne_nil (c : Char) : ∀ t : Text, ∃ a as, splitOn c t = a :: as
  | [] => ⟨_, _, rfl⟩
  | x :: xs => by
    obtain ⟨a, as, h⟩ := splitOn_ne_nil c xs
    unfold splitOn
    rw [h]
    split <;> exact ⟨_, _, rfl⟩

theorem splitOn_cons_sep (c : Char) (xs : Text) : splitOn c (c :: xs) = [] :: splitOn c xs := by
  rw [splitOn, if_pos rfl]

theorem splitOn_cons_ne {c x : Char} (h : x ≠ c) {xs a : Text} {as : List Text} (hs : splitOn c xs = a :: as) :
    splitOn c (x :: xs) = (x :: a) :: as := by
  rw [splitOn, if_neg h, hs]

theorem splitOn_noSep (c : Char) : ∀ (t : Text), c ∉ t → splitOn c t = [t]
  | [], _ => rfl
  | _ :: xs, h =>
    splitOn_cons_ne (fun e => h (List.mem_cons.mpr (.inl e.symm)))
      (splitOn_noSep c xs fun m => h (List.mem_cons_of_mem _ m))

theorem splitOn_sep (c : Char) : ∀ (t r : Text), splitOn c (t ++ c :: r) = splitOn c t ++ splitOn c r
  | [], r => splitOn_cons_sep c r
  | x :: xs, r => by
    obtain ⟨a, as, h⟩ := splitOn_ne_nil c xs
    have ih := splitOn_sep c xs r
    by_cases hx : x = c
    · rw [hx, List.cons_append, splitOn_cons_sep, splitOn_cons_sep, ih]; rfl
    · rw [h] at ih
      rw [List.cons_append, splitOn_cons_ne hx ih, splitOn_cons_ne hx h]; rfl

theorem joinWith_splitOn (c : Char) : ∀ (t : Text), joinWith c (splitOn c t) = t
  | [] => rfl
  | x :: xs => by
    have ih := joinWith_splitOn c xs
    obtain ⟨a, as, h⟩ := splitOn_ne_nil c xs
    rw [h] at ih
    by_cases hx : x = c
    · rw [hx, splitOn_cons_sep, h, ← ih]; rfl
    · rw [splitOn_cons_ne hx h, ← ih]
      cases as <;> rfl

theorem splitOn_joinSp : ∀ (ts : List Text), ts ≠ [] → (∀ t ∈ ts, ' ' ∉ t) → splitOn ' ' (joinSp ts) = ts
  | [], h, _ => absurd rfl h
  | [t], _, h => splitOn_noSep ' ' t (h t List.mem_cons_self)
  | t :: u :: ts, _, h => by
    rw [show joinSp (t :: u :: ts) = t ++ ' ' :: joinSp (u :: ts) from rfl, splitOn_sep,
      splitOn_noSep ' ' t (h t List.mem_cons_self),
      splitOn_joinSp (u :: ts) (List.cons_ne_nil _ _) fun x hx => h x (List.mem_cons_of_mem _ hx)]
    rfl

theorem tokenOK_spec {t : Text} (h : tokenOK t = true) :
    t ≠ [] ∧ ' ' ∉ t ∧ '\n' ∉ t ∧ '(' ∉ t := by
  simp only [tokenOK, Bool.and_eq_true, Bool.not_eq_true', List.isEmpty_eq_false_iff, List.all_eq_true,
    bne_iff_ne] at h
  exact ⟨h.1, fun m => (h.2 _ m).1.1 rfl, fun m => (h.2 _ m).1.2 rfl, fun m => (h.2 _ m).2 rfl⟩

theorem ptextOK_spec {pt : Text} (h : ptextOK (some pt) = true) : ' ' ∉ pt ∧ '\n' ∉ pt := by
  simp only [ptextOK, List.all_eq_true, Bool.and_eq_true, bne_iff_ne] at h
  exact ⟨fun m => (h _ m).1 rfl, fun m => (h _ m).2 rfl⟩

/-- `(param)` behind the gate name -/
def paren : Option Text → Text
  | some pt => '(' :: pt ++ [')']
  | none => []

/-- `name` or `name(param)`, then the arguments -/
def QLine.words (l : QLine) : List Text := (l.gname ++ paren l.ptext) :: l.args

theorem QLine.render_eq (l : QLine) (h : l.args ≠ []) : l.render = '\t' :: joinSp l.words := by
  obtain ⟨g, p, args⟩ := l
  cases args with
  | nil => exact absurd rfl h
  | cons a as => cases p <;> rfl

/-- `name(param)` is taken apart at the first `(`; the parameter may itself contain parentheses -/
theorem splitHead_paren {nm : Text} (h : '(' ∉ nm) : ∀ pt, splitHead (nm ++ paren pt) = (nm, pt)
  | none => by rw [paren, List.append_nil, splitHead, splitOn_noSep '(' nm h]
  | some pt => by
    have hj := joinWith_splitOn '(' (pt ++ [')'])
    obtain ⟨a, as, hs⟩ := splitOn_ne_nil '(' (pt ++ [')'])
    rw [hs] at hj
    rw [paren, List.cons_append, splitHead, splitOn_sep, splitOn_noSep '(' nm h, hs]
    simp only [List.cons_append, List.nil_append, hj, List.dropLast_concat]

theorem lineOK_spec {l : QLine} (h : lineOK l = true) :
    '(' ∉ l.gname ∧ l.args ≠ [] ∧ ∀ c, c = ' ' ∨ c = '\n' → ∀ w ∈ l.words, c ∉ w := by
  simp only [lineOK, Bool.and_eq_true, Bool.not_eq_true', List.isEmpty_eq_false_iff, List.all_eq_true] at h
  obtain ⟨⟨⟨hg, hp⟩, ha⟩, hargs⟩ := h
  obtain ⟨_, hg1, hg2, hg3⟩ := tokenOK_spec hg
  refine ⟨hg3, ha, fun c hc w hw => ?_⟩
  rcases List.mem_cons.mp hw with rfl | hw
  · cases hpt : l.ptext with
    | none => rcases hc with rfl | rfl <;> simpa [paren]
    | some pt =>
      obtain ⟨hp1, hp2⟩ := ptextOK_spec (hpt ▸ hp)
      rcases hc with rfl | rfl <;> simp [paren, *]
  · obtain ⟨_, h1, h2, _⟩ := tokenOK_spec (hargs w hw)
    rcases hc with rfl | rfl <;> assumption

theorem parseLine_render (l : QLine) (h : lineOK l = true) : parseLine l.render = some l := by
  obtain ⟨hg, ha, hw⟩ := lineOK_spec h
  rw [l.render_eq ha, parseLine, QLine.words,
    splitOn_joinSp _ (List.cons_ne_nil _ _) (hw ' ' (.inl rfl))]
  simp only [splitHead_paren hg]

theorem render_noNewline (l : QLine) (h : lineOK l = true) : '\n' ∉ l.render := by
  obtain ⟨_, ha, hw⟩ := lineOK_spec h
  rw [l.render_eq ha, List.mem_cons]
  rintro (h | h)
  · cases h
  · rcases mem_joinSp h with h | ⟨w, hm, h⟩
    · cases h
    · exact hw '\n' (.inr rfl) w hm h

theorem render_ne_close (l : QLine) : l.render ≠ ['}'] := by
  rw [QLine.render]; exact fun h => nomatch h

theorem parseBody_renderLines : ∀ (ls : List QLine) (rest : Text), (∀ l ∈ ls, lineOK l = true) →
    parseBody (splitOn '\n' (renderLines ls ++ '}' :: '\n' :: rest)) = some ls
  | [], rest, _ => by
    rw [renderLines, List.nil_append, ← List.singleton_append, splitOn_sep, splitOn_noSep _ _ (by decide),
      List.singleton_append, parseBody, if_pos rfl]
  | l :: ls, rest, h => by
    rw [renderLines, List.append_assoc, List.cons_append, splitOn_sep,
      splitOn_noSep _ _ (render_noNewline l (h l List.mem_cons_self)), List.singleton_append, parseBody,
      if_neg (render_ne_close l), parseLine_render l (h l List.mem_cons_self),
      parseBody_renderLines ls rest fun x hx => h x (List.mem_cons_of_mem _ hx)]

theorem words_joinSp {fs : List Text} (hf : ∀ f ∈ fs, tokenOK f = true) :
    (splitOn ' ' (joinSp fs)).filter (· ≠ []) = fs := by
  cases fs with
  | nil => rfl
  | cons f fs =>
    rw [splitOn_joinSp _ (List.cons_ne_nil _ _) fun t ht => (tokenOK_spec (hf t ht)).2.1]
    exact List.filter_eq_self.mpr fun t ht => decide_eq_true (tokenOK_spec (hf t ht)).1

theorem header_tokens (name : Text) (formals : List Text) (hn : tokenOK name = true)
    (hf : ∀ f ∈ formals, tokenOK f = true) :
    (splitOn ' ' ("gate ".toList ++ name ++ ' ' :: joinSp formals ++ " {".toList)).filter (· ≠ []) =
      "gate".toList :: name :: (formals ++ [['{']]) := by
  obtain ⟨hn0, hn1, _, _⟩ := tokenOK_spec hn
  have e : "gate ".toList ++ name ++ ' ' :: joinSp formals ++ " {".toList =
      "gate".toList ++ ' ' :: (name ++ ' ' :: (joinSp formals ++ ' ' :: ['{'])) := by simp
  rw [e, splitOn_sep, splitOn_sep, splitOn_sep, splitOn_noSep ' ' name hn1, List.filter_append,
    List.filter_append, List.filter_append, words_joinSp hf]
  simp [hn0]; rfl

theorem parseDecl_renderGate (name : Text) (formals : List Text) (body : List QLine)
    (hn : tokenOK name = true) (hf : ∀ f ∈ formals, tokenOK f = true)
    (hb : ∀ l ∈ body, lineOK l = true) :
    parseDecl (renderGate name formals body) = some { name := name, formals := formals, body := body } := by
  have hl0 : '\n' ∉ "gate ".toList ++ name ++ ' ' :: joinSp formals ++ " {".toList := by
    have : '\n' ∉ joinSp formals := fun h => by
      rcases mem_joinSp h with h | ⟨t, ht, h⟩
      · cases h
      · exact (tokenOK_spec (hf t ht)).2.2.1 h
    simp [(tokenOK_spec hn).2.2.1, this]
  unfold parseDecl renderGate
  rw [splitOn_sep, splitOn_noSep _ _ hl0, List.singleton_append]
  simp only []
  rw [header_tokens name formals hn hf, parseBody_renderLines body _ hb]
  simp

theorem mapOpt_map {α β : Type} (f : α → Option β) (g : α → β) :
    ∀ (l : List α), (∀ a ∈ l, f a = some (g a)) → mapOpt f l = some (l.map g)
  | [], _ => rfl
  | a :: l, h => by
    have ih := mapOpt_map f g l (fun x hx => h x (List.mem_cons_of_mem _ hx))
    simp [mapOpt, h a (List.mem_cons_self ..), ih]

theorem mapOpt_filterMap {α β γ : Type} (f : α → Option β) (h : β → Option γ) (t : α → Option γ) :
    ∀ (l : List α), (∀ a ∈ l, match f a with
        | none => t a = none
        | some b => ∃ c, h b = some c ∧ t a = some c) →
      mapOpt h (l.filterMap f) = some (l.filterMap t)
  | [], _ => rfl
  | a :: l, H => by
    have ih := mapOpt_filterMap f h t l (fun x hx => H x (List.mem_cons_of_mem _ hx))
    have ha := H a (List.mem_cons_self ..)
    cases hf : f a with
    | none => simp [hf] at ha; simp [hf, ha, ih]
    | some b =>
      simp [hf] at ha
      obtain ⟨c, h1, h2⟩ := ha
      simp [hf, h2, mapOpt, h1, ih]

theorem mapOpt_map_left {α β : Type} (f : β → Option α) (g : α → β) :
    ∀ (l : List α), (∀ a ∈ l, f (g a) = some a) → mapOpt f (l.map g) = some l
  | [], _ => rfl
  | a :: l, h => by
    have ih := mapOpt_map_left f g l (fun x hx => h x (List.mem_cons_of_mem _ hx))
    simp [mapOpt, h a (List.mem_cons_self ..), ih]

theorem stripCs_nc (r : Text) (h : r.head? ≠ some 'c') : stripCs r = (0, r) := by
  unfold stripCs
  split
  · simp at h
  · rfl

theorem stripCs_replicate (n : Nat) (r : Text) (h : r.head? ≠ some 'c') :
    stripCs (List.replicate n 'c' ++ r) = (n, r) := by
  induction n with
  | zero => simpa using stripCs_nc r h
  | succ n ih => simp [List.replicate_succ, stripCs, ih]

def lookup {κ α : Type} [DecidableEq κ] : List (κ × α) → κ → Option α
  | [], _ => none
  | (k, v) :: t, x => if x = k then some v else lookup t x

theorem mem_of_lookup {κ α : Type} [DecidableEq κ] {x : κ} {v : α} :
    ∀ {t : List (κ × α)}, lookup t x = some v → (x, v) ∈ t
  | (k, w) :: t, h => by
    unfold lookup at h
    split at h
    · next e => cases h; exact e ▸ List.mem_cons_self
    · exact List.mem_cons_of_mem _ (mem_of_lookup h)

/-- `Base.ofName` is the look-up in this table: the inner gates an `MCtrl` can carry -/
def baseNames : List (String × Base) :=
  [("I", .I), ("X", .X), ("Y", .Y), ("Z", .Z), ("H", .H), ("S", .S), ("T", .T), ("P", .P), ("SWAP", .Swap)]

theorem ofName_mem {g : String} {b : Base} (h : Base.ofName g = some b) : (g, b) ∈ baseNames :=
  mem_of_lookup (t := baseNames) h

/-- the library's lower-cased name of a base gate -/
def baseText : Base → Text
  | .I => ['i'] | .X => ['x'] | .Y => ['y'] | .Z => ['z'] | .H => ['h'] | .S => ['s'] | .T => ['t']
  | .P => ['p'] | .Swap => ['s','w','a','p']

theorem baseText_spec (b : Base) :
    baseOfQasm (baseText b) = some b ∧ (baseText b).head? ≠ some 'c' ∧ tokenOK (baseText b) = true := by
  cases b <;> decide

theorem baseNames_lower : ∀ r ∈ baseNames, lowerText r.1.toList = baseText r.2 := by decide

/-- `g.__name__.lower()` is one `c` per control, then the base gate -/
theorem qasmName_eq {cls : GClass} {b : Base} {k : Nat} (h : kind cls = some (b, k)) :
    qasmName cls = List.replicate k 'c' ++ baseText b := by
  cases cls
  case MCtrl g n =>
    obtain ⟨b', hb, e⟩ := Option.map_eq_some_iff.mp h
    cases e
    exact congrArg _ (baseNames_lower _ (ofName_mem hb))
  all_goals cases h <;> rfl

theorem kindOfQasm_replicate (b : Base) (k : Nat) :
    kindOfQasm (List.replicate k 'c' ++ baseText b) = some (b, k) := by
  obtain ⟨h1, h2, _⟩ := baseText_spec b
  rw [kindOfQasm, stripCs_replicate _ _ h2]
  simp only [h1, Option.map_some]

theorem kindOfQasm_qasmName {cls : GClass} {bk : Base × Nat} (h : kind cls = some bk) :
    kindOfQasm (qasmName cls) = some bk := by
  rw [qasmName_eq h, kindOfQasm_replicate]

theorem qasmRepaired_none : QasmRepaired Quirks.none := ⟨rfl, rfl⟩

theorem qasmFormals_repaired {q : Quirks} (hq : QasmRepaired q) (c : Circ) :
    qasmFormals q c = (List.range c.numQubits).map (nameOfIndex c.qmap) := by
  simp [qasmFormals, hq.1]

theorem indexOfName_eq (nm : Text) : ∀ l : List Text, indexOfName l nm = l.idxOf? nm
  | [] => rfl
  | x :: xs => by
    rw [indexOfName, List.idxOf?_cons, indexOfName_eq nm xs]
    by_cases h : x = nm <;> simp [h]

theorem indexOfName_get (l : List Text) (i : Nat) (h : i < l.length) (hnd : l.Nodup) :
    indexOfName l l[i] = some i := by
  rw [indexOfName_eq]; exact hnd.idxOf?_getElem i h

theorem indexOfName_formals {q : Quirks} (hq : QasmRepaired q) (c : Circ) (w : Nat)
    (hw : w < c.numQubits) (hnd : (qasmFormals q c).Nodup) :
    indexOfName (qasmFormals q c) (nameOfIndex c.qmap w) = some w := by
  have hl : w < (qasmFormals q c).length := by simpa [qasmFormals_repaired hq] using hw
  have := indexOfName_get (qasmFormals q c) w hl hnd
  simpa [qasmFormals_repaired hq] using this

/-- the body line of a non-nop gate in an exporter with repaired formals (`QasmRepaired q`; the
parameter text still depends on `q.qasmParam2f`), in closed form: `qasmLineOf_eq` -/
def lineFor (q : Quirks) (fv : FloatOf) (c : Circ) (g : AGate) : QLine :=
  ⟨qasmName g.cls, qasmParamText q fv g.param, g.wires.map (nameOfIndex c.qmap)⟩

theorem qasmLineOf_eq {q : Quirks} (hq : QasmRepaired q) (fv : FloatOf) (c : Circ) (g : AGate)
    (n : Nat) (hwf : gateWF fv n g = true) {bk : Base × Nat} (hk : kind g.cls = some bk) :
    qasmLineOf q fv c g = some (lineFor q fv c g) := by
  obtain ⟨b, k⟩ := bk
  have hp := gateWF_param hwf hk
  have hw : mapOpt (qasmWireName q c) g.wires = some (g.wires.map (nameOfIndex c.qmap)) :=
    mapOpt_map _ _ _ (fun w _ => by simp [qasmWireName, hq.1])
  unfold qasmLineOf
  rw [hw]
  cases hb : takesParam b with
  | false => simp [hp.1 hb, hasParam, hq.2, qasmParamText, lineFor]
  | true =>
    obtain ⟨s, hs, hv⟩ := hp.2 hb
    obtain ⟨v, hv⟩ := Option.isSome_iff_exists.mp hv
    cases h2 : q.qasmParam2f <;> simp [hs, hasParam, hq.2, qasmParamText, lineFor, h2, hv]

theorem lineOp_line {q : Quirks} (hq : QasmRepaired q) (fv : FloatOf) (c : Circ) (g : AGate)
    (hwf : gateWF fv c.numQubits g = true)
    {bk : Base × Nat} (hk : kind g.cls = some bk) (hnd : (qasmFormals q c).Nodup) :
    lineOp (qasmFormals q c) (lineFor q fv c g) = gateTOpQ q fv g := by
  have hidx : mapOpt (indexOfName (qasmFormals q c)) (g.wires.map (nameOfIndex c.qmap)) = some g.wires :=
    mapOpt_map_left _ _ _ (fun w hw => indexOfName_formals hq c w (gateWF_lt hwf w hw) hnd)
  simp [lineOp, lineFor, kindOfQasm_qasmName hk, hidx, gateTOpQ, hk]

theorem exportable_kind {cls : GClass} (he : qasmExportable cls = true) (hn : ¬ cls.isNop = true) :
    ∃ bk, kind cls = some bk := by
  simp [qasmExportable, hn] at he
  exact Option.isSome_iff_exists.mp he

theorem declOps_body {q : Quirks} (hq : QasmRepaired q) (fv : FloatOf) (c : Circ)
    (hwf : ∀ g ∈ c.gates, gateWF fv c.numQubits g = true)
    (he : ∀ g ∈ c.gates, qasmExportable g.cls = true)
    (hnd : (qasmFormals q c).Nodup) :
    mapOpt (lineOp (qasmFormals q c))
      (c.gates.filterMap (fun g => if g.cls.isNop then none else qasmLineOf q fv c g)) =
      some (c.gates.filterMap (gateTOpQ q fv)) := by
  apply mapOpt_filterMap
  intro g hg
  by_cases hn : g.cls.isNop = true
  · simp [hn, gateTOpQ, isNop_kind hn]
  · obtain ⟨bk, hk⟩ := exportable_kind (he g hg) hn
    simp only [hn, Bool.false_eq_true, ↓reduceIte, qasmLineOf_eq hq fv c g _ (hwf g hg) hk]
    have ht : gateTOpQ q fv g = some ⟨bk.1, bk.2, g.wires, qasmParamText q fv g.param⟩ := by
      simp [gateTOpQ, hk]
    exact ⟨_, (lineOp_line hq fv c g (hwf g hg) hk hnd).trans ht, ht⟩

theorem gateTOpQ_none (fv : FloatOf) (g : AGate) : gateTOpQ Quirks.none fv g = gateTOp g := by
  unfold gateTOpQ gateTOp
  cases kind g.cls <;> simp
  cases g.param <;> simp [qasmParamText, Quirks.none]

/-- under `QasmRepaired` the loop returns and the body is `lineFor` of each non-nop gate; for arbitrary `q` only the
conditional form `C13.qasm_body_lines` (`qasmLineOf`) holds -/
theorem qasmBody_eq {q : Quirks} (hq : QasmRepaired q) (fv : FloatOf) (c : Circ)
    (hwf : ∀ g ∈ c.gates, gateWF fv c.numQubits g = true)
    (he : ∀ g ∈ c.gates, qasmExportable g.cls = true) :
    qasmBody q fv c =
      .ok (c.gates.filterMap (fun g => if g.cls.isNop then none else some (lineFor q fv c g))) := by
  have hstep : ∀ g ∈ c.gates, qasmStep q fv c g =
      if g.cls.isNop then .skip else .emit (lineFor q fv c g) := by
    intro g hg
    unfold qasmStep
    by_cases hn : g.cls.isNop = true
    · simp [hn]
    · obtain ⟨bk, hk⟩ := exportable_kind (he g hg) hn
      simp [hn, qasmLineOf_eq hq fv c g _ (hwf g hg) hk]
  unfold qasmBody
  rw [runSteps_of_no_fail _ _ fun g hg m => by rw [hstep g hg]; split <;> nofun]
  exact congrArg _ (List.filterMap_congr_mem _ fun g hg => by rw [hstep g hg]; split <;> rfl)

theorem exportQasm_eq (q : Quirks) (fv : FloatOf) (ver : Nat) (gm : Bool) (c : Circ) :
    exportQasm q fv ver gm c = (qasmBody q fv c).map fun body =>
      let gate := renderGate c.name (qasmFormals q c) body
      if gm then gate else qasmHeader ver c.numQubits ++ gate ++ callLine c.name c.numQubits := by
  unfold exportQasm
  cases qasmBody q fv c <;> cases gm <;> rfl

theorem nameCharOK_spec {ch : Char} (h : nameCharOK ch = true) : ch ≠ ' ' ∧ ch ≠ '\n' ∧ ch ≠ '(' := by
  refine ⟨?_, ?_, ?_⟩ <;> (rintro rfl; revert h; decide)

theorem identOK_tokenOK {t : Text} (h : identOK t = true) : tokenOK t = true := by
  simp only [identOK, tokenOK, Bool.and_eq_true, List.all_eq_true] at h ⊢
  refine ⟨h.1, fun ch hc => ?_⟩
  obtain ⟨h1, h2, h3⟩ := nameCharOK_spec (h.2 ch hc)
  simp [h1, h2, h3]

theorem natText_chars {i : Nat} {ch : Char} (h : ch ∈ natText i) : nameCharOK ch = true := by
  have := Nat.isDigit_of_mem_toDigits (by decide) (by decide) h
  simp [nameCharOK, Char.isAlphanum, this]

theorem natText_inj {i j : Nat} (h : natText i = natText j) : i = j := by
  have hi := @Nat.ofDigitChars_ten_toDigits i
  have hj := @Nat.ofDigitChars_ten_toDigits j
  unfold natText at h
  rw [h] at hi
  exact hi.symm.trans hj

theorem fallback_identOK (i : Nat) : identOK ('q' :: natText i) = true := by
  simp only [identOK, List.isEmpty_cons, Bool.not_false, Bool.true_and, List.all_cons, Bool.and_eq_true,
    List.all_eq_true]
  exact ⟨by decide, fun ch hc => natText_chars hc⟩

theorem getKeyByIndex_mem {qmap : List (Text × Nat)} {i : Nat} {k : Text}
    (h : getKeyByIndex qmap i = some k) : (k, i) ∈ qmap := by
  obtain ⟨kv, hf, rfl⟩ := Option.map_eq_some_iff.mp h
  have hi : kv.2 = i := beq_iff_eq.mp (List.find?_some (p := fun kv : Text × Nat => kv.2 == i) hf)
  subst hi
  exact List.mem_reverse.mp (List.mem_of_find?_eq_some hf)

theorem keys_functional : ∀ (l : List (Text × Nat)), (l.map (·.1)).Nodup → ∀ k a b, (k, a) ∈ l → (k, b) ∈ l → a = b
  | [], _, _, _, _, h, _ => by simp at h
  | (k0, v0) :: l, hnd, k, a, b, ha, hb => by
    simp only [List.map_cons, List.nodup_cons] at hnd
    have hk : ∀ v, (k0, v) ∈ l → False := fun v hv => hnd.1 (List.mem_map.mpr ⟨(k0, v), hv, rfl⟩)
    rcases List.mem_cons.mp ha with ha | ha <;> rcases List.mem_cons.mp hb with hb | hb
    · cases ha; cases hb; rfl
    · cases ha; exact absurd hb (hk b)
    · cases hb; exact absurd ha (hk a)
    · exact keys_functional l hnd.2 k a b ha hb

/-- the boolean `wellNamed c` as four propositions (`wellNamed_spec`) -/
structure WellNamedSpec (c : Circ) : Prop where
  name : identOK c.name = true
  keys : ∀ kv ∈ c.qmap, identOK kv.1 = true
  nodup : (c.qmap.map (·.1)).Nodup
  fallback : ∀ i, i < c.numQubits → getKeyByIndex c.qmap i = none →
    ('q' :: natText i) ∉ c.qmap.map (·.1)

theorem wellNamed_spec {c : Circ} (h : wellNamed c = true) : WellNamedSpec c := by
  simp only [wellNamed, Bool.and_eq_true, List.all_eq_true, decide_eq_true_eq] at h
  obtain ⟨⟨⟨h1, h2⟩, h3⟩, h4⟩ := h
  refine ⟨h1, h2, h3, ?_⟩
  intro i hi hnone hm
  have := h4 i (List.mem_range.mpr hi)
  simp [hnone] at this
  simp at hm
  obtain ⟨x, hx⟩ := hm
  exact this x hx

theorem freshName_not_mem (names : List Text) (fuel : Nat) (n : Text) (h : n ∉ names) :
    freshName names fuel n = n := by
  cases fuel with
  | zero => rfl
  | succ f =>
    simp only [freshName]
    split
    · next hc => exact absurd (by simpa using hc) h
    · rfl

-- `identOK_underscore`, `freshName_identOK`: not used below (under `wellNamed` the fallback is no key: `freshName_not_mem`)
theorem identOK_underscore {n : Text} (h : identOK n = true) : identOK ('_' :: n) = true := by
  simp only [identOK, List.isEmpty_cons, Bool.not_false, Bool.true_and, List.all_cons, Bool.and_eq_true] at h ⊢
  exact ⟨by decide, h.2⟩

theorem freshName_identOK (names : List Text) : ∀ (fuel : Nat) (n : Text), identOK n = true →
    identOK (freshName names fuel n) = true := by
  intro fuel
  induction fuel with
  | zero => intro n h; exact h
  | succ f ih =>
    intro n h
    simp only [freshName]
    split
    · exact ih _ (identOK_underscore h)
    · exact h

theorem nameOfIndex_cases {c : Circ} (h : WellNamedSpec c) {i : Nat} (hi : i < c.numQubits) :
    (nameOfIndex c.qmap i, i) ∈ c.qmap ∨
    (nameOfIndex c.qmap i = 'q' :: natText i ∧ nameOfIndex c.qmap i ∉ c.qmap.map (·.1)) := by
  unfold nameOfIndex
  cases hk : getKeyByIndex c.qmap i with
  | some k => exact .inl (getKeyByIndex_mem hk)
  | none =>
    have hf := h.fallback i hi hk
    rw [Option.getD_none, freshName_not_mem _ _ _ hf]
    exact .inr ⟨rfl, hf⟩

theorem nameOfIndex_identOK {c : Circ} (h : WellNamedSpec c) {i : Nat} (hi : i < c.numQubits) :
    identOK (nameOfIndex c.qmap i) = true := by
  rcases nameOfIndex_cases h hi with hm | ⟨e, _⟩
  · exact h.keys _ hm
  · rw [e]; exact fallback_identOK i

theorem nameOfIndex_inj {c : Circ} (h : WellNamedSpec c) {i j : Nat} (hi : i < c.numQubits)
    (hj : j < c.numQubits) (e : nameOfIndex c.qmap i = nameOfIndex c.qmap j) : i = j := by
  have key : ∀ {k v}, (k, v) ∈ c.qmap → k ∈ c.qmap.map (·.1) := fun hm => List.mem_map.mpr ⟨_, hm, rfl⟩
  rcases nameOfIndex_cases h hi with hm | ⟨ei, hni⟩ <;> rcases nameOfIndex_cases h hj with hm' | ⟨ej, hnj⟩
  · exact keys_functional _ h.nodup _ i j hm (e ▸ hm')
  · exact absurd (key (e ▸ hm)) hnj
  · exact absurd (key (e ▸ hm')) hni
  · exact natText_inj (List.cons.inj (ei.symm.trans (e.trans ej))).2

theorem nodup_map_range {β : Type} (f : Nat → β) (n : Nat)
    (hinj : ∀ i j, i < n → j < n → f i = f j → i = j) : ((List.range n).map f).Nodup := by
  rw [List.Nodup, List.pairwise_map]
  have := List.nodup_range (n := n)
  rw [List.Nodup] at this
  refine List.Pairwise.imp_of_mem ?_ this
  intro a b ha hb hne e
  exact hne (hinj a b (List.mem_range.mp ha) (List.mem_range.mp hb) e)

theorem formals_nodup {q : Quirks} (hq : QasmRepaired q) {c : Circ} (h : WellNamedSpec c) :
    (qasmFormals q c).Nodup := by
  rw [qasmFormals_repaired hq]
  exact nodup_map_range _ _ (fun i j hi hj e => nameOfIndex_inj h hi hj e)

theorem tokenOK_replicate (n : Nat) (r : Text) (h : tokenOK r = true) :
    tokenOK (List.replicate n 'c' ++ r) = true := by
  simp only [tokenOK, Bool.and_eq_true, List.all_eq_true] at h ⊢
  refine ⟨by cases r <;> simp at h ⊢, fun ch hc => ?_⟩
  rcases List.mem_append.mp hc with hc | hc
  · rw [(List.mem_replicate.mp hc).2]; decide
  · exact h.2 ch hc

theorem qasmName_tokenOK {cls : GClass} {bk : Base × Nat} (hk : kind cls = some bk) :
    tokenOK (qasmName cls) = true :=
  qasmName_eq hk ▸ tokenOK_replicate _ _ (baseText_spec bk.1).2.2

theorem kind_nQubits_pos {cls : GClass} {bk : Base × Nat} (hk : kind cls = some bk) :
    0 < cls.nQubits := by
  cases cls <;> simp [kind] at hk <;> simp [GClass.nQubits]

theorem natText_plain (i : Nat) : ∀ ch ∈ natText i, (ch != ' ' && ch != '\n') = true := fun ch hc => by
  obtain ⟨h1, h2, _⟩ := nameCharOK_spec (natText_chars hc)
  simp [h1, h2]

theorem pad2_plain (n : Nat) : ∀ ch ∈ pad2 n, (ch != ' ' && ch != '\n') = true := by
  intro ch hc
  unfold pad2 at hc
  split at hc
  · rcases List.mem_cons.mp hc with hc | hc
    · subst hc; decide
    · exact natText_plain _ ch hc
  · exact natText_plain _ ch hc

/-- `{p:.2f}` prints sign, digits and a point -/
theorem fmt2f_plain (v : FVal) : ptextOK (some (fmt2f v)) = true := by
  simp only [ptextOK, fmt2f, List.all_eq_true]
  intro ch hc
  simp only [List.mem_append, List.mem_cons] at hc
  rcases hc with (hc | hc) | hc | hc
  · cases hn : v.neg <;> simp [hn] at hc
    subst hc; decide
  · exact natText_plain _ ch hc
  · subst hc; decide
  · exact pad2_plain _ ch hc

theorem lineFor_ok (q : Quirks) (fv : FloatOf) {c : Circ} (h : WellNamedSpec c) (g : AGate)
    (hwf : gateWF fv c.numQubits g = true) {bk : Base × Nat} (hk : kind g.cls = some bk)
    (hp : paramPlain g.param = true) : lineOK (lineFor q fv c g) = true := by
  have hlen := gateWF_len hwf
  have hpos := kind_nQubits_pos hk
  have hne : g.wires ≠ [] := by intro e; rw [e] at hlen; simp at hlen; omega
  have hpt : ptextOK (qasmParamText q fv g.param) = true := by
    cases hg : g.param <;> simp only [qasmParamText, ptextOK]
    case lit s =>
      cases h2 : q.qasmParam2f
      · simpa [hg, paramPlain, ptextOK] using hp
      · cases hv : fv s with
        | none => rfl
        | some v => exact fmt2f_plain v
  simp only [lineOK, lineFor, Bool.and_eq_true, qasmName_tokenOK hk, hpt, List.all_eq_true]
  refine ⟨⟨⟨trivial, trivial⟩, by simpa using hne⟩, ?_⟩
  intro t ht
  obtain ⟨w, hw, rfl⟩ := List.mem_map.mp ht
  exact identOK_tokenOK (nameOfIndex_identOK h (gateWF_lt hwf w hw))

theorem readable_of_spec {q : Quirks} (hq : QasmRepaired q) (fv : FloatOf) {c : Circ}
    (hwf : ∀ g ∈ c.gates, gateWF fv c.numQubits g = true)
    (he : ∀ g ∈ c.gates, qasmExportable g.cls = true)
    (hp : paramsPlain c.gates = true) (hs : WellNamedSpec c) : qasmReadable q fv c = true := by
  unfold qasmReadable
  rw [qasmBody_eq hq fv c hwf he]
  simp only [Bool.and_eq_true, List.all_eq_true]
  refine ⟨⟨identOK_tokenOK hs.name, ?_⟩, ?_⟩
  · intro t ht
    rw [qasmFormals_repaired hq] at ht
    obtain ⟨i, hi, rfl⟩ := List.mem_map.mp ht
    exact identOK_tokenOK (nameOfIndex_identOK hs (List.mem_range.mp hi))
  · intro l hl
    obtain ⟨g, hg, hgl⟩ := List.mem_filterMap.mp hl
    by_cases hnop : g.cls.isNop = true
    · simp [hnop] at hgl
    · simp [hnop] at hgl
      subst hgl
      obtain ⟨bk, hk⟩ := exportable_kind (he g hg) hnop
      simp only [paramsPlain, List.all_eq_true] at hp
      exact lineFor_ok q fv hs g (hwf g hg) hk (hp g hg)

end QV.Export
