import QV.Proofs.CompilerFrag
import QV.Proofs.CompilerGenGates
/-!
# Cleanliness of the compiler model on the tree-like fragment

The *shape* of the emitted gate list that makes the inline `uncompute` a correct Bennett replay (`replay_clean`):
every control is an argument qubit or a qubit marked at the end of the statement, no gate targets an argument
qubit, every target is marked or the result qubit.  The repaired `compile_or` folds binary ors into new marked
ancillas and applies no `X` gate to an argument qubit, so `Or`s of any arity are covered.  The shape is a two-state
relation `Cl` with *pending* controls / targets: qubits a later step of the caller has to mark.  `Cl` also says
that `kept_ancillas` does not change: `mark_ancilla` ignores kept ancillas, so "an ancilla gets marked" holds only
from states with `kept = []` (the hypothesis `s.qc.kept = []` of the specifications).  Cache misses, fresh ancillas
and `Pre` at intermediate states are taken from `exprSem` / `argsSem` / `xorSem`.
-/
namespace QV.Compiler
open QV

/-- `n` argument qubits, marked set `M`; `Pc` / `Pt`: pending controls / targets -/
def GShape (n : Nat) (M : List Nat) (Pc Pt : Nat → Prop) (g : AGate) : Prop :=
  (∀ c ∈ g.wires.dropLast, c < n ∨ c ∈ M ∨ Pc c) ∧ n ≤ g.target ∧ (g.target ∈ M ∨ Pt g.target)

/-- the gates appended between `s` and `s'` have shape `GShape` relative to the marks of `s'` -/
structure Cl (n : Nat) (Pc Pt : Nat → Prop) (s s' : CState) : Prop where
  ext : ∃ new, s'.qc.gates.toList = s.qc.gates.toList ++ new ∧ ∀ g ∈ new, GShape n s'.qc.marked Pc Pt g
  comp : s.qc.gatesComputed = s.qc.gates → s'.qc.gatesComputed = s'.qc.gates
  mks : ∀ m ∈ s.qc.marked, m ∈ s'.qc.marked
  anc : ∀ m ∈ s.qc.anc, m ∈ s'.qc.anc
  kept : s'.qc.kept = s.qc.kept

abbrev NoP : Nat → Prop := fun _ => False

theorem Cl.quiet {n : Nat} {Pc Pt : Nat → Prop} {s s' : CState} (hg : s'.qc.gates = s.qc.gates)
    (hc : s'.qc.gatesComputed = s.qc.gatesComputed) (hm : ∀ m ∈ s.qc.marked, m ∈ s'.qc.marked)
    (ha : ∀ m ∈ s.qc.anc, m ∈ s'.qc.anc) (hk : s'.qc.kept = s.qc.kept) : Cl n Pc Pt s s' :=
  ⟨⟨[], by rw [hg]; simp, fun g hg' => by cases hg'⟩, fun h => by rw [hc, hg]; exact h, hm, ha, hk⟩

theorem Cl.refl {n : Nat} {Pc Pt : Nat → Prop} (s : CState) : Cl n Pc Pt s s :=
  Cl.quiet rfl rfl (fun _ h => h) (fun _ h => h) rfl

theorem Cl.of_qc {n : Nat} {Pc Pt : Nat → Prop} {s s' t t' : CState} (h : Cl n Pc Pt s s')
    (e1 : t.qc = s.qc) (e2 : t'.qc = s'.qc) : Cl n Pc Pt t t' :=
  ⟨by rw [e1, e2]; exact h.ext, by rw [e1, e2]; exact h.comp, by rw [e1, e2]; exact h.mks,
   by rw [e1, e2]; exact h.anc, by rw [e1, e2]; exact h.kept⟩

/-- pending qubits of both parts are discharged against the final marks or stay pending -/
theorem Cl.trans {n : Nat} {Pc1 Pt1 Pc2 Pt2 Pc Pt : Nat → Prop} {s s1 s2 : CState}
    (h1 : Cl n Pc1 Pt1 s s1) (h2 : Cl n Pc2 Pt2 s1 s2)
    (c1 : ∀ q, Pc1 q → q < n ∨ q ∈ s2.qc.marked ∨ Pc q)
    (t1 : ∀ q, n ≤ q → Pt1 q → q ∈ s2.qc.marked ∨ Pt q)
    (c2 : ∀ q, Pc2 q → q < n ∨ q ∈ s2.qc.marked ∨ Pc q)
    (t2 : ∀ q, n ≤ q → Pt2 q → q ∈ s2.qc.marked ∨ Pt q) : Cl n Pc Pt s s2 := by
  obtain ⟨new1, e1, g1⟩ := h1.ext
  obtain ⟨new2, e2, g2⟩ := h2.ext
  refine ⟨⟨new1 ++ new2, by rw [e2, e1, List.append_assoc], ?_⟩, fun h => h2.comp (h1.comp h),
    fun m hm => h2.mks m (h1.mks m hm), fun m hm => h2.anc m (h1.anc m hm), h2.kept.trans h1.kept⟩
  intro g hg
  rcases List.mem_append.mp hg with hg | hg
  · obtain ⟨a, b, c⟩ := g1 g hg
    refine ⟨fun w hw => ?_, b, ?_⟩
    · rcases a w hw with h | h | h
      · exact Or.inl h
      · exact Or.inr (Or.inl (h2.mks _ h))
      · exact c1 _ h
    · rcases c with h | h
      · exact Or.inl (h2.mks _ h)
      · exact t1 _ b h
  · obtain ⟨a, b, c⟩ := g2 g hg
    refine ⟨fun w hw => ?_, b, ?_⟩
    · rcases a w hw with h | h | h
      · exact Or.inl h
      · exact Or.inr (Or.inl h)
      · exact c2 _ h
    · rcases c with h | h
      · exact Or.inl h
      · exact t2 _ b h

theorem Cl.mono {n : Nat} {Pc1 Pt1 Pc Pt : Nat → Prop} {s s1 : CState} (h1 : Cl n Pc1 Pt1 s s1)
    (c1 : ∀ q, Pc1 q → q < n ∨ q ∈ s1.qc.marked ∨ Pc q)
    (t1 : ∀ q, n ≤ q → Pt1 q → q ∈ s1.qc.marked ∨ Pt q) : Cl n Pc Pt s s1 :=
  Cl.trans h1 (Cl.refl (Pc := NoP) (Pt := NoP) s1) c1 t1 (fun _ h => h.elim) (fun _ _ h => h.elim)

theorem Emit.cl {n : Nat} {Pc Pt : Nat → Prop} {gs : List AGate} {s s' : CState} (h : Emit gs s s')
    (hs : ∀ g ∈ gs, (∀ c ∈ g.wires.dropLast, Pc c) ∧ n ≤ g.target ∧ Pt g.target) : Cl n Pc Pt s s' := by
  obtain ⟨new, c, a, b⟩ := h.gates
  refine ⟨⟨new, a, fun g hg => ?_⟩, fun e => ?_, fun m hm => by rw [h.marked]; exact hm,
    fun m hm => by rw [h.anc]; exact hm, h.kept⟩
  · obtain ⟨g0, h0, _, hw⟩ := mem_of_map_gcore c hg
    obtain ⟨x, y, z⟩ := hs g0 h0
    unfold GShape
    rw [← hw, ← target_of_wires hw]
    exact ⟨fun c hc => Or.inr (Or.inr (x c hc)), y, Or.inr z⟩
  · apply Array.toList_inj.mp
    rw [a, b, e]

theorem xGate_cl {n w : Nat} {u : Unit} {s s' : CState} (h : (xGate w).run s = .ok (u, s')) (ht : n ≤ w) :
    Cl n (· ∈ ([] : List Nat)) (· = w) s s' :=
  (xGate_emit h).cl (by simpa [AGate.target] using ht)

theorem cx_cl {n a b : Nat} {u : Unit} {s s' : CState} (h : (cx a b).run s = .ok (u, s')) (ht : n ≤ b) :
    Cl n (· ∈ [a]) (· = b) s s' :=
  (cx_emit h).cl (by simpa [AGate.target] using ht)

theorem markAll_cl {n : Nat} {Pc Pt : Nat → Prop} (ws : List Nat) {u : Unit} {s s' : CState}
    (h : (markAll ws).run s = .ok (u, s')) :
    Cl n Pc Pt s s' ∧ s'.qc.numQubits = s.qc.numQubits ∧ s'.qc.free = s.qc.free ∧
      (s.qc.kept = [] → ∀ w ∈ ws, w ∈ s.qc.anc → w ∈ s'.qc.marked) := by
  obtain ⟨M, rfl, hM⟩ := markAll_eff ws h
  exact ⟨Cl.quiet rfl rfl (fun m hm => (hM m).mpr (Or.inl hm)) (fun _ hm => hm) rfl, rfl, rfl,
    fun hk w hw ha => (hM w).mpr (Or.inr ⟨hw, ha, by rw [hk]; exact List.not_mem_nil⟩)⟩

theorem markAncilla_cl {n : Nat} {Pc Pt : Nat → Prop} {w : Nat} {u : Unit} {s s' : CState}
    (h : (markAncilla w).run s = .ok (u, s')) :
    Cl n Pc Pt s s' ∧ s'.qc.numQubits = s.qc.numQubits ∧ s'.qc.free = s.qc.free ∧
      (s.qc.kept = [] → w ∈ s.qc.anc → w ∈ s'.qc.marked) :=
  have ⟨c, hn, hf, hm⟩ := markAll_cl (n := n) (Pc := Pc) (Pt := Pt) [w] (markAll_single w ▸ h)
  ⟨c, hn, hf, fun hk => hm hk w List.mem_cons_self⟩

theorem getFreeAncilla_cl {n : Nat} {Pc Pt : Nat → Prop} {a : Nat} {s s' : CState}
    (h : getFreeAncilla.run s = .ok (a, s')) (hf : s.qc.free = []) :
    Cl n Pc Pt s s' ∧ a ∈ s'.qc.anc := by
  obtain ⟨_, _, _, _, _, rfl, ⟨_, rfl, rfl, rfl, rfl, rfl⟩ | ⟨hm, _⟩⟩ := getFreeAncilla_eff h
  · exact ⟨Cl.quiet rfl rfl (fun _ hm => hm) (fun m hm => mem_setIns_iff.mpr (Or.inl hm)) rfl,
      mem_setIns_iff.mpr (Or.inr rfl)⟩
  · rw [hf] at hm; cases hm

theorem destOr_cl {n : Nat} {Pc Pt : Nat → Prop} {dest : Option Nat} {d : Nat} {s s' : CState}
    (h : (destOr dest).run s = .ok (d, s')) (hf : s.qc.free = []) :
    Cl n Pc Pt s s' ∧ (dest = none → d ∈ s'.qc.anc) := by
  cases dest with
  | some d0 =>
    obtain ⟨rfl, rfl⟩ := run_pure_ok.mp h
    exact ⟨Cl.refl _, nofun⟩
  | none => exact (getFreeAncilla_cl h hf).imp id (fun h' _ => h')

theorem cacheResult_cl {dest : Option Nat} {e : BExp} {d a : Nat} {s s' : CState}
    (h : (cacheResult dest e d).run s = .ok (a, s')) : a = d ∧ s'.qc = s.qc := by
  unfold cacheResult at h
  split at h
  · obtain ⟨u, s1, hset, h1⟩ := run_bind_ok.mp h
    obtain ⟨rfl, rfl⟩ := run_pure_ok.mp h1
    exact ⟨rfl, (expqSet_run hset).1⟩
  · obtain ⟨rfl, rfl⟩ := run_pure_ok.mp h
    exact ⟨rfl, rfl⟩

theorem finishM_cl {n : Nat} {Pc Pt : Nat → Prop} {es : List Nat} {dest : Option Nat} {e : BExp} {d a : Nat}
    {s s' : CState} (h : (finishM es dest e d).run s = .ok (a, s')) (hk : s.qc.kept = []) :
    a = d ∧ Cl n Pc Pt s s' ∧ (∀ w ∈ es, w ∈ s.qc.anc → w ∈ s'.qc.marked) := by
  obtain ⟨u1, s1, hm, h1⟩ := run_bind_ok.mp h
  obtain ⟨clm, _, _, hmk⟩ := markAll_cl (n := n) (Pc := Pc) (Pt := Pt) es hm
  obtain ⟨rfl, e2⟩ := cacheResult_cl h1
  exact ⟨rfl, clm.of_qc rfl e2, fun w hw ha => by rw [e2]; exact hmk hk w hw ha⟩

def ExprCl (inputs : List String) (ρ : Env) (σ0 : FState) (r : String) (e : BExp) : Prop :=
  ∀ (dest : Option Nat) (sym : Option String) {a : Nat} {s s' : CState},
    (compileExpr e dest sym).run s = .ok (a, s') →
    Pre inputs ρ σ0 s → s.qc.kept = [] →
    (∀ p ∈ s.expq, ∀ c ∈ compSubs e, (p.1 == c) = false) →
    (∀ d, dest = some d → inputs.length ≤ d ∧ d < s.qc.numQubits) →
    (∀ x, sym = some x → x = r) →
    (isSym e = true → dest = none ∧ sym = none) →
    Cl inputs.length NoP (· = a) s s' ∧
    (dest = none → (a < inputs.length ∧ isSym e = true) ∨ a ∈ s'.qc.anc)

def ArgsCl (inputs : List String) (ρ : Env) (σ0 : FState) (_r : String) (as : List BExp) : Prop :=
  ∀ {rs : List Nat} {s s' : CState}, (compileArgs as).run s = .ok (rs, s') →
    Pre inputs ρ σ0 s → s.qc.kept = [] →
    (∀ p ∈ s.expq, ∀ c ∈ compSubsList as, (p.1 == c) = false) →
    Cl inputs.length NoP (· ∈ rs) s s' ∧ ∀ q ∈ rs, q < inputs.length ∨ q ∈ s'.qc.anc

def XorCl (inputs : List String) (ρ : Env) (σ0 : FState) (_r : String) (as : List BExp) : Prop :=
  ∀ (d : Nat) {a : Nat} {s s' : CState}, (compileXorArgs as d).run s = .ok (a, s') →
    Pre inputs ρ σ0 s → s.qc.kept = [] →
    (∀ p ∈ s.expq, ∀ c ∈ compSubsList as, (p.1 == c) = false) →
    inputs.length ≤ d → d < s.qc.numQubits →
    Cl inputs.length NoP (· = d) s s'

variable {inputs : List String} {ρ : Env} {σ0 : FState} {r : String}

theorem Cl.seq {n : Nat} {Pt : Nat → Prop} {s s1 s2 : CState} (h1 : Cl n NoP Pt s s1) (h2 : Cl n NoP Pt s1 s2) :
    Cl n NoP Pt s s2 :=
  Cl.trans h1 h2 (fun _ h => h.elim) (fun _ _ h => Or.inr h) (fun _ h => h.elim) (fun _ _ h => Or.inr h)

theorem exprCl_sym (n : String) (hin : n ∈ inputs) : ExprCl inputs ρ σ0 r (.sym n) := by
  intro dest sym a s s' h hp _ _ _ _ hsym
  obtain ⟨rfl, rfl⟩ := hsym rfl
  unfold compileExpr at h
  obtain ⟨rfl, hq⟩ := compileSymbol_none_run h
  obtain ⟨i, hi⟩ := idx_of_mem hin
  have := hp.bind i n hi
  rw [hq] at this
  cases this
  exact ⟨Cl.refl _, fun _ => Or.inl ⟨(mem_of_getElem?' hi).2, rfl⟩⟩

theorem notCopyM_cl (amb : Amb inputs σ0 r) {x : BExp} {eret : Nat} {dest : Option Nat} {a : Nat} {s s' : CState}
    (h : (notCopyM x eret dest).run s = .ok (a, s')) (hp : Pre inputs ρ σ0 s) (hk : s.qc.kept = [])
    (hd : ∀ d, dest = some d → inputs.length ≤ d ∧ d < s.qc.numQubits) :
    Cl inputs.length (fun q => q = eret ∧ eret ∉ s.qc.anc) (· = a) s s' ∧
      (eret ∈ s.qc.anc → eret ∈ s'.qc.marked) ∧ (dest = none → a ∈ s'.qc.anc) := by
  obtain ⟨d, s1, hdest, h1⟩ := run_bind_ok.mp h
  obtain ⟨_, _, _, hdge, _, _⟩ := destOr_sem (σ0 := σ0) (W := NoQ) (K := NoK) (Mk := NoQ) amb hdest hp hd
  obtain ⟨cld, hdanc⟩ := destOr_cl (n := inputs.length) (Pc := NoP) (Pt := NoP) hdest hp.free
  obtain ⟨u1, s2, hcx, h2⟩ := run_bind_ok.mp h1
  obtain ⟨u2, s3, hx, h3⟩ := run_bind_ok.mp h2
  obtain ⟨u3, s4, hmk, h4⟩ := run_bind_ok.mp h3
  have a1 := cx_cl (n := inputs.length) hcx hdge
  have a2 := xGate_cl (n := inputs.length) hx hdge
  obtain ⟨clm, _, _, m5'⟩ := markAncilla_cl (n := inputs.length) (Pc := NoP) (Pt := NoP) hmk
  obtain ⟨rfl, e4⟩ := cacheResult_cl h4
  have hk3 : s3.qc.kept = [] := (a2.kept.trans a1.kept).trans (cld.kept.trans hk)
  have hmk' : eret ∈ s.qc.anc → eret ∈ s'.qc.marked := fun ha => by
    rw [e4]; exact m5' hk3 (a2.anc _ (a1.anc _ (cld.anc _ ha)))
  have a3 : Cl inputs.length NoP NoP s3 s' := clm.of_qc rfl e4
  refine ⟨Cl.trans cld (Cl.trans (Cl.trans a1 a2 (Pc := (· ∈ [eret])) (Pt := (· = a))
      (fun q h => Or.inr (Or.inr h)) (fun q _ h => Or.inr h) (fun _ h => nomatch h) (fun q _ h => Or.inr h)) a3
      (Pc := (· ∈ [eret])) (Pt := (· = a)) (fun q h => Or.inr (Or.inr h)) (fun q _ h => Or.inr h)
      (fun _ h => h.elim) (fun _ _ h => h.elim))
    (fun _ h => h.elim) (fun _ _ h => h.elim) ?_ (fun q _ h => Or.inr h), hmk',
    fun hn => a3.anc _ (a2.anc _ (a1.anc _ (hdanc hn)))⟩
  intro q hq
  have hq' : q = eret := by simpa using hq
  subst hq'
  by_cases ha : q ∈ s.qc.anc
  · exact Or.inr (Or.inl (hmk' ha))
  · exact Or.inr (Or.inr ⟨rfl, ha⟩)

theorem exprCl_not (amb : Amb inputs σ0 r)
    {x : BExp} (hov : overInputs inputs x = true) (hdis : Distinct (compSubs x))
    (ih : ExprCl inputs ρ σ0 r x) : ExprCl inputs ρ σ0 r (.not x) := by
  intro dest sym a s s' h hp hk hcache hd hsym _
  rw [compileExpr_not] at h
  have h0 := cachedM_miss h (fun p hp' => hcache p hp' _ (by simp [compSubs]))
  dsimp only at h0
  rw [if_neg (not_isSelfNot amb hov hsym)] at h0
  obtain ⟨sh, s1, hsh, h2⟩ := run_bind_ok.mp h0
  obtain ⟨rfl, _⟩ := expqGet?_run hsh
  obtain ⟨eret, s2, he, h3⟩ := run_bind_ok.mp h2
  have hc1 : ∀ p ∈ s1.expq, ∀ c ∈ compSubs x, (p.1 == c) = false :=
    fun p hp' c hc => hcache p hp' c (by simp [compSubs, hc])
  obtain ⟨hp2, _, sem1, _, _⟩ := (exprSem (ρ := ρ) amb x hov hdis).arg amb he hp hc1
  obtain ⟨cl1, hres1⟩ := ih none none he hp hk hc1 nofun nofun (fun _ => ⟨rfl, rfl⟩)
  have hres := hres1 rfl
  have hk2 : s2.qc.kept = [] := cl1.kept.trans hk
  obtain ⟨qc, s3, hq, h4⟩ := run_bind_ok.mp h3
  obtain ⟨rfl, rfl⟩ := getQC_run hq
  split at h4
  · next hcond =>
    simp only [Bool.and_eq_true] at hcond
    have hdn : dest = none := by
      cases dest with
      | none => rfl
      | some d => simp at hcond
    subst hdn
    have hanc : eret ∈ s3.qc.anc := by simpa using hcond.1.2
    obtain ⟨u1, s4, hev, h5⟩ := run_bind_ok.mp h4
    obtain ⟨u2, s5, hx, h6⟩ := run_bind_ok.mp h5
    obtain ⟨u3, s6, hset, h7⟩ := run_bind_ok.mp h6
    obtain ⟨ha6, hs6⟩ := run_pure_ok.mp h7
    subst hs6; subst ha6
    have := event_run hev; subst this
    have clx := (xGate_cl (n := inputs.length) hx (hp2.sge.1 a hanc)).of_qc (t := s3) (t' := s') rfl
      (expqSet_run hset).1
    exact ⟨Cl.trans cl1 clx (fun _ h => h.elim) (fun q _ h => Or.inr h) (fun _ h => nomatch h)
      (fun q _ h => Or.inr h), fun _ => Or.inr (clx.anc a hanc)⟩
  · obtain ⟨clb, hmk, hda⟩ := notCopyM_cl amb h4 hp2 hk2
      (fun d hd' => ⟨(hd d hd').1, Nat.lt_of_lt_of_le (hd d hd').2 sem1.nq⟩)
    refine ⟨Cl.trans cl1 clb (fun _ h => h.elim) ?_ ?_ (fun q _ h => Or.inr h), fun hn => Or.inr (hda hn)⟩
    · intro q hq he
      subst he
      rcases hres with h | h
      · omega
      · exact Or.inl (hmk h)
    · rintro q ⟨rfl, hn⟩
      exact Or.inl (hres.elim (·.1) (fun h => absurd h hn))

theorem argsCl_nil : ArgsCl inputs ρ σ0 r [] := by
  intro rs s s' h _ _ _
  unfold compileArgs at h
  obtain ⟨rfl, rfl⟩ := run_pure_ok.mp h
  exact ⟨Cl.refl _, fun q hq => by cases hq⟩

theorem argsCl_cons (amb : Amb inputs σ0 r)
    {a : BExp} {as : List BExp} (hov : overInputs inputs a = true) (hda : Distinct (compSubs a))
    (iha : ExprCl inputs ρ σ0 r a) (ihs : ArgsCl inputs ρ σ0 r as)
    (hdis : ∀ x ∈ compSubs a, ∀ y ∈ compSubsList as, (x == y) = false) :
    ArgsCl inputs ρ σ0 r (a :: as) := by
  intro rs s s' h hp hk hcache
  unfold compileArgs at h
  obtain ⟨q1, s1, h1, h2⟩ := run_bind_ok.mp h
  obtain ⟨rs', s2, h3, h4⟩ := run_bind_ok.mp h2
  obtain ⟨rfl, rfl⟩ := run_pure_ok.mp h4
  have hc1 : ∀ p ∈ s.expq, ∀ c ∈ compSubs a, (p.1 == c) = false :=
    fun p hp' c hc => hcache p hp' c (by simp [compSubsList, hc])
  obtain ⟨hp1, _, sem1, _, _⟩ := (exprSem (ρ := ρ) amb a hov hda).arg amb h1 hp hc1
  obtain ⟨cl1, hres1⟩ := iha none none h1 hp hk hc1 nofun nofun (fun _ => ⟨rfl, rfl⟩)
  obtain ⟨cl2, hb⟩ := ihs h3 hp1 (cl1.kept.trans hk) (cache_next hcache sem1 (fun _ h => h) hdis)
  refine ⟨Cl.trans cl1 cl2 (fun _ h => h.elim) (fun q _ h => Or.inr (by rw [h]; exact List.mem_cons_self))
    (fun _ h => h.elim) (fun q _ h => Or.inr (List.mem_cons_of_mem _ h)), ?_⟩
  intro q hq
  rcases List.mem_cons.mp hq with rfl | hq
  · rcases hres1 rfl with h | h
    · exact Or.inl h.1
    · exact Or.inr (cl2.anc _ h)
  · exact hb q hq

theorem andOr_cl (amb : Amb inputs σ0 r)
    {args : List BExp} (hov : overInputsList inputs args = true) (hdis : Distinct (compSubsList args))
    (ih : ArgsCl inputs ρ σ0 r args) {dest : Option Nat} {e : BExp} {gates : Nat → List Nat → M Unit}
    {a : Nat} {s s' : CState}
    (hg : ∀ {d erets u t t1}, (gates d erets).run t = .ok (u, t1) → t.qc.free = [] → t.qc.kept = [] →
      inputs.length ≤ t.qc.numQubits → inputs.length ≤ d → Cl inputs.length (· ∈ argQubits erets d) (· = d) t t1)
    (h : StateT.run (do
      let erets ← compileArgs args
      let d ← destOr dest
      if erets.contains d then event "destAmongArgs"
      gates d erets
      finishM (argQubits erets d) dest e d) s = .ok (a, s'))
    (hp : Pre inputs ρ σ0 s) (hk : s.qc.kept = [])
    (hcache : ∀ p ∈ s.expq, ∀ c ∈ compSubsList args, (p.1 == c) = false)
    (hd : ∀ d, dest = some d → inputs.length ≤ d ∧ d < s.qc.numQubits) :
    Cl inputs.length NoP (· = a) s s' ∧ (dest = none → a ∈ s'.qc.anc) := by
  obtain ⟨erets, s1, d, t, hargs, hp1, hdest, hpt, hes, hdge, h1⟩ := andOr_head amb (argsSem (ρ := ρ) amb args hov hdis) h hp hcache hd
  obtain ⟨cl1, hb⟩ := ih hargs hp hk hcache
  obtain ⟨cld, hdanc⟩ := destOr_cl (n := inputs.length) (Pc := NoP) (Pt := NoP) hdest hp1.free
  obtain ⟨u, t1, hgates, h2⟩ := run_bind_ok.mp h1
  have hkt : t.qc.kept = [] := cld.kept.trans (cl1.kept.trans hk)
  have clg := hg hgates hpt.free hkt hpt.nin hdge
  obtain ⟨rfl, clf, hmk⟩ := finishM_cl (n := inputs.length) (Pc := NoP) (Pt := NoP) h2 (clg.kept.trans hkt)
  have hmark : ∀ q ∈ erets, q < inputs.length ∨ q ∈ s'.qc.marked := by
    intro q hq
    refine (hb q hq).imp id (fun h' => hmk q ?_ (clg.anc _ (cld.anc _ h')))
    rw [hes]; exact mem_sortDedup.mpr hq
  have c12 : Cl inputs.length NoP (· ∈ erets) s t := Cl.trans cl1 cld (fun _ h => h.elim) (fun q _ h => Or.inr h)
    (fun _ h => h.elim) (fun _ _ h => h.elim)
  have c3f : Cl inputs.length (· ∈ argQubits erets a) (· = a) t s' := Cl.trans clg clf
    (fun q h => Or.inr (Or.inr h)) (fun q _ h => Or.inr h) (fun _ h => h.elim) (fun _ _ h => h.elim)
  refine ⟨Cl.trans c12 c3f (fun _ h => h.elim) ?_ ?_ (fun q _ h => Or.inr h),
    fun hn => clf.anc _ (clg.anc _ (hdanc hn))⟩
  · intro q hq he
    rcases hmark q he with h' | h'
    · omega
    · exact Or.inl h'
  · intro q hq
    rw [hes] at hq
    rcases hmark q (mem_sortDedup.mp hq) with h' | h'
    · exact Or.inl h'
    · exact Or.inr (Or.inl h')

theorem exprCl_and (amb : Amb inputs σ0 r)
    {args : List BExp} (hov : overInputsList inputs args = true) (hdis : Distinct (compSubsList args))
    (ih : ArgsCl inputs ρ σ0 r args) : ExprCl inputs ρ σ0 r (.and args) := by
  intro dest sym a s s' h hp hk hcache hd hsym _
  rw [compileExpr_and] at h
  have h0 := cachedM_miss h (fun p hp' => hcache p hp' _ (by simp [compSubs]))
  exact (andOr_cl amb hov hdis ih (gates := fun d erets => mcx (argQubits erets d) d)
    (fun hm _ _ _ hd' => (mcx_emit hm).cl (by simpa [AGate.target] using hd')) h0 hp hk
    (fun p hp' c hc => hcache p hp' c (by simp [compSubs, hc])) hd).imp id (fun h' hn => Or.inr (h' hn))

theorem orGate_cl {n acc i d : Nat} {u : Unit} {s s' : CState}
    (h : StateT.run (do cx acc d; cx i d; mcx [acc, i] d : M Unit) s = .ok (u, s')) (hd : n ≤ d) :
    Cl n (fun q => q = acc ∨ q = i) (· = d) s s' ∧ s'.qc.free = s.qc.free ∧
      s'.qc.numQubits = s.qc.numQubits :=
  have e := orGate_emit h
  ⟨e.cl (by simp [orGates, AGate.target, hd]), e.free, e.nq⟩

/-- every control is `acc`, a later argument qubit or an intermediate result: a new ancilla, marked before its
gates are emitted -/
theorem orChain_cl {n dest : Nat} : ∀ (rest : List Nat) (acc : Nat) {u : Unit} {s s' : CState},
    (orChain dest acc rest).run s = .ok (u, s') → s.qc.free = [] → s.qc.kept = [] →
    n ≤ s.qc.numQubits → n ≤ dest →
    Cl n (fun q => q = acc ∨ q ∈ rest) (· = dest) s s'
  | [], acc, u, s, s', h, _, _, _, _ => by
    unfold orChain at h
    obtain ⟨_, rfl⟩ := run_pure_ok.mp h
    exact Cl.refl _
  | [i], acc, u, s, s', h, _, _, _, hd => by
    unfold orChain at h
    refine (orGate_cl h hd).1.mono (fun q hq => Or.inr (Or.inr ?_)) (fun q _ h => Or.inr h)
    rcases hq with h | h
    · exact Or.inl h
    · exact Or.inr (by simp [h])
  | i :: j :: rest, acc, u, s, s', h, hf, hk, hn, hd => by
    unfold orChain at h
    obtain ⟨d, s1, hfa, k1⟩ := run_bind_ok.mp h
    obtain ⟨hda, hn1, _, hff, _, _⟩ := getFreeAncilla_fresh hfa hf
    obtain ⟨clf, hdanc⟩ := getFreeAncilla_cl (n := n) (Pc := NoP) (Pt := NoP) hfa hf
    obtain ⟨u2, s2, hm, k2⟩ := run_bind_ok.mp k1
    obtain ⟨clm, mn, mf, m5⟩ := markAncilla_cl (n := n) (Pc := NoP) (Pt := NoP) hm
    have hk1 : s1.qc.kept = [] := clf.kept.trans hk
    have hdm : d ∈ s2.qc.marked := m5 hk1 hdanc
    have k2' : StateT.run (do
        (do cx acc d; cx i d; mcx [acc, i] d : M Unit)
        orChain dest d (j :: rest) : M Unit) s2 = .ok (u, s') := by
      simpa only [bind_assoc] using k2
    obtain ⟨u3, s3, hgate, k3⟩ := run_bind_ok.mp k2'
    have hdn : n ≤ d := by omega
    obtain ⟨clg, gf, gn⟩ := orGate_cl (n := n) hgate hdn
    have ih := orChain_cl (n := n) (j :: rest) d k3 (by rw [gf, mf]; exact hff)
      (clg.kept.trans (clm.kept.trans hk1)) (by rw [gn, mn, hn1]; omega) hd
    have hdm' : d ∈ s'.qc.marked := ih.mks _ (clg.mks _ hdm)
    have c02 : Cl n (fun q => q = acc ∨ q = i) (· = d) s s3 := Cl.trans (clf.seq clm) clg (fun _ h => h.elim)
      (fun _ _ h => h.elim) (fun q hq => Or.inr (Or.inr hq)) (fun q _ h => Or.inr h)
    refine Cl.trans c02 ih ?_ ?_ ?_ (fun q _ h => Or.inr h)
    · rintro q (h | h)
      · exact Or.inr (Or.inr (Or.inl h))
      · exact Or.inr (Or.inr (Or.inr (by simp [h])))
    · intro q _ h
      rw [h]; exact Or.inl hdm'
    · rintro q (h | h)
      · rw [h]; exact Or.inr (Or.inl hdm')
      · exact Or.inr (Or.inr (Or.inr (List.mem_cons_of_mem _ h)))

theorem orWide_cl {n d : Nat} {erets es : List Nat} {u : Unit} {s s' : CState}
    (h : (orWide d erets es).run s = .ok (u, s')) (hlen : 2 < es.length) (hf : s.qc.free = []) (hk : s.qc.kept = [])
    (hn : n ≤ s.qc.numQubits) (hd : n ≤ d) : Cl n (· ∈ es) (· = d) s s' := by
  obtain ⟨a, rest, _, hmem, h⟩ := orWide_run h hlen
  refine (orChain_cl (n := n) rest a h hf hk hn hd).mono (fun q hq => Or.inr (Or.inr ((hmem q).mp ?_)))
    (fun q _ h => Or.inr h)
  exact hq.elim (fun e => e ▸ List.mem_cons_self) (List.mem_cons_of_mem _)

theorem orGatesM_cl {n d : Nat} {erets es : List Nat} {u : Unit} {s s' : CState}
    (h : (orGatesM d erets es).run s = .ok (u, s')) (hf : s.qc.free = []) (hk : s.qc.kept = [])
    (hn : n ≤ s.qc.numQubits) (hd : n ≤ d) : Cl n (· ∈ es) (· = d) s s' := by
  unfold orGatesM at h
  rcases run_ite_ok.mp h with ⟨_, h⟩ | ⟨hlen, h⟩
  · refine (orSmall_emit h).cl fun g hg => ?_
    unfold orSmallGates at hg
    rcases List.mem_append.mp hg with hg | hg
    · obtain ⟨i, hi, rfl⟩ := List.mem_map.mp hg
      exact ⟨by simpa using hi, by simpa [AGate.target] using hd, by simp [AGate.target]⟩
    · split at hg
      · rw [List.mem_singleton.mp hg]
        exact ⟨by simp, by simpa [AGate.target] using hd, by simp [AGate.target]⟩
      · cases hg
  · exact orWide_cl h (by omega) hf hk hn hd

theorem exprCl_or (amb : Amb inputs σ0 r)
    {args : List BExp} (hov : overInputsList inputs args = true) (hdis : Distinct (compSubsList args))
    (ih : ArgsCl inputs ρ σ0 r args) : ExprCl inputs ρ σ0 r (.or args) := by
  intro dest sym a s s' h hp hk hcache hd hsym _
  rw [compileExpr_or] at h
  have h0 := cachedM_miss h (fun p hp' => hcache p hp' _ (by simp [compSubs]))
  exact (andOr_cl amb hov hdis ih (gates := fun d erets => orGatesM d (argList erets d) (argQubits erets d))
    (fun hm hf hk' hn hd' => orGatesM_cl hm hf hk' hn hd') h0 hp hk
    (fun p hp' c hc => hcache p hp' c (by simp [compSubs, hc])) hd).imp id (fun h' hn => Or.inr (h' hn))

theorem xorCl_nil : XorCl inputs ρ σ0 r [] := by
  intro d a s s' h _ _ _ _ _
  unfold compileXorArgs at h
  obtain ⟨rfl, rfl⟩ := run_pure_ok.mp h
  exact Cl.refl _

theorem xorStepM_cl (amb : Amb inputs σ0 r) {a : BExp} {as : List BExp} {d q : Nat} {s s' : CState}
    (hov : overInputs inputs a = true) (hda : Distinct (compSubs a))
    (iha : ExprCl inputs ρ σ0 r a) (ihs : XorCl inputs ρ σ0 r as) (hns : isSym a = false)
    (hdis : ∀ x ∈ compSubs a, ∀ y ∈ compSubsList as, (x == y) = false)
    (h : (xorStepM a as d).run s = .ok (q, s'))
    (hp : Pre inputs ρ σ0 s) (hk : s.qc.kept = [])
    (hcache : ∀ p ∈ s.expq, ∀ c ∈ compSubsList (a :: as), (p.1 == c) = false)
    (hd1 : inputs.length ≤ d) (hd2 : d < s.qc.numQubits) :
    Cl inputs.length NoP (· = d) s s' := by
  obtain ⟨d', s1, h1, h2⟩ := run_bind_ok.mp h
  have hc1 : ∀ p ∈ s.expq, ∀ c ∈ compSubs a, (p.1 == c) = false :=
    fun p hp' c hc => hcache p hp' c (by simp [compSubsList, hc])
  obtain ⟨rfl, hp1, sem1, _⟩ := (exprSem (ρ := ρ) amb a hov hda).acc amb hns h1 hp hc1 hd1 hd2
  obtain ⟨cl1, _⟩ := iha (some d') none h1 hp hk hc1 (by intro d0 h0; cases h0; exact ⟨hd1, hd2⟩) nofun
    (by rw [hns]; nofun)
  dsimp only at h2
  rw [if_neg (by simp)] at h2
  exact cl1.seq (ihs d' h2 hp1 (cl1.kept.trans hk) (cache_next hcache sem1 (fun _ h => h) hdis) hd1
    (Nat.lt_of_lt_of_le hd2 sem1.nq))

theorem xorNotStepM_cl (amb : Amb inputs σ0 r) {inner : BExp} {as : List BExp} {d q : Nat} {s s' : CState}
    (hov : overInputs inputs inner = true) (hda : Distinct (compSubs inner))
    (iha : ExprCl inputs ρ σ0 r inner) (ihs : XorCl inputs ρ σ0 r as) (hns : isSym inner = false)
    (hdis : ∀ x ∈ compSubs (.not inner), ∀ y ∈ compSubsList as, (x == y) = false)
    (h : (xorNotStepM inner as d).run s = .ok (q, s'))
    (hp : Pre inputs ρ σ0 s) (hk : s.qc.kept = [])
    (hcache : ∀ p ∈ s.expq, ∀ c ∈ compSubsList (.not inner :: as), (p.1 == c) = false)
    (hd1 : inputs.length ≤ d) (hd2 : d < s.qc.numQubits) :
    Cl inputs.length NoP (· = d) s s' := by
  obtain ⟨d', s1, h1, h2⟩ := run_bind_ok.mp h
  have hc1 : ∀ p ∈ s.expq, ∀ c ∈ compSubs inner, (p.1 == c) = false :=
    fun p hp' c hc => hcache p hp' c (by simp [compSubsList, compSubs, hc])
  obtain ⟨rfl, hp1, sem1, _⟩ := (exprSem (ρ := ρ) amb inner hov hda).acc amb hns h1 hp hc1 hd1 hd2
  obtain ⟨cl1, _⟩ := iha (some d') none h1 hp hk hc1 (by intro d0 h0; cases h0; exact ⟨hd1, hd2⟩) nofun
    (by rw [hns]; nofun)
  dsimp only at h2
  rw [if_neg (by simp)] at h2
  obtain ⟨u, s2, hx, h3⟩ := run_bind_ok.mp h2
  have semx : Sem σ0 (· = d') (· ∈ compSubs (BExp.not inner)) (fun m => s.qc.numQubits ≤ m) s1 s2 :=
    (xGate_run hx).sem rfl rfl
  have hp2 : Pre inputs ρ σ0 s2 := hp1.next amb
    (xGate_ok (B := (· = r)) hx hp1.good (Nat.lt_of_lt_of_le hd2 sem1.nq)) semx (fun q hq => hq ▸ hd1)
  have clx : Cl inputs.length NoP (· = d') s1 s2 :=
    (xGate_cl (n := inputs.length) hx hd1).mono (fun _ h => nomatch h) (fun _ _ h => Or.inr h)
  exact (cl1.seq clx).seq (ihs d' h3 hp2 (clx.kept.trans (cl1.kept.trans hk))
    (cache_next hcache ((sem1.mono (fun _ _ hq => hq) (fun c hc => by simp [compSubs, hc])
      (fun _ hm => hm)).trans semx) (fun _ h => h) hdis) hd1
    (Nat.lt_of_lt_of_le hd2 (Nat.le_trans sem1.nq semx.nq)))

theorem xorCl_cons (amb : Amb inputs σ0 r)
    {a : BExp} {as : List BExp} (hov : overInputs inputs a = true) (hda : Distinct (compSubs a))
    (iha : ExprCl inputs ρ σ0 r a) (ihi : ExprCl inputs ρ σ0 r (stripNot a))
    (ihs : XorCl inputs ρ σ0 r as)
    (hdis : ∀ x ∈ compSubs a, ∀ y ∈ compSubsList as, (x == y) = false) :
    XorCl inputs ρ σ0 r (a :: as) := by
  intro d q s s' h hp hk hcache hd1 hd2
  have hovi := overInputs_strip hov
  have hdai := distinct_strip hda
  rw [compileXorArgs_cons] at h
  split at h
  · next n =>
    obtain ⟨q0, s1, hl, h1⟩ := run_bind_ok.mp h
    obtain ⟨rfl, hq0, _⟩ := lookup_ok hl hp.good
    have hn : n ∈ inputs := by simpa [overInputs] using hov
    obtain ⟨i, hi⟩ := idx_of_mem hn
    have hb := hp.bind i n hi
    rw [hq0] at hb
    cases hb
    have hil := (mem_of_getElem?' hi).2
    rw [if_neg (by simp; omega)] at h1
    obtain ⟨u, s2, hcx, h2⟩ := run_bind_ok.mp h1
    have semc : Sem σ0 (· = d) (· ∈ compSubs (BExp.sym n)) (fun m => s1.qc.numQubits ≤ m) s1 s2 :=
      (cx_run hcx).sem rfl rfl
    have hp2 : Pre inputs ρ σ0 s2 := hp.next amb
      (cx_ok (B := (· = r)) hcx hp.good (Nat.lt_of_lt_of_le hil hp.nin) hd2) semc (fun q hq => hq ▸ hd1)
    have clc : Cl inputs.length NoP (· = d) s1 s2 :=
      (cx_cl (n := inputs.length) hcx hd1).mono
        (fun q hq => Or.inl (by rw [List.mem_singleton.mp hq]; exact hil)) (fun _ _ h => Or.inr h)
    exact clc.seq (ihs d h2 hp2 (clc.kept.trans hk) (cache_next hcache semc (fun _ h => h) hdis) hd1
      (Nat.lt_of_lt_of_le hd2 semc.nq))
  · next inner =>
    split at h
    · next hs =>
      cases inner <;> simp [isSym] at hs
      exact xorStepM_cl amb hov hda iha ihs rfl hdis h hp hk hcache hd1 hd2
    · next hs =>
      exact xorNotStepM_cl (inner := inner) amb hovi hdai ihi ihs (by simpa using hs) hdis h hp hk hcache hd1 hd2
  · next hsym hnot =>
    refine xorStepM_cl amb hov hda iha ihs ?_ hdis h hp hk hcache hd1 hd2
    cases a with
    | sym n => exact absurd rfl (hsym n)
    | _ => rfl

theorem exprCl_xor (amb : Amb inputs σ0 r)
    {args : List BExp} (hov : overInputsList inputs args = true) (hdis : Distinct (compSubsList args))
    (ih : XorCl inputs ρ σ0 r args) : ExprCl inputs ρ σ0 r (.xor args) := by
  intro dest sym a s s' h hp hk hcache hd hsym _
  rw [compileExpr_xor] at h
  have h0 := cachedM_miss h (fun p hp' => hcache p hp' _ (by simp [compSubs]))
  obtain ⟨d, s1, hdest, h1⟩ := run_bind_ok.mp h0
  obtain ⟨hp1, sem0, _, hdge, hdlt, _⟩ := destOr_sem (σ0 := σ0) (W := NoQ) (K := NoK) (Mk := NoQ) amb hdest hp hd
  obtain ⟨cld, hdanc⟩ := destOr_cl (n := inputs.length) (Pc := NoP) (Pt := (· = d)) hdest hp.free
  obtain ⟨d', s2, hx, h2⟩ := run_bind_ok.mp h1
  have hsub : ∀ p ∈ s1.expq, ∀ c ∈ compSubsList args, (p.1 == c) = false := by
    intro p hp' c hc
    rcases sem0.keys p hp' with ⟨p0, hp0, e0⟩ | hk'
    · rw [← e0]; exact hcache p0 hp0 c (by simp [compSubs, hc])
    · exact hk'.elim
  obtain ⟨rfl, _, _⟩ := xorSem (ρ := ρ) amb args hov hdis d hx hp1 hsub hdge hdlt
  have cl1 := ih d' hx hp1 (cld.kept.trans hk) hsub hdge hdlt
  obtain ⟨rfl, e2⟩ := cacheResult_cl h2
  have cl1' := cl1.of_qc (t := s1) (t' := s') rfl e2
  exact ⟨cld.seq cl1', fun hn => Or.inr (cl1'.anc _ (hdanc hn))⟩

theorem compileCl (amb : Amb inputs σ0 r) :
    (∀ e, overInputs inputs e = true → Distinct (compSubs e) → ExprCl inputs ρ σ0 r e) ∧
    (∀ as, overInputsList inputs as = true → Distinct (compSubsList as) → ArgsCl inputs ρ σ0 r as) ∧
    (∀ as, overInputsList inputs as = true → Distinct (compSubsList as) → XorCl inputs ρ σ0 r as) :=
  frag_induction exprCl_sym (fun _ => exprCl_not amb) (fun _ => exprCl_and amb) (fun _ => exprCl_or amb)
    (fun _ => exprCl_xor amb) (argsCl_nil (r := r))
    (fun _ _ hov hd hx iha ihs => argsCl_cons amb hov hd iha ihs hx) (xorCl_nil (r := r))
    (fun _ _ hov hd hx iha ihi ihs => xorCl_cons amb hov hd iha ihi ihs hx)

theorem exprCl (amb : Amb inputs σ0 r) :
    ∀ e : BExp, overInputs inputs e = true → Distinct (compSubs e) → ExprCl inputs ρ σ0 r e :=
  (compileCl amb).1
theorem argsCl {inputs : List String} {ρ : Env} {σ0 : FState} {r : String} (amb : Amb inputs σ0 r) :
    ∀ as : List BExp, overInputsList inputs as = true → Distinct (compSubsList as) →
      ArgsCl inputs ρ σ0 r as :=
  (compileCl amb).2.1
theorem xorCl {inputs : List String} {ρ : Env} {σ0 : FState} {r : String} (amb : Amb inputs σ0 r) :
    ∀ as : List BExp, overInputsList inputs as = true → Distinct (compSubsList as) →
      XorCl inputs ρ σ0 r as :=
  (compileCl amb).2.2

theorem removeIdentities_free {u : Unit} {s s' : CState} (h : removeIdentities.run s = .ok (u, s')) :
    s'.qc.free = s.qc.free := by
  rw [removeIdentities_eff h]

/-- the tail of `compile` (`remove_identities`, then `uncompute_all(keep)`, `keep` = the qubits of the requested
return bits) from the state `s2` the statement loop ends in: the final circuit acts like the gates of `s2` followed,
in reverse, by those whose target is neither kept nor free -/
theorem compile_tail_clean {x : List Bool} {rets : List String} {s2 s3 s : CState} (hgs : Good s) (hg2 : Good s2)
    (hrem : removeIdentities.run s2 = .ok ((), s3))
    (hfin : (finalUncomputeM (some rets) true).run s3 = .ok ((), s)) (hlen : x.length ≤ s2.qc.numQubits) :
    s.qc.qmap = s2.qc.qmap ∧ s.qc.numQubits = s2.qc.numQubits ∧
    (∀ g ∈ s.qc.gates.toList, ∃ g' ∈ s2.qc.gates.toList, g'.cls = g.cls ∧ g'.wires = g.wires) ∧
    ∀ q, (runClassical s.qc.gates.toList (initState x s.qc.numQubits)).getD q false =
      runF ((s2.qc.gates.toList.filter (replayP (rets.filterMap (dictGet? s2.qc.qmap)) s2.qc.free)).reverse)
        (cur (toF (initState x s.qc.numQubits)) s2) q := by
  obtain ⟨hG', hq3, hn3⟩ := removeIdentities_run hrem
  have hf3 := removeIdentities_free hrem
  rw [finalUncomputeM, if_pos rfl] at hfin
  obtain ⟨qc, s4, hqq, h5⟩ := run_bind_ok.mp hfin
  obtain ⟨rfl, rfl⟩ := getQC_run hqq
  obtain ⟨extra, e1, e2, e3, e4⟩ := uncomputeAll_exact h5
  refine ⟨e3.trans hq3, e4.trans hn3, fun g hg => ?_, fun q => ?_⟩
  · rw [e1] at hg
    rcases List.mem_append.mp hg with hg | hg
    · exact ⟨g, mem_removeIdentitiesList (hG' ▸ hg), rfl, rfl⟩
    · obtain ⟨g', hg', a, b⟩ := mem_of_map_gcore e2 hg
      exact ⟨g', mem_removeIdentitiesList (hG' ▸ (List.mem_filter.mp (List.mem_reverse.mp hg')).1), a, b⟩
  · rw [compile_end_runF hgs hg2 (by rw [e1, hG']) (e4.trans hn3) hlen, runF_gcore e2, hG', hq3, hf3,
      removeIdentities_filter_rev _ _ (good_gatesInv hg2)]

theorem topExpr_cl (amb : Amb inputs σ0 r) {e : BExp} (hov : overInputs inputs e = true) (htl : treeLike e = true)
    {iret : Nat} {s t : CState}
    (h : (compileExpr e none (some r)).run s = .ok (iret, t)) (hp : Pre inputs ρ σ0 s)
    (hk : s.qc.kept = []) (hex : s.expq = []) (hinp : s.inputs = inputs) :
    Cl inputs.length NoP (· = iret) s t ∧
      ((isSym e = false ∨ r.startsWith "_ret" = true) → inputs.length ≤ iret) ∧ t.qc.free = [] := by
  cases hs : isSym e with
  | true =>
    cases e with
    | sym n =>
      have hn : n ∈ inputs := by simpa [overInputs] using hov
      obtain ⟨i, hi⟩ := idx_of_mem hn
      have hbi := hp.bind i n hi
      have hil := (mem_of_getElem?' hi).2
      unfold compileExpr at h
      rcases compileSymbol_run h with ⟨rfl, hq, hno⟩ | ⟨sy, q, s1, e, _, hadd, hcx, hq⟩
      · refine ⟨Cl.refl _, fun hc => ?_, hp.free⟩
        have hret : r.startsWith "_ret" = true := hc.resolve_left (by simp)
        have := (hno r rfl hret).1
        rw [hinp] at this
        exact absurd hn (by simpa using this)
      · cases e
        obtain ⟨ha0, hs1⟩ := addQubit_run hadd
        rw [hbi] at hq
        cases hq
        have hge : inputs.length ≤ iret := by rw [ha0]; exact hp.nin
        have cla : Cl inputs.length NoP NoP s s1 := by
          rw [hs1]; exact Cl.quiet rfl rfl (fun _ h => h) (fun _ h => h) rfl
        refine ⟨Cl.trans cla (cx_cl (n := inputs.length) hcx hge) (fun _ h => h.elim) (fun _ _ h => h.elim)
          (fun c hc => Or.inl (by rw [List.mem_singleton.mp hc]; exact hil)) (fun q _ h => Or.inr h), fun _ => hge,
          by rw [(cx_run hcx).free, hs1]; exact hp.free⟩
    | _ => simp [isSym] at hs
  | false =>
    have hdis := distinctB_iff.mp htl
    have hc0 : ∀ p ∈ s.expq, ∀ c ∈ compSubs e, (p.1 == c) = false := by
      intro p hp'; rw [hex] at hp'; cases hp'
    have hss : isSym e = true → (none : Option Nat) = none ∧ some r = none := by
      intro hs'; rw [hs] at hs'; cases hs'
    obtain ⟨hpt, _⟩ := (exprSem (ρ := ρ) amb e hov hdis).pre amb h hp hc0 nofun
      (by intro y hy; cases hy; rfl) hss
    obtain ⟨cl, hres⟩ := exprCl (ρ := ρ) amb e hov hdis none (some r) h hp hk hc0 (by intro d hd; cases hd)
      (by intro y hy; cases hy; rfl) hss
    refine ⟨cl, fun _ => ?_, hpt.free⟩
    rcases hres rfl with h' | h'
    · rw [hs] at h'; cases h'.2
    · exact hpt.sge.1 _ h'

/-- the inline `uncompute` as a Bennett replay: `G` the computed gates, `M` the marked qubits, `a` the result
qubit, `U` the replayed gates (up to gate identity the reversed gates of `G` whose target is marked) -/
theorem replay_clean (n : Nat) (M : List Nat) (a : Nat) (G U : List AGate) (σ : BState)
    (hgood : ∀ g ∈ G, GateOK σ.length g) (hs : ∀ g ∈ G, GShape n M NoP (· = a) g)
    (hU : U.map gcore = (G.reverse.filter (fun g => M.contains g.target)).map gcore) :
    ∀ q, q ≠ a → runF (G ++ U) (toF σ) q = toF σ q := by
  intro q hqa
  have hc : ∀ g ∈ G, ∀ c ∈ g.wires.dropLast, c < n ∨ c ∈ M := fun g hg c hcc =>
    ((hs g hg).1 c hcc).imp id (·.resolve_right id)
  have ht : ∀ g ∈ G, n ≤ g.target ∧ (g.target ∈ M ∨ g.target = a) := fun g hg => (hs g hg).2
  have hlast : ∀ g ∈ G, g.wires.getLast? = some g.target := fun g hg => getLast_of_target (hgood g hg).wires_ne_nil
  have hctl := ctlOK_of_static M G (toF σ) (fun g hg c hcc => (hc g hg c hcc).symm.imp (by simp)
    (fun hlt g' hg' e => by
      rw [hlast g' hg', Option.some.injEq] at e
      have := (ht g' hg').1
      omega))
  obtain ⟨bM, bN⟩ := bennettF M _ G (toF σ)
    (fun g hg => ⟨(hgood g hg).1, (hgood g hg).nodup, (hgood g hg).wires_ne_nil⟩) hctl rfl
  have hU' : U.map gcore = (rep M G).map gcore := by rw [rep, ← List.filter_reverse]; exact hU
  rw [runF_append, runF_gcore hU']
  cases hq : M.contains q with
  | true => exact bM q hq
  | false =>
    rw [bN q hq]
    refine runF_of_target_ne G q (fun g hg e => ?_) _
    rcases (ht g hg).2 with h | h
    · rw [e] at h; simp [h] at hq
    · exact hqa (e ▸ h)

/-- one definition `r = e` of the fragment, `uncompute = true`, `r` requested: on every input every qubit other
than the one mapped to `r` is back to its initial value; that qubit is an argument qubit only if `e` is a bare
symbol aliased under a non-return name; unless it is an argument qubit it is never a control -/
theorem compile_single_clean {inputs : List String} {r : String} {e : BExp} {rets : List String}
    {unc : Bool} {cs : List Nat} {s : CState}
    (h : (compile inputs [(r, e)] (some rets) unc).run { choices := cs } = .ok ((), s))
    (hunc : unc = true) (hr : r ∈ rets)
    (hnd : inputs.Nodup) (hfresh : ∀ n ∈ inputs, n ≠ r ∧ reservedName n = false)
    (hov : overInputs inputs e = true) (htl : treeLike e = true)
    (x : List Bool) (hx : x.length = inputs.length) :
    ∃ q, dictGet? s.qc.qmap r = some q ∧
      (∀ p, p ≠ q →
        (runClassical s.qc.gates.toList (initState x s.qc.numQubits)).getD p false =
          (initState x s.qc.numQubits).getD p false) ∧
      ((isSym e = false ∨ r.startsWith "_ret" = true) → inputs.length ≤ q) ∧
      (inputs.length ≤ q → retNeverControl s.qc.gates.toList q = true) ∧
      (∀ g ∈ s.qc.gates.toList, inputs.length ≤ g.target) := by
  obtain ⟨t1, t3, s2, s3, iret, R⟩ := compile_single_run h hnd hfresh x hx
  subst hunc
  have hg2 := R.good2
  obtain ⟨f3, hN, hfinal, hval⟩ := compile_tail_clean (x := x) R.good hg2 R.remove R.final (by rw [hx]; exact R.nin2)
  let σ : BState := initState x s.qc.numQubits
  -- the defined name is a requested return bit: ancillas are released inline
  have hend := R.stmtEnd
  rw [inlineUncompute_some, List.contains_iff_mem.mpr hr] at hend
  obtain ⟨uncl, t4, hunr, hrm⟩ := run_bind_ok.mp hend
  obtain ⟨_, hnm⟩ := topExpr_sem R.amb hov htl R.expr R.pre rfl rfl rfl
  obtain ⟨cl0, hge, _⟩ := topExpr_cl R.amb hov htl R.expr R.pre rfl rfl rfl
  have hkey := R.key3
  obtain ⟨ex, qm, an, rfl⟩ := R.frame3
  obtain ⟨_, _, _, e3, _⟩ := uncompute_gates hunr
  obtain ⟨U, x1, x2, x3⟩ := uncompute_exact hunr
  have hqc5 := expqRemove_run hrm
  obtain ⟨new, en, hG⟩ := cl0.ext
  rw [show (entry cs inputs).qc.gates.toList ++ new = new from List.nil_append new] at en
  rw [← en] at hG
  have hcomp : t1.qc.gatesComputed = t1.qc.gates := cl0.comp rfl
  change _ = (t1.qc.gatesComputed.toList.reverse.filter _).map gcore at x2
  rw [hcomp] at x2
  have hs2g : s2.qc.gates.toList = t1.qc.gates.toList ++ U := by rw [hqc5, x1]
  have hkey2 : dictGet? s2.qc.qmap r = some iret := by rw [hqc5, e3]; exact hkey
  have hwires2 : ∀ g ∈ s2.qc.gates.toList, ∃ g' ∈ t1.qc.gates.toList, g'.wires = g.wires := by
    intro g hg
    rw [hs2g] at hg
    rcases List.mem_append.mp hg with hg | hg
    · exact ⟨g, hg, rfl⟩
    · obtain ⟨g', hg', _, ew⟩ := mem_of_map_gcore x2 hg
      exact ⟨g', List.mem_reverse.mp (List.mem_filter.mp hg').1, ew⟩
  have hwires : ∀ g ∈ s.qc.gates.toList, ∃ g' ∈ t1.qc.gates.toList, g'.wires = g.wires := by
    intro g hg
    obtain ⟨g2, hg2', _, ew2⟩ := hfinal g hg
    obtain ⟨g', hg', ew⟩ := hwires2 g2 hg2'
    exact ⟨g', hg', ew.trans ew2⟩
  -- `uncompute_all` replays nothing: every target is a released ancilla or the result qubit
  have hnone : s2.qc.gates.toList.filter (replayP (rets.filterMap (dictGet? s2.qc.qmap)) s2.qc.free) = [] := by
    apply List.filter_eq_nil_iff.mpr
    intro g hg
    obtain ⟨g', hg', ew⟩ := hwires2 g hg
    rw [replayP, ← target_of_wires ew]
    rcases (hG g' hg').2.2 with ht | ht
    · have : g'.target ∈ s2.qc.free := by rw [hqc5]; exact x3 _ ht
      simp [this]
    · have : iret ∈ rets.filterMap (dictGet? s2.qc.qmap) := List.mem_filterMap.mpr ⟨r, hr, hkey2⟩
      simp [ht, this]
  refine ⟨iret, by rw [f3]; exact hkey2, fun p hp => ?_, hge, fun hq => ?_, fun g hg => ?_⟩
  · rw [hval p, hnone]
    show runF s2.qc.gates.toList (toF σ) p = toF σ p
    have hlen : σ.length = s2.qc.numQubits := by
      rw [← hN]; exact initState_length x _ (by rw [hN, hx]; exact R.nin2)
    rw [hs2g]
    exact replay_clean inputs.length t1.qc.marked iret t1.qc.gates.toList U σ (fun g hg => by
      rw [hlen]
      exact hg2.gates_ok g (by rw [hs2g]; exact List.mem_append_left _ hg)) hG x2 p hp
  · unfold retNeverControl
    rw [List.all_eq_true]
    intro g hg
    obtain ⟨g', hg', ew⟩ := hwires g hg
    have : iret ∉ g.wires.dropLast := by
      rw [← ew]
      intro hc
      rcases (hG g' hg').1 iret hc with h' | h' | h'
      · omega
      · exact hnm h'
      · exact h'.elim
    simp [this]
  · obtain ⟨g', hg', ew⟩ := hwires g hg
    rw [← target_of_wires ew]; exact (hG g' hg').2.1

/-- no return name requested: the statement ends with `keep_ancillas` (nothing is released) and the final
`uncompute_all([])` replays every gate in reverse -/
theorem compile_single_norets {inputs : List String} {r : String} {e : BExp}
    {unc : Bool} {cs : List Nat} {s : CState}
    (h : (compile inputs [(r, e)] (some []) unc).run { choices := cs } = .ok ((), s))
    (hunc : unc = true)
    (hnd : inputs.Nodup) (hfresh : ∀ n ∈ inputs, n ≠ r ∧ reservedName n = false)
    (hov : overInputs inputs e = true) (htl : treeLike e = true)
    (x : List Bool) (hx : x.length = inputs.length) :
    ∀ p, (runClassical s.qc.gates.toList (initState x s.qc.numQubits)).getD p false =
      (initState x s.qc.numQubits).getD p false := by
  obtain ⟨t1, t3, s2, s3, iret, R⟩ := compile_single_run h hnd hfresh x hx
  subst hunc
  obtain ⟨_, _, _, hval⟩ := compile_tail_clean (x := x) R.good R.good2 R.remove R.final (by rw [hx]; exact R.nin2)
  have hend : keepAncillas.run t3 = .ok ((), s2) := by
    have := R.stmtEnd
    rwa [inlineUncompute_some] at this
  have hs2 := modQC_run hend
  obtain ⟨_, _, hfree1⟩ := topExpr_cl R.amb hov htl R.expr R.pre rfl rfl rfl
  obtain ⟨ex, qm, an, rfl⟩ := R.frame3
  have hfree : s2.qc.free = [] := by rw [hs2]; exact hfree1
  intro p
  rw [hval p, hfree, List.filter_eq_self.mpr (fun g hg => by
    simp [replayP, GClass.not_isNop_of_isMCXLike (R.good2.gates_ok g hg).1])]
  exact congrFun (runF_reverse_undo _ (good_gatesInv R.good2) _) p

end QV.Compiler
