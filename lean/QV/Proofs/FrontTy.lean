import QV.Model.Front
namespace QV.Sem
open QV.Front

mutual
theorem Ty.beq_refl : ∀ t : Ty, Ty.beq t t = true
  | .bool => rfl
  | .qint w => by simp [Ty.beq]
  | .qchar => rfl
  | .tuple ts => by rw [Ty.beq]; exact Ty.beqList_refl ts
theorem Ty.beqList_refl : ∀ ts : List Ty, Ty.beqList ts ts = true
  | [] => rfl
  | t :: ts => by rw [Ty.beqList, Ty.beq_refl t, Ty.beqList_refl ts]; rfl
end

mutual
theorem Ty.eq_of_beq : ∀ a b : Ty, Ty.beq a b = true → a = b
  | .bool, b, h => by cases b <;> first | rfl | simp [Ty.beq] at h
  | .qint x, b, h => by cases b <;> first | (simp only [Ty.beq, beq_iff_eq] at h; rw [h]) | simp [Ty.beq] at h
  | .qchar, b, h => by cases b <;> first | rfl | simp [Ty.beq] at h
  | .tuple xs, b, h => by
    cases b with
    | tuple ys => rw [Ty.beq] at h; rw [Ty.eq_of_beqList xs ys h]
    | _ => simp [Ty.beq] at h
theorem Ty.eq_of_beqList : ∀ a b : List Ty, Ty.beqList a b = true → a = b
  | [], [], _ => rfl
  | x :: xs, y :: ys, h => by
    simp only [Ty.beqList, Bool.and_eq_true] at h
    rw [Ty.eq_of_beq x y h.1, Ty.eq_of_beqList xs ys h.2]
  | [], _ :: _, h => by simp [Ty.beqList] at h
  | _ :: _, [], h => by simp [Ty.beqList] at h
end

theorem Ty.beq_iff (a b : Ty) : (a == b) = true ↔ a = b :=
  ⟨Ty.eq_of_beq a b, fun h => h ▸ Ty.beq_refl a⟩

theorem Ty.bne_iff (a b : Ty) : (a != b) = true ↔ a ≠ b := by
  rw [bne, Bool.not_eq_true', ← Bool.not_eq_true, Ty.beq_iff]

theorem Ty.beqList_iff (a b : List Ty) : Ty.beqList a b = true ↔ a = b :=
  ⟨Ty.eq_of_beqList a b, fun h => h ▸ Ty.beqList_refl a⟩

/-- the symbol of bit `i` of the variable `t` (`decompose_to_symbols`, `translate_argument`) -/
def bitName (t : String) (i : Nat) : String := s!"{t}.{i}"

theorem names_qint (m : String) (w : Nat) : Ty.names m (.qint w) = (List.range w).map (bitName m) := by
  simp only [Ty.names]
  rfl

theorem names_bool (base : String) : Ty.names base .bool = [base] := by simp [Ty.names]

theorem names_qchar (m : String) : Ty.names m .qchar = (List.range 8).map (bitName m) := by
  simp only [Ty.names]
  rfl

theorem namesList_cons (base : String) (i : Nat) (t : Ty) (ts : List Ty) :
    Ty.namesList base i (t :: ts) = Ty.names (bitName base i) t ++ Ty.namesList base (i + 1) ts := by
  simp only [Ty.namesList]
  rfl

mutual
theorem names_length : ∀ (t : Ty) (base : String), (Ty.names base t).length = t.bits
  | .bool, base => by simp [Ty.names, Ty.bits]
  | .qint w, base => by simp [Ty.names, Ty.bits]
  | .qchar, base => by simp [Ty.names, Ty.bits]
  | .tuple ts, base => by rw [Ty.names, Ty.bits]; exact namesList_length ts base 0
theorem namesList_length : ∀ (ts : List Ty) (base : String) (i : Nat),
    (Ty.namesList base i ts).length = Ty.bitsList ts
  | [], base, i => by simp [Ty.namesList, Ty.bitsList]
  | t :: ts, base, i => by
    rw [namesList_cons, List.length_append, names_length t, namesList_length ts, Ty.bitsList]
end

end QV.Sem
