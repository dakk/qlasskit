import QV.Proofs.A2ASrcSem
import QV.Proofs.StateExcept
/-! The guard wrappers from the model down to values: the monadic `guardBody` / `guardElse` of the model are, under `KnownOK`,
the maps `sBody` / `sElse` on `SStmt` (`guardBody_ok`, `QV/Proofs/A2AVisitors.lean`), whose translation is `fBody` / `fElse`
here (`toStmt_sBody`); `wrapF Γ` iterates these over the stack `Γ` of guard variables and makes `t = wrapE Γ (oldOf t) e` of
`t = e` (`wrapF_assign`); under the values `gs` the environment gives the variables of `Γ` (`guardVals`), `wrapE` evaluates
to what `exec` stores under the guard stack `gs`, `wrapW` (`semW_wrapE`). -/
namespace QV.A2A
open QV.Front QV.Sem

theorem rm_liftX_ok {α} (x : X α) (s : RSt) (a : α) (s1 : RSt) :
    ((liftX x).run s = .ok (a, s1)) ↔ x = .ok a ∧ s1 = s := by
  cases x <;> simp [liftX, StateT.run, eq_comm]

theorem rm_visitM_ok (e : SExp) (s : RSt) (a : SExp) (s1 : RSt) :
    ((visitM e).run s = .ok (a, s1)) ↔ visitE s e = .ok a ∧ s1 = s := by
  unfold visitM
  cases h : visitE s e <;> simp [StateT.run, h, eq_comm]

theorem rm_visitMs_ok (es : List SExp) (s : RSt) (a : List SExp) (s1 : RSt) :
    ((visitMs es).run s = .ok (a, s1)) ↔ visitEs s es = .ok a ∧ s1 = s := by
  unfold visitMs
  cases h : visitEs s es <;> simp [StateT.run, h, eq_comm]

theorem x_bind_ok {α β} (x : X α) (f : α → X β) (r : β) :
    (x >>= f) = .ok r ↔ ∃ a, x = .ok a ∧ f a = .ok r := SE.bind_ok x f r

theorem x_pure_ok {α} (a b : α) : (pure a : X α) = .ok b ↔ b = a := SE.pure_ok a b

theorem x_throw_ok {α} (e : Err) (r : α) : ((throw e : X α) = .ok r) ↔ False := SE.throw_ok e r

/-- same counter and same `Environment` (the log of exercised rules may differ) -/
def SameCore (s s' : RSt) : Prop := s'.uniq = s.uniq ∧ s'.types = s.types ∧ s'.consts = s.consts

theorem SameCore.rfl' (s : RSt) : SameCore s s := ⟨rfl, rfl, rfl⟩

theorem SameCore.known {s s' : RSt} (h : SameCore s s') : s'.known = s.known := by
  funext n; simp [RSt.known, h.2.1, h.2.2]

theorem note_core (m : String) (s : RSt) (u : Unit) (s1 : RSt) (h : (note m).run s = .ok (u, s1)) :
    SameCore s s1 := by
  unfold note at h
  rw [SE.run_modify_ok] at h
  subst h
  split <;> exact ⟨rfl, rfl, rfl⟩

theorem notes_core (l : List String) (s : RSt) (u : Unit) (s1 : RSt) (h : (notes l).run s = .ok (u, s1)) :
    SameCore s s1 := by
  unfold notes at h
  rw [SE.run_modify_ok] at h
  subst h
  exact ⟨rfl, rfl, rfl⟩

/-- the `Environment` knows no `__` name: `visit_If` takes a `__x` it does not know for the temporary of `x` -/
def KnownOK (st : RSt) : Prop := ∀ n, st.known n = true → isDunder n = false

/-- what a step of the rewriter does to its state, as far as the simulation can tell: the counter behind the guard
names does not go back, and the environment has learnt no `__` name -/
structure Ext (s s' : RSt) : Prop where
  le : s.uniq ≤ s'.uniq
  known : KnownOK s → KnownOK s'

theorem Ext.refl (s : RSt) : Ext s s := ⟨Nat.le_refl _, id⟩

theorem Ext.trans {a b c : RSt} (h1 : Ext a b) (h2 : Ext b c) : Ext a c :=
  ⟨Nat.le_trans h1.le h2.le, h2.known ∘ h1.known⟩

theorem SameCore.ext {s s' : RSt} (h : SameCore s s') : Ext s s' :=
  ⟨Nat.le_of_eq h.1.symm, fun hk n hn => hk n (by rwa [h.known] at hn)⟩

def iftargName (k : Nat) : String := "_iftarg" ++ hexDigits k

theorem toList_dunder (t : String) : ("__" ++ t).toList = '_' :: '_' :: t.toList := by
  simp [String.toList_append]

theorem isDunder_dunder (t : String) : isDunder ("__" ++ t) = true := by
  simp [isDunder, List.isPrefixOf]

theorem isIfTarg_dunder (t : String) : isIfTarg ("__" ++ t) = false := by
  simp [isIfTarg, List.isPrefixOf]

theorem dropDunder_dunder (t : String) : dropDunder ("__" ++ t) = t := by
  simp [dropDunder]

theorem toList_iftarg (k : Nat) :
    (iftargName k).toList = '_' :: 'i' :: 'f' :: 't' :: 'a' :: 'r' :: 'g' :: Nat.toDigits 16 k := by
  simp [iftargName, hexDigits, String.toList_append]

theorem isIfTarg_iftarg (k : Nat) : isIfTarg (iftargName k) = true := by
  simp [isIfTarg, toList_iftarg, List.isPrefixOf]

theorem isDunder_iftarg (k : Nat) : isDunder (iftargName k) = false := by
  simp [isDunder, toList_iftarg, List.isPrefixOf]

theorem userName_not_iftarg {n : String} (h : userName n = true) : isIfTarg n = false := by
  simp only [userName, Bool.and_eq_true, Bool.not_eq_true'] at h; exact h.2

theorem userName_not_dunder {n : String} (h : userName n = true) : isDunder n = false := by
  simp only [userName, Bool.and_eq_true, Bool.not_eq_true'] at h; exact h.1

def hexVal (c : Char) : Nat := if c.toNat ≥ 97 then c.toNat - 87 else c.toNat - 48

theorem hexVal_digitChar : ∀ a : Fin 16, hexVal (Nat.digitChar a.val) = a.val := by decide

theorem digitChar_inj16 (a b : Nat) (ha : a < 16) (hb : b < 16) (h : Nat.digitChar a = Nat.digitChar b) : a = b := by
  have h1 := hexVal_digitChar ⟨a, ha⟩
  have h2 := hexVal_digitChar ⟨b, hb⟩
  simp only at h1 h2
  rw [← h1, ← h2, h]

theorem toDigits16_inj : ∀ (n m : Nat), Nat.toDigits 16 n = Nat.toDigits 16 m → n = m := by
  intro n
  induction n using Nat.strongRecOn with
  | _ n ih =>
    intro m h
    rw [Nat.toDigits_eq_if (by decide : 1 < 16) (n := n), Nat.toDigits_eq_if (by decide : 1 < 16) (n := m)] at h
    by_cases hn : n < 16
    · by_cases hm : m < 16
      · simp only [hn, hm, if_true, List.cons.injEq, and_true] at h
        exact digitChar_inj16 n m hn hm h
      · simp only [hn, hm, if_true, if_false] at h
        have hl := congrArg List.length h
        simp only [List.length_cons, List.length_nil, List.length_append] at hl
        have hp := @Nat.length_toDigits_pos 16 (m / 16)
        omega
    · by_cases hm : m < 16
      · simp only [hn, hm, if_true, if_false] at h
        have hl := congrArg List.length h
        simp only [List.length_cons, List.length_nil, List.length_append] at hl
        have hp := @Nat.length_toDigits_pos 16 (n / 16)
        omega
      · simp only [hn, hm, if_false] at h
        have h1 := List.append_inj' h (by simp)
        have hq := ih (n / 16) (by omega) (m / 16) h1.1
        have hr := digitChar_inj16 (n % 16) (m % 16) (Nat.mod_lt _ (by decide)) (Nat.mod_lt _ (by decide))
          (by simpa using h1.2)
        omega

theorem iftargName_inj {k k' : Nat} (h : iftargName k = iftargName k') : k = k' := by
  have := congrArg String.toList h
  rw [toList_iftarg, toList_iftarg] at this
  simp only [List.cons.injEq, true_and] at this
  exact toDigits16_inj k k' this

/-- the variable whose value the guarded assignment of `t` keeps: `x` for the temporary `__x` -/
def oldOf (t : String) : String := if isDunder t then dropDunder t else t

def fBody (g : String) : Front.Stmt → Front.Stmt
  | .assign t e => .assign t (.ite (.name g) e (.name (oldOf t)))
  | s => s

def fElse (g : String) : Front.Stmt → Front.Stmt
  | .assign t e =>
    if isDunder t then .assign t (.ite (.name g) (.name (dropDunder t)) e)
    else if isIfTarg t then .assign t e
    else .assign t (.ite (.name g) (.name t) e)
  | s => s

/-- the guards of the enclosing `if`s (variable, polarity), outermost first, applied to a rewritten list -/
def wrapF : List (String × Bool) → List Front.Stmt → List Front.Stmt
  | [], L => L
  | (g, w) :: Γ, L => (wrapF Γ L).map (if w then fBody g else fElse g)

theorem wrapF_append (Γ : List (String × Bool)) (A B : List Front.Stmt) :
    wrapF Γ (A ++ B) = wrapF Γ A ++ wrapF Γ B := by
  induction Γ with
  | nil => rfl
  | cons p Γ ih => obtain ⟨g, w⟩ := p; simp [wrapF, ih]

theorem wrapF_nil (Γ : List (String × Bool)) : wrapF Γ [] = [] := by
  induction Γ with
  | nil => rfl
  | cons p Γ ih => obtain ⟨g, w⟩ := p; simp [wrapF, ih]

theorem wrapF_snoc (Γ : List (String × Bool)) (g : String) (w : Bool) (L : List Front.Stmt) :
    wrapF (Γ ++ [(g, w)]) L = wrapF Γ (L.map (if w then fBody g else fElse g)) := by
  induction Γ with
  | nil => simp [wrapF]
  | cons p Γ ih => obtain ⟨g', w'⟩ := p; simp [wrapF, ih]

def wrapE : List (String × Bool) → String → PExp → PExp
  | [], _, e => e
  | (g, true) :: Γ, old, e => .ite (.name g) (wrapE Γ old e) (.name old)
  | (g, false) :: Γ, old, e => .ite (.name g) (.name old) (wrapE Γ old e)

/-- every guard on the stack is negative (the statement sits in else branches only) -/
def elseOnly (Γ : List (String × Bool)) : Bool := Γ.all fun p => !p.2

theorem wrapF_assign (Γ : List (String × Bool)) (t : String) (e : PExp) (ht : isIfTarg t = false) :
    wrapF Γ [.assign t e] = [.assign t (wrapE Γ (oldOf t) e)] := by
  induction Γ with
  | nil => rfl
  | cons p Γ ih =>
    obtain ⟨g, w⟩ := p
    simp only [wrapF, ih, List.map_cons, List.map_nil]
    cases w
    · simp only [Bool.false_eq_true, if_false, fElse, ht, wrapE, oldOf]
      by_cases hd : isDunder t = true <;> simp [hd]
    · simp only [if_true, fBody, wrapE]

theorem wrapF_guard_assign (Γ : List (String × Bool)) (t : String) (e : PExp) (ht : isIfTarg t = true)
    (hd : isDunder t = false) (hΓ : elseOnly Γ = true) : wrapF Γ [.assign t e] = [.assign t e] := by
  induction Γ with
  | nil => rfl
  | cons p Γ ih =>
    obtain ⟨g, w⟩ := p
    simp only [elseOnly, List.all_cons, Bool.and_eq_true, Bool.not_eq_true'] at hΓ
    have hw : w = false := hΓ.1
    subst hw
    simp only [wrapF, ih (by simpa [elseOnly] using hΓ.2), List.map_cons, List.map_nil, Bool.false_eq_true,
      if_false, fElse, hd, ht, if_true]

/-- the values `σ` gives the guard variables of `Γ`: the guard stack `gs` of `exec` that the stack of names `Γ` stands for;
`none` when a guard variable has no value -/
def guardVals (σ : SEnv) : List (String × Bool) → Option (List (SVal × Bool))
  | [] => some []
  | (g, w) :: Γ =>
    match σ g, guardVals σ Γ with
    | some v, some gs => some ((v, w) :: gs)
    | _, _ => none

theorem guardVals_cons {σ : SEnv} {g : String} {w : Bool} {Γ : List (String × Bool)} {gs : List (SVal × Bool)} :
    guardVals σ ((g, w) :: Γ) = some gs ↔ ∃ v gs', σ g = some v ∧ guardVals σ Γ = some gs' ∧ gs = (v, w) :: gs' := by
  simp only [guardVals]
  cases σ g <;> cases guardVals σ Γ <;> simp [eq_comm]

theorem guardVals_congr (σ σ' : SEnv) (Γ : List (String × Bool)) (h : ∀ p ∈ Γ, σ' p.1 = σ p.1) :
    guardVals σ' Γ = guardVals σ Γ := by
  induction Γ with
  | nil => rfl
  | cons p Γ ih =>
    obtain ⟨g, w⟩ := p
    simp only [guardVals, h (g, w) (List.mem_cons_self), ih (fun q hq => h q (List.mem_cons_of_mem _ hq))]

theorem guardVals_snoc (σ : SEnv) (Γ : List (String × Bool)) (gs : List (SVal × Bool)) (g : String) (w : Bool)
    (v : SVal) (h : guardVals σ Γ = some gs) (hg : σ g = some v) :
    guardVals σ (Γ ++ [(g, w)]) = some (gs ++ [(v, w)]) := by
  induction Γ generalizing gs with
  | nil => cases h; exact guardVals_cons.mpr ⟨v, [], hg, rfl, rfl⟩
  | cons p Γ ih =>
    obtain ⟨v', gs', h1, h2, rfl⟩ := guardVals_cons.mp h
    exact guardVals_cons.mpr ⟨v', _, h1, ih gs' h2, rfl⟩

theorem semW_wrapE (σ : SEnv) (old : String) (e : PExp) :
    ∀ (Γ : List (String × Bool)) (gs : List (SVal × Bool)), guardVals σ Γ = some gs →
      semW σ (wrapE Γ old e) = (semW σ e).bind (storeW gs (σ old))
  | [], gs, h => by
    cases h
    show semW σ e = _
    cases semW σ e <;> rfl
  | (g, w) :: Γ, gs, h => by
    obtain ⟨gv, gs', hg, hΓ, rfl⟩ := guardVals_cons.mp h
    have ih := semW_wrapE σ old e Γ gs' hΓ
    -- an if-expression is strict: without a value of `old`, or of `e`, there is none on either side
    cases ho : σ old with
    | none =>
      cases w <;> simp only [wrapE, semW_ite, semW_name, hg, ho] <;> cases semW σ (wrapE Γ old e) <;>
        cases semW σ e <;> rfl
    | some o =>
      rw [ho] at ih
      cases hv : semW σ e with
      | none => cases w <;> simp only [wrapE, semW_ite, semW_name, hg, ho, ih, hv] <;> rfl
      | some v =>
        have ih : semW σ (wrapE Γ old e) = wrapW gs' v o := by rw [ih, hv]; exact storeW_some gs' o v
        cases w <;> simp only [wrapE, semW_ite, semW_name, hg, ho, ih, Option.bind, storeW, wrapW] <;>
          cases wrapW gs' v o <;> rfl

end QV.A2A
