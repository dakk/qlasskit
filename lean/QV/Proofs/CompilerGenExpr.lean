import QV.Proofs.CompilerGenInv
/-!
# Semantic correctness of the compiler model on the general class: the nodes of `compile_expr`

The proofs follow the equations `compileExpr_not/_and/_or/_xor`, `compileXorArgs_cons` of `CompilerInv.lean`, with
one lemma for each piece those equations name (`cachedM`, `destOr`, `orGatesM`, `finishM`, `cacheResult`, `xorStepM`, …).
-/
namespace QV.Compiler
open QV

variable {Kn : String → Prop} {ρ : Env} {σ0 : FState} {s0 : CState}

theorem dest_g {dest : Option Nat} {d : Nat} {s2 s3 : CState}
    (h : (destOr dest).run s2 = .ok (d, s3)) (gi : GI Kn ρ σ0 s0 s2)
    (hd : ∀ d, dest = some d → PrivD Kn s0 s2 d) :
    GI Kn ρ σ0 s0 s3 ∧ Fr Kn σ0 s0 s2 s3 NoN (fun q => dest = none ∧ q = d) NoN ∧ cur σ0 s3 = cur σ0 s2 ∧
      PrivD Kn s0 s3 d ∧ (dest = some d ∨ (dest = none ∧ Avail s2 d ∧ d ∈ s3.qc.anc ∧ d ∉ s3.qc.kept)) := by
  cases dest with
  | some d0 =>
    obtain ⟨rfl, rfl⟩ := run_pure_ok.mp h
    exact ⟨gi, Fr.refl _, rfl, hd d rfl, Or.inl rfl⟩
  | none =>
    obtain ⟨gi3, fr, hc, hav, hpd, hanc, hnk⟩ := getFreeAncilla_gi h gi
    exact ⟨gi3, fr.mono (fun _ _ hh => hh) (fun _ hh _ _ _ => ⟨rfl, hh⟩) (fun _ _ hh => hh), hc, hpd,
      Or.inr ⟨rfl, hav, hanc, hnk⟩⟩

theorem xor_true' (b : Bool) : Bool.xor b true = !b := by cases b <;> rfl

theorem dest_notin {dest : Option Nat} {erets : List Nat} {d : Nat} {s1 s2 s3 : CState}
    (hd : ∀ d, dest = some d → PrivD Kn s0 s1 d)
    (hb : ∀ q ∈ erets, ¬ Avail s2 q ∧ (q ∈ s2.qc.anc → q ∉ s2.qc.kept → TgtL s0 s2 q) ∧
      ∀ x, PrivD Kn s0 s1 x → q ≠ x)
    (dcase : dest = some d ∨ (dest = none ∧ Avail s2 d ∧ d ∈ s3.qc.anc ∧ d ∉ s3.qc.kept)) : d ∉ erets := by
  intro hm
  rcases dcase with hsome | ⟨_, hava, _, _⟩
  · exact (hb d hm).2.2 d (hd d hsome) rfl
  · exact (hb d hm).1 hava

theorem cacheResult_g {dest : Option Nat} {e : BExp} {d a : Nat} {t s' : CState}
    (h : (cacheResult dest e d).run t = .ok (a, s'))
    (gi : GI Kn ρ σ0 s0 t) (pd : PrivD Kn s0 t d) (tg : TgtL s0 t d) (hv : dest = none → cur σ0 t d = e.eval ρ) :
    a = d ∧ GI Kn ρ σ0 s0 s' ∧ Fr Kn σ0 s0 t s' NoN NoN (fun q => dest = none ∧ q = d) ∧
      cur σ0 s' = cur σ0 t ∧ s'.qc = t.qc := by
  unfold cacheResult at h
  cases dest with
  | some d0 =>
    obtain ⟨rfl, rfl⟩ := run_pure_ok.mp h
    exact ⟨rfl, gi, Fr.refl _, rfl, rfl⟩
  | none =>
    obtain ⟨u, t', hset, k⟩ := run_bind_ok.mp h
    obtain ⟨rfl, rfl⟩ := run_pure_ok.mp k
    obtain ⟨gi', fr, hc, hqc⟩ := expqSet_gi hset (gi.monoH (fun _ hh => hh.elim)) pd.nav (hv rfl) (fun _ _ => tg)
    exact ⟨rfl, gi', fr.mono (fun _ _ hh => hh) (fun _ hh _ _ _ => hh) (fun _ _ hh => ⟨rfl, hh⟩), hc, hqc⟩

/-- the end of a node that has computed `e` into a destination `d` it owns: the caller's accumulator, or a qubit
the node took from the scratch space of its start state `s1` -/
theorem node_end {E : Nat → Prop} {e : BExp} {dest : Option Nat} {d a : Nat} {s1 t s' : CState}
    (hnl : isLeaf e = false) (own : dest = some d ∨ (dest = none ∧ Avail s1 d))
    (git : GI Kn ρ σ0 s0 t) (fr : Fr Kn σ0 s0 s1 t (fun q => dest = some q) (· = d) NoN E)
    (pd : PrivD Kn s0 t d) (tg : TgtL s0 t d) (hv : dest = none → cur σ0 t d = e.eval ρ)
    (hvd : dest = some d → cur σ0 t d = Bool.xor (cur σ0 s1 d) (e.eval ρ))
    (hfin : (cacheResult dest e d).run t = .ok (a, s')) : PostG Kn ρ σ0 s0 E e dest s1 s' a := by
  have hav : dest = none → Avail s1 d := fun hn => own.elim (fun h' => by rw [hn] at h'; cases h') (·.2)
  obtain ⟨rfl, gi5, fr5, hc5, hqc5⟩ := cacheResult_g hfin git pd tg hv
  refine ⟨gi5, fr.seq fr5 (hc := fun x hx hh => hx.nav (hh.2 ▸ hav hh.1)), fun hn =>
      ⟨fun h' => pd.nav (fr5.avail a h'), by rw [hc5]; exact hv hn, fun _ _ => fr5.tkeep _ tg,
        fun _ => ⟨Unread.congr (by rw [hqc5]) pd.unread, by rw [hqc5]; exact pd.nm⟩,
        fun _ _ => hav hn, fun q hq' e' => hq'.nav (e' ▸ hav hn), fun hl => (by rw [hnl] at hl; cases hl)⟩,
    fun d' hd' => ?_⟩
  have hdd : a = d' :=
    own.elim (fun h' => Option.some.inj (h'.symm.trans hd')) (fun h' => by rw [h'.1] at hd'; cases hd')
  subst hdd
  exact ⟨rfl, by rw [hc5]; exact hvd hd', fr5.tkeep _ tg⟩

theorem node_tail {E : Nat → Prop} {e : BExp} {dest : Option Nat} {erets es : List Nat} {d a : Nat}
    {s1 s2 s3 t1 s' : CState}
    (hes : ∀ x, x ∈ es ↔ x ∈ erets) (hnl : isLeaf e = false)
    (hd : ∀ d, dest = some d → PrivD Kn s0 s1 d)
    (frA : Fr Kn σ0 s0 s1 s2 NoN (· ∈ erets) NoN E)
    (hb : ∀ q ∈ erets, ¬ Avail s2 q ∧ (q ∈ s2.qc.anc → q ∉ s2.qc.kept → TgtL s0 s2 q) ∧
      ∀ x, PrivD Kn s0 s1 x → q ≠ x)
    (frd : Fr Kn σ0 s0 s2 s3 NoN (fun q => dest = none ∧ q = d) NoN) (hcd : cur σ0 s3 = cur σ0 s2)
    (gi2 : GI Kn ρ σ0 s0 s2)
    (dcase : dest = some d ∨ (dest = none ∧ Avail s2 d ∧ d ∈ s3.qc.anc ∧ d ∉ s3.qc.kept))
    (git1 : GI Kn ρ σ0 s0 t1) (frg : Fr Kn σ0 s0 s3 t1 (· = d) NoN (· ∈ es)) (pd1 : PrivD Kn s0 t1 d)
    (tg1 : TgtL s0 t1 d) (hval : cur σ0 t1 d = Bool.xor (cur σ0 s3 d) (e.eval ρ))
    (hfin : (finishM es dest e d).run t1 = .ok (a, s')) : PostG Kn ρ σ0 s0 E e dest s1 s' a := by
  have frB := frd.trans frg
  have hdn : d ∉ erets := dest_notin hd hb dcase
  have own : dest = some d ∨ (dest = none ∧ Avail s1 d) := dcase.imp id (fun h' => ⟨h'.1, frA.avail d h'.2.1⟩)
  have hnp : ∀ x, PrivD Kn s0 s1 x → x ∈ es → False := fun x hx hm => (hb x ((hes x).mp hm)).2.2 x hx rfl
  obtain ⟨u1, t2, hmk, k1⟩ := run_bind_ok.mp hfin
  have hws : ∀ w ∈ es, ¬ Avail t1 w ∧ (w ∈ t1.qc.anc → w ∉ t1.qc.kept → TgtL s0 t1 w) := by
    intro w hw
    obtain ⟨b1, b2, _⟩ := hb w ((hes w).mp hw)
    refine ⟨fun h' => b1 (frB.avail w h'), fun h1' h2' => frB.tkeep _ (b2 ?_ (by rw [← frB.kkeep]; exact h2'))⟩
    rcases frB.anew _ h1' with h'' | h''
    · exact h''
    · exact absurd h'' b1
  obtain ⟨git2, frm, hcm, hmarks, hancm, hexm, hfm, hnm⟩ := markAll_gi hmk git1 (fun w hw => ⟨(hws w hw).1, fun h1 h2 _ => (hws w hw).2 h1 h2⟩)
  have hval2 : cur σ0 t2 d = Bool.xor (cur σ0 s2 d) (e.eval ρ) := by rw [hcm, hval, hcd]
  -- the frame from the start of the node: a destination the node allocated was in the scratch space (so it is
  -- zero before the gates); an argument qubit that is an unkept ancilla has been marked
  have fr : Fr Kn σ0 s0 s1 t2 (fun q => dest = some q) (· = d) NoN E :=
    ((((Fr.refl s1).seq frA (hr := fun _ h => Or.inl h) (he := fun _ h => h)).seq frd (hr := fun _ h => Or.inr h.2)).seq
      frg (hd := fun q hq e => own.elim (fun h' => e ▸ h') (fun h' => absurd (e ▸ h'.2) hq)) (hc := hnp)).seq
      frm (hc := hnp) |>.monoR (R := fun q => q ∈ erets ∨ q = d) (fun q hh h1' h2' h3' => hh.elim (fun hh =>
        absurd (hmarks q ((hes q).mpr hh) (by rw [← hancm]; exact h1') (by rw [← frm.kkeep]; exact h2')) h3') id)
  exact node_end hnl own git2 fr (frm.priv d pd1 (fun hm => hdn ((hes d).mp hm))) (frm.tkeep _ tg1)
    (fun hn => by rw [hval2, gi2.zero d (dcase.elim (fun h' => by rw [hn] at h'; cases h') (·.2.1))]; simp)
    (fun hd' => by rw [hval2, frA.val d (hd d hd').nav id]) k1

/-- `Not` negates in place only an ancilla this very call computed (never cached before, never read); otherwise
it copies (`notCopyM`) -/
theorem exprG_not {x : BExp} (ih : ExprG Kn ρ σ0 s0 x) : ExprG Kn ρ σ0 s0 (.not x) := by
  intro dest sym a s1 s' h gi hd _ hsym
  rw [compileExpr_not] at h
  rcases cached_g h gi hd rfl with hit | h1
  · exact hit
  dsimp only at h1
  rcases run_ite_ok.mp h1 with ⟨hc, _⟩ | ⟨_, k0⟩
  · -- `r = Not(r)` is not in the class
    exfalso
    cases x with
    | sym n =>
      cases sym with
      | some sy =>
        have h' := hsym sy rfl
        simp only [selfNot] at h'
        have hc' : (n == sy) = true := hc
        rw [h'] at hc'; cases hc'
      | none => simp [isSelfNot] at hc
    | _ => simp [isSelfNot] at hc
  · obtain ⟨shared, s1', hsh, k1⟩ := run_bind_ok.mp k0
    rw [(expqGet?_run hsh).1] at k1
    obtain ⟨eret, s2, he, h2⟩ := run_bind_ok.mp k1
    obtain ⟨gi2, fr1, hv1, _⟩ := ih none none he gi (by intro d hd0; cases hd0) (fun _ => ⟨rfl, rfl⟩)
      (by intro y hy; cases hy)
    have res := hv1 rfl
    obtain ⟨qc, s3, hq, h3⟩ := run_bind_ok.mp h2
    obtain ⟨rfl, rfl⟩ := getQC_run hq
    split at h3
    · next hcond =>
      simp only [Bool.and_eq_true, Bool.not_eq_true'] at hcond
      have hdn : dest = none := by
        cases dest with
        | none => rfl
        | some d => simp at hcond
      subst hdn
      have hanc : eret ∈ s3.qc.anc := by simpa using hcond.1.2
      have hnl : isLeaf x = false := by
        cases hl : isLeaf x with
        | false => rfl
        | true => exact absurd hanc (res.leaf hl)
      have hnsh : ∀ p ∈ s1.expq, (p.1 == x) = false := by
        cases shared with
        | none => exact (expqGet?_none hsh).2
        | some v => simp at hcond
      have hav0 : Avail s1 eret := res.miss hnl hnsh
      obtain ⟨hur, hnm⟩ := res.fresh hav0
      obtain ⟨u1, s4, hev, h4⟩ := run_bind_ok.mp h3
      obtain ⟨u2, s5, hx', h5⟩ := run_bind_ok.mp h4
      obtain ⟨u3, s6, hset, h6⟩ := run_bind_ok.mp h5
      obtain ⟨rfl, rfl⟩ := run_pure_ok.mp h6
      obtain ⟨gi4, fr4, hc4⟩ := event_gi hev gi2
      have hs4 := event_run hev
      have hqc4 : s4.qc = s3.qc := by rw [hs4]
      have hnav4 : ¬ Avail s4 a := fun h' => res.nav (fr4.avail a h')
      have hnn : ∀ n, Kn n → dictGet? s4.qc.qmap n ≠ some a := by
        intro n hk hq'
        rw [hqc4] at hq'
        exact (gi2.names n a hk hq').2.1 hanc
      obtain ⟨gi5, fr5, tg5, ha5, _, ur5⟩ := gate_g (cs := []) (t := a) hx' gi4 rfl rfl (fun _ hc => by cases hc)
        (gi.avail a hav0) hnav4 (Unread.congr (by rw [hqc4]) hur) hnn
      have hnav5 : ¬ Avail s5 a := fun h' => hnav4 (fr5.avail a h')
      have hval5 : cur σ0 s5 a = (BExp.not x).eval ρ := by
        rw [ha5.cur_eq rfl σ0, hc4, res.val]; simp [BExp.eval]
      obtain ⟨gi6, fr6, hc6, hqc6⟩ := expqSet_gi hset gi5 hnav5 hval5 (fun _ _ => tg5)
      -- the frame: the result qubit was in the scratch space of `s1`
      have tot := ((((Fr.refl s1).seq fr1 (hd := fun _ _ h => h) (hr := fun _ h => h)
        (he := fun _ h => by simpa [hasConst] using h)).seq fr4).seq fr5 (hd := fun q hq e => absurd (e ▸ hav0) hq)
        (hc := fun _ _ h => nomatch h)).seq fr6 (hc := fun q hq e => res.np q hq e.symm)
      exact ⟨gi6, tot, fun _ => ⟨fun h' => hnav5 (fr6.avail a h'), by rw [hc6]; exact hval5,
        fun _ _ => fr6.tkeep _ tg5, fun _ => ⟨Unread.congr (by rw [hqc6]) ur5, by rw [hqc6, ha5.marked, hqc4]; exact hnm⟩,
        fun _ _ => hav0, res.np, fun hl => (by cases hl)⟩, fun d hd0 => (by cases hd0)⟩
    · -- `notCopyM`: `CX` into the destination, then `X`; the rest is `node_tail` with the one argument `eret`
      obtain ⟨d, s4, hdest, hrun⟩ := run_bind_ok.mp h3
      obtain ⟨gi4, frd, hcd, hpd4, dcase⟩ := dest_g hdest gi2 (fun d hd' => fr1.priv d (hd d hd') (fun hh => hh))
      obtain ⟨u1, t1, hcx, k1⟩ := run_bind_ok.mp hrun
      obtain ⟨u2, t2, hx', k2⟩ := run_bind_ok.mp k1
      obtain ⟨u3, t3, hmk, k3⟩ := run_bind_ok.mp k2
      obtain ⟨git1, frt1, hpt1, _, at1, _⟩ := gateP (cs := [eret]) (t := d) hcx gi4 rfl rfl
        (List.forall_mem_singleton.mpr (fun h' => res.nav (frd.avail _ h'))) hpd4
      obtain ⟨git2, frt2, hpt2, tg2, at2, _⟩ := gateP (cs := []) (t := d) hx' git1 rfl rfl
        (fun _ hc => by cases hc) hpt1
      refine node_tail (e := .not x) (erets := [eret]) (es := [eret]) (fun _ => Iff.rfl) rfl hd
        (fr1.mono (hd := fun _ _ hh => by cases hh) (hr := fun _ hh _ _ _ => by simp [hh]) (hc := fun _ _ hh => hh)
          (he := fun q h => by simpa [hasConst] using h))
        (List.forall_mem_singleton.mpr ⟨res.nav, res.tgt, res.np⟩)
        frd hcd gi2 dcase git2
        ((frt1.trans frt2).mono (hd := fun _ _ hh => hh.elim id id) (hr := fun _ hh _ _ _ => hh.elim id id)
          (hc := fun _ _ hh => hh.elim id (fun h' => by cases h')))
        hpt2 tg2 ?_ (run_bind_ok.mpr ⟨u3, t3, markAll_single _ ▸ hmk, k3⟩)
      rw [at2.cur_eq rfl σ0, at1.cur_eq rfl σ0, hcd]
      simp [BExp.eval, res.val]

theorem argsG_nil : ArgsG Kn ρ σ0 s0 [] := by
  intro rs s s' h gi
  unfold compileArgs at h
  obtain ⟨rfl, rfl⟩ := run_pure_ok.mp h
  exact ⟨gi, Fr.refl _, rfl, fun q hq => absurd hq List.not_mem_nil⟩

theorem argsG_cons {a : BExp} {as : List BExp} (iha : ExprG Kn ρ σ0 s0 a) (ihs : ArgsG Kn ρ σ0 s0 as) :
    ArgsG Kn ρ σ0 s0 (a :: as) := by
  intro rs s s' h gi
  unfold compileArgs at h
  obtain ⟨q1, s1, h1, h2⟩ := run_bind_ok.mp h
  obtain ⟨rs', s2, h3, h4⟩ := run_bind_ok.mp h2
  obtain ⟨rfl, rfl⟩ := run_pure_ok.mp h4
  obtain ⟨gi1, fr1, hv1, _⟩ := iha none none h1 gi (by intro d hd0; cases hd0) (fun _ => ⟨rfl, rfl⟩)
    (by intro y hy; cases hy)
  have res := hv1 rfl
  obtain ⟨gi2, fr2, hvals, hb⟩ := ihs h3 gi1
  refine ⟨gi2, ((Fr.refl s).seq fr1 (hd := fun _ _ h => by cases h) (hr := fun _ h => h ▸ List.mem_cons_self)
      (he := fun _ h => by simpa [hasConstList] using Or.inl h)).seq fr2 (hr := fun _ h => List.mem_cons_of_mem _ h)
      (he := fun _ h => by simpa [hasConstList] using Or.inr h), ?_, ?_⟩
  · simp only [List.map_cons, hvals]
    rw [fr2.val q1 res.nav (fun hh => hh), res.val]
  · intro q hq
    simp only [List.mem_cons] at hq
    rcases hq with rfl | hq
    · refine ⟨fun h' => res.nav (fr2.avail q h'), fun h1' h2' => ?_, res.np⟩
      refine fr2.tkeep _ (res.tgt ?_ (by rw [← fr2.kkeep]; exact h2'))
      rcases fr2.anew _ h1' with h'' | h''
      · exact h''
      · exact absurd h'' res.nav
    · obtain ⟨b1, b2, b3⟩ := hb q hq
      exact ⟨b1, b2, fun x hx => b3 x (fr1.priv x hx (fun hh => hh))⟩

theorem exprG_and {args : List BExp} (ih : ArgsG Kn ρ σ0 s0 args) : ExprG Kn ρ σ0 s0 (.and args) := by
  intro dest sym a s1 s' h gi hd _ _
  rw [compileExpr_and] at h
  rcases cached_g h gi hd rfl with hit | h1
  · exact hit
  obtain ⟨erets, s2, hargs, h2⟩ := run_bind_ok.mp h1
  obtain ⟨gi2, frA, hvals, hb⟩ := ih hargs gi
  obtain ⟨d, s3, hdest, h3⟩ := run_bind_ok.mp h2
  obtain ⟨gi3, frd, hcd, pd3, dcase⟩ := dest_g hdest gi2 (fun d hd' => frA.priv d (hd d hd') (fun hh => hh))
  have hes := argQubits_of_notMem (dest_notin hd hb dcase)
  rcases run_ite_ok.mp h3 with ⟨hc, _⟩ | ⟨_, k3⟩
  · exact absurd (by simpa using hc) (dest_notin hd hb dcase)
  · rw [hes] at k3
    obtain ⟨u1, t1, hmcx, k1⟩ := run_bind_ok.mp k3
    obtain ⟨git1, frg, pd1, tg1, am, _⟩ := gateP (cs := sortNat erets.eraseDups) (t := d) hmcx gi3 rfl rfl
      (fun c hc h' => (hb c (mem_sortDedup.mp hc)).1 (frd.avail c h')) pd3
    have := node_tail (e := .and args) (fun x => mem_sortDedup) rfl hd frA hb frd hcd gi2 dcase git1 frg pd1 tg1
      (by rw [am.cur_eq rfl σ0, all_sortDedup, hcd, all_of_map hvals]; simp [BExp.eval]) k1
    simpa only [hasConst] using this

theorem or_bool (d a b : Bool) : Bool.xor (Bool.xor (Bool.xor d a) b) (a && (b && true)) = Bool.xor d (a || b) := by
  cases d <;> cases a <;> cases b <;> rfl

theorem orGate_g {H : Nat → Prop} {acc i t : Nat} {u : Unit} {s s' : CState}
    (h : StateT.run (do cx acc t; cx i t; mcx [acc, i] t : M Unit) s = .ok (u, s'))
    (gi : GIh Kn ρ σ0 s0 H s) (hacc : ¬ Avail s acc) (hi : ¬ Avail s i) (ht0 : Avail s0 t) (ht : ¬ Avail s t)
    (hur : Unread s0 s t) (hnn : ∀ n, Kn n → dictGet? s.qc.qmap n ≠ some t)
    (hnc : ∀ p ∈ s.expq, p.2 ≠ t) :
    GIh Kn ρ σ0 s0 (fun q => H q ∧ q ≠ t) s' ∧ Fr Kn σ0 s0 s s' (· = t) NoN (fun q => q = acc ∨ q = i) ∧
      TgtL s0 s' t ∧ cur σ0 s' t = Bool.xor (cur σ0 s t) (cur σ0 s acc || cur σ0 s i) ∧
      Unread s0 s' t ∧ s'.qc.marked = s.qc.marked ∧ s'.qc.qmap = s.qc.qmap ∧
      s'.expq = s.expq ∧ acc ≠ t ∧ i ≠ t := by
  have em := orGate_emit h
  obtain ⟨g3, f3, tg3, ur3, hn⟩ := emit_g (Cs := fun q => q = acc ∨ q = i) em gi (List.cons_ne_nil _ _)
    (by
      simp only [orGates, List.forall_mem_cons, List.not_mem_nil, false_imp_iff, implies_true, and_true]
      have ha : ∀ c ∈ [acc], ¬ Avail s c ∧ (c = acc ∨ c = i) := List.forall_mem_singleton.mpr ⟨hacc, Or.inl rfl⟩
      have hb : ∀ c ∈ [i], ¬ Avail s c ∧ (c = acc ∨ c = i) := List.forall_mem_singleton.mpr ⟨hi, Or.inr rfl⟩
      exact ⟨⟨rfl, [acc], rfl, ha⟩, ⟨rfl, [i], rfl, hb⟩,
        ⟨rfl, [acc, i], rfl, List.forall_mem_cons.mpr ⟨ha _ List.mem_cons_self, hb⟩⟩⟩)
    ht0 ht hur hnn
  have hat : acc ≠ t := fun e => hn (gt .CX [acc, t]) (by simp [orGates]) (by simp [e])
  have hit : i ≠ t := fun e => hn (gt .CX [i, t]) (by simp [orGates]) (by simp [e])
  refine ⟨g3.close' (by rw [em.expq]; exact hnc) tg3, f3, tg3, ?_, ur3, em.marked, em.qmap, em.expq, hat, hit⟩
  rw [em.cur σ0]
  exact (runF_orGates hat hit _).2

/-- every intermediate goes into a new ancilla that is marked at once, the last into `dest` -/
theorem orChain_g {dest : Nat} :
    ∀ (rest : List Nat) (acc : Nat) {u : Unit} {s s' : CState},
    (orChain dest acc rest).run s = .ok (u, s') → rest ≠ [] → GI Kn ρ σ0 s0 s → PrivD Kn s0 s dest →
    ¬ Avail s acc → acc ≠ dest → (∀ i ∈ rest, ¬ Avail s i ∧ i ≠ dest) →
    GI Kn ρ σ0 s0 s' ∧ Fr Kn σ0 s0 s s' (· = dest) NoN (fun q => q = acc ∨ q ∈ rest) ∧
      PrivD Kn s0 s' dest ∧ TgtL s0 s' dest ∧
      cur σ0 s' dest = Bool.xor (cur σ0 s dest) (cur σ0 s acc || rest.any (cur σ0 s))
  | [], acc, u, s, s', _, hne, _, _, _, _, _ => absurd rfl hne
  | [i], acc, u, s, s', h, _, gi, pd, hna, hacc, hr => by
    unfold orChain at h
    obtain ⟨hni, hi⟩ := hr i List.mem_cons_self
    obtain ⟨g3, f3, tg, hv, hur, hmk, hqm, hex, _, _⟩ := orGate_g h gi hna hni pd.av0 pd.nav pd.unread pd.nn pd.nc
    refine ⟨g3.monoH (fun _ hh => hh.1), f3.mono (fun _ _ hh => hh) (fun _ hh _ _ _ => hh) ?_, ?_, tg, ?_⟩
    · rintro q _ (hh | hh)
      · exact Or.inl hh
      · exact Or.inr (by simp [hh])
    · exact f3.priv dest pd (fun hh => hh.elim (fun e => hacc e.symm) (fun e => hi e.symm))
    · rw [hv]; simp
  | i :: j :: rest, acc, u, s, s', h, _, gi, pd, hna, hacc, hr => by
    unfold orChain at h
    obtain ⟨d, s1, hfa, k1⟩ := run_bind_ok.mp h
    obtain ⟨gi1, fr1, hc1, hava, pd', hanc, hnk⟩ := getFreeAncilla_gi hfa gi
    obtain ⟨u2, s2, hmk, k2⟩ := run_bind_ok.mp k1
    obtain ⟨gi2, fr2, hc2, hmarked, hanc2, hex2, hf2, hn2⟩ := markAncilla_gi hmk (gi1.monoH (H' := (· = d)) (fun _ hh => hh.elim))
      ⟨pd'.nav, fun _ _ hn => absurd rfl hn⟩
    have k2' : StateT.run (do
        (do cx acc d; cx i d; mcx [acc, i] d : M Unit)
        orChain dest d (j :: rest) : M Unit) s2 = .ok (u, s') := by
      simpa only [bind_assoc] using k2
    obtain ⟨u3, s3, hgate, k3⟩ := run_bind_ok.mp k2'
    obtain ⟨hni, hi⟩ := hr i List.mem_cons_self
    have hav2 : ∀ q, Avail s2 q ↔ Avail s1 q := Avail.congr hf2 hn2
    have hnav2 : ∀ q, ¬ Avail s q → ¬ Avail s2 q := fun q hq h' => hq (fr1.avail q ((hav2 q).mp h'))
    have hdd : d ≠ dest := fun e => pd.nav (e ▸ hava)
    have hd2m : d ∈ s2.qc.marked := hmarked hanc hnk
    obtain ⟨_, e2, _⟩ := markAncilla_eff hmk
    have hqm2 : s2.qc.qmap = s1.qc.qmap := by rw [e2]
    have hgt2 : s2.qc.gates = s1.qc.gates := by rw [e2]
    obtain ⟨gi3, fr3, tg3, hv3, _, hmk3, hqm3, hex3, haccd, hid⟩ := orGate_g hgate gi2 (hnav2 acc hna) (hnav2 i hni)
      pd'.av0 (fun h' => pd'.nav ((hav2 d).mp h')) (Unread.congr hgt2 pd'.unread) (by rw [hqm2]; exact pd'.nn)
      (by rw [hex2]; exact pd'.nc)
    have gi3' : GI Kn ρ σ0 s0 s3 := gi3.monoH (fun q hh => hh.2 hh.1)
    -- the frame from `s`: the new ancilla `d` was in the scratch space of `s`
    have hdp : ∀ x, PrivD Kn s0 s x → x ≠ d := fun x hx e => hx.nav (e ▸ hava)
    have fr03 : Fr Kn σ0 s0 s s3 (· = dest) (· = d) (fun q => q = acc ∨ q ∈ i :: j :: rest) :=
      (((Fr.refl s).seq fr1 (hr := fun _ h => h)).seq fr2 (hc := fun x hx e => absurd e (hdp x hx))).seq fr3
        (hd := fun q hq e => absurd (e ▸ hava) hq)
        (hc := fun x _ hh => hh.elim Or.inl (fun e => Or.inr (by simp [e])))
    have pd3 : PrivD Kn s0 s3 dest := fr03.priv dest pd (fun hh =>
      hh.elim (fun e => hacc e.symm) (fun hm => (hr dest hm).2 rfl))
    have hcur2 : cur σ0 s2 = cur σ0 s := by rw [hc2, hc1]
    have hz : cur σ0 s d = false := gi.zero d hava
    have hfr3 : ∀ q, ¬ Avail s q → cur σ0 s3 q = cur σ0 s q := by
      intro q hq
      rw [fr3.val q (hnav2 q hq) (fun e => hq (e ▸ hava)), hcur2]
    obtain ⟨gi', frr, pd'', tgr, hvr⟩ := orChain_g (j :: rest) d k3 (by simp) gi3' pd3
      (fun h' => pd'.nav ((hav2 d).mp (fr3.avail d h'))) hdd
      (fun x hx => ⟨fun h' => (hr x (List.mem_cons_of_mem _ hx)).1 (fr03.avail x h'),
        (hr x (List.mem_cons_of_mem _ hx)).2⟩)
    refine ⟨gi', (fr03.seq frr (hd := fun _ _ h => h) (hc := fun x hx hh => hh.elim
          (fun e => absurd e (hdp x hx)) (fun hm => Or.inr (List.mem_cons_of_mem _ hm)))).monoR
        (fun q e _ _ h3' => absurd (frr.mkeep _ (fr3.mkeep _ (e ▸ hd2m))) h3'), pd'', tgr, ?_⟩
    rw [hvr, hfr3 dest pd.nav, hv3, hcur2, hz]
    have hrest : (j :: rest).any (cur σ0 s3) = (j :: rest).any (cur σ0 s) :=
      any_congr_mem (fun x hx => hfr3 x (hr x (List.mem_cons_of_mem _ hx)).1)
    rw [hrest]
    simp only [List.any_cons, Bool.false_bne, Bool.or_assoc]

theorem orWide_g {d : Nat} {erets es : List Nat} {u : Unit} {s s' : CState}
    (h : (orWide d erets es).run s = .ok (u, s')) (hlen : 2 < es.length) (hd : d ∉ es)
    (gi : GI Kn ρ σ0 s0 s) (pd : PrivD Kn s0 s d) (hes : ∀ c ∈ es, ¬ Avail s c) :
    GI Kn ρ σ0 s0 s' ∧ Fr Kn σ0 s0 s s' (· = d) NoN (· ∈ es) ∧
      PrivD Kn s0 s' d ∧ TgtL s0 s' d ∧ cur σ0 s' d = Bool.xor (cur σ0 s d) (es.any (cur σ0 s)) := by
  obtain ⟨a, rest, hrest, hmem, h⟩ := orWide_run h hlen
  have hin : ∀ i ∈ a :: rest, ¬ Avail s i ∧ i ≠ d := fun i hi =>
    ⟨hes i ((hmem i).mp hi), fun e => hd (e ▸ (hmem i).mp hi)⟩
  obtain ⟨gi', fr, pd', tg, hv⟩ := orChain_g rest a h hrest gi pd (hin a List.mem_cons_self).1
    (hin a List.mem_cons_self).2 (fun i hi => hin i (List.mem_cons_of_mem _ hi))
  refine ⟨gi', fr.mono (fun _ _ hh => hh) (fun _ hh _ _ _ => hh) (fun q _ hh => (hmem q).mp ?_), pd', tg, ?_⟩
  · exact hh.elim (fun e => e ▸ List.mem_cons_self) (List.mem_cons_of_mem _)
  · rw [hv, ← List.any_cons (f := cur σ0 s), any_of_mem_iff (cur σ0 s) hmem]

theorem orGates_g {erets es : List Nat} {d : Nat} {u : Unit} {s t1 : CState}
    (h : (orGatesM d erets es).run s = .ok (u, t1))
    (gi : GI Kn ρ σ0 s0 s) (hd : d ∉ es) (pd : PrivD Kn s0 s d) (hes : ∀ c ∈ es, ¬ Avail s c) (hne : es ≠ []) :
    GI Kn ρ σ0 s0 t1 ∧ Fr Kn σ0 s0 s t1 (· = d) NoN (· ∈ es) ∧
      PrivD Kn s0 t1 d ∧ TgtL s0 t1 d ∧ cur σ0 t1 d = Bool.xor (cur σ0 s d) (es.any (cur σ0 s)) := by
  unfold orGatesM at h
  rcases run_ite_ok.mp h with ⟨hle, h⟩ | ⟨hnle, h⟩
  · have em := orSmall_emit h
    obtain ⟨g1, f1, p1, tg1, _⟩ := emitP (Cs := (· ∈ es)) em gi
      (by cases es with
        | nil => exact absurd rfl hne
        | cons a l => simp [orSmallGates])
      (fun g hg => by
        unfold orSmallGates at hg
        rcases List.mem_append.mp hg with hg | hg
        · obtain ⟨i, hi, rfl⟩ := List.mem_map.mp hg
          exact ⟨rfl, [i], rfl, List.forall_mem_singleton.mpr ⟨hes i hi, hi⟩⟩
        · split at hg
          · rw [List.mem_singleton.mp hg]; exact ⟨rfl, es, rfl, fun c hc => ⟨hes c hc, hc⟩⟩
          · cases hg) pd
    exact ⟨g1, f1, p1, tg1, by rw [em.cur σ0]; exact runF_orSmallGates hle hd _⟩
  · exact orWide_g h (by omega) hd gi pd hes

theorem exprG_or {args : List BExp} (ih : ArgsG Kn ρ σ0 s0 args) (hne : args ≠ []) :
    ExprG Kn ρ σ0 s0 (.or args) := by
  intro dest sym a s1 s' h gi hd _ _
  rw [compileExpr_or] at h
  rcases cached_g h gi hd rfl with hit | h1
  · exact hit
  obtain ⟨erets, s2, hargs, h2⟩ := run_bind_ok.mp h1
  obtain ⟨gi2, frA, hvals, hb⟩ := ih hargs gi
  obtain ⟨d, s3, hdest, h3⟩ := run_bind_ok.mp h2
  obtain ⟨gi3, frd, hcd, pd3, dcase⟩ := dest_g hdest gi2 (fun d hd' => frA.priv d (hd d hd') (fun hh => hh))
  have hdn : d ∉ erets := dest_notin hd hb dcase
  rcases run_ite_ok.mp h3 with ⟨hc, _⟩ | ⟨_, k3⟩
  · exact absurd (by simpa using hc) hdn
  · rw [argQubits_of_notMem hdn] at k3
    have hesne : sortNat erets.eraseDups ≠ [] := sortDedup_ne_nil hvals hne
    obtain ⟨u1, t1, hg, k1⟩ := run_bind_ok.mp k3
    obtain ⟨git1, frg, pd1, tg1, hv⟩ := orGates_g hg gi3 (fun hm => hdn (mem_sortDedup.mp hm)) pd3
      (fun c hc h' => (hb c (mem_sortDedup.mp hc)).1 (frd.avail c h')) hesne
    have := node_tail (e := .or args) (fun x => mem_sortDedup) rfl hd frA hb frd hcd gi2 dcase git1
      frg
      pd1 tg1 (by rw [hv, any_sortDedup, hcd, any_of_map hvals]; simp [BExp.eval]) k1
    simpa only [hasConst] using this

theorem xorG_nil : XorG Kn ρ σ0 s0 [] := by
  intro d a s s' h gi _
  unfold compileXorArgs at h
  obtain ⟨rfl, rfl⟩ := run_pure_ok.mp h
  exact ⟨rfl, gi, Fr.refl _, by simp [evalXor], fun h => absurd rfl h⟩

/-- `K` is the rest of the loop of `compile_xor`; the accumulator is never replaced (`d' = d`) -/
theorem xorAcc_g {a : BExp} {d q : Nat} {K : Nat → M Nat} {s s' : CState}
    (iha : ExprG Kn ρ σ0 s0 a) (hns : isLeaf a = false)
    (h : StateT.run (do
          let d' ← compileExpr a (some d) none
          if d' != d then event "xorRepl"
          K d' : M Nat) s = .ok (q, s'))
    (gi : GI Kn ρ σ0 s0 s) (pd : PrivD Kn s0 s d) :
    ∃ s1, GI Kn ρ σ0 s0 s1 ∧ Fr Kn σ0 s0 s s1 (· = d) (· = d) NoN (fun _ => hasConst a = true) ∧
      PrivD Kn s0 s1 d ∧ cur σ0 s1 d = Bool.xor (cur σ0 s d) (a.eval ρ) ∧ TgtL s0 s1 d ∧
      (K d).run s1 = .ok (q, s') := by
  obtain ⟨d', s1, h1, h2⟩ := run_bind_ok.mp h
  obtain ⟨gi1, fr1, _, hv1⟩ := iha (some d) none h1 gi (by intro d0 h0; cases h0; exact pd)
    (by intro hs; rw [hns] at hs; cases hs) (by intro y hy; cases hy)
  obtain ⟨e', hval, htg⟩ := hv1 d rfl
  subst e'
  dsimp only at h2
  rcases run_ite_ok.mp h2 with ⟨hc, _⟩ | ⟨_, k2⟩
  · simp at hc
  · exact ⟨s1, gi1, fr1.mono (fun _ _ hh => by cases hh; rfl) (fun _ hh _ _ _ => hh) (fun _ _ hh => hh)
      (fun _ hh => hh), fr1.priv d' pd (fun hh => hh), hval, htg, k2⟩

theorem xorStep_g {a : BExp} {as : List BExp} {d q : Nat} {s s' : CState}
    (iha : ExprG Kn ρ σ0 s0 a) (ihs : XorG Kn ρ σ0 s0 as) (hns : isLeaf a = false)
    (h : (xorStepM a as d).run s = .ok (q, s'))
    (gi : GI Kn ρ σ0 s0 s) (pd : PrivD Kn s0 s d) :
    q = d ∧ GI Kn ρ σ0 s0 s' ∧
      Fr Kn σ0 s0 s s' (· = d) (· = d) NoN (fun _ => hasConstList (a :: as) = true) ∧
      cur σ0 s' d = Bool.xor (cur σ0 s d) (evalXor ρ (a :: as)) ∧ (a :: as ≠ [] → TgtL s0 s' d) := by
  obtain ⟨s1, gi1, fr1, pd1, hval, htg, k⟩ := xorAcc_g iha hns h gi pd
  obtain ⟨rfl, gi2, fr2, hv2, _⟩ := ihs d k gi1 pd1
  refine ⟨rfl, gi2, ((Fr.refl s).seq fr1 (hd := fun _ _ h => h) (hr := fun _ h => h)
      (he := fun _ h => by simpa [hasConstList, hasConst] using Or.inl h)).seq fr2 (hd := fun _ _ h => h) (hr := fun _ h => h)
      (he := fun _ h => by simpa [hasConstList, hasConst] using Or.inr h), ?_, fun _ => fr2.tkeep _ htg⟩
  rw [hv2, hval, Bool.xor_assoc]; rfl

theorem xorNotStep_g {inner : BExp} {as : List BExp} {d q : Nat} {s s' : CState}
    (iha : ExprG Kn ρ σ0 s0 inner) (ihs : XorG Kn ρ σ0 s0 as) (hns : isLeaf inner = false)
    (h : (xorNotStepM inner as d).run s = .ok (q, s'))
    (gi : GI Kn ρ σ0 s0 s) (pd : PrivD Kn s0 s d) :
    q = d ∧ GI Kn ρ σ0 s0 s' ∧
      Fr Kn σ0 s0 s s' (· = d) (· = d) NoN (fun _ => hasConstList (.not inner :: as) = true) ∧
      cur σ0 s' d = Bool.xor (cur σ0 s d) (evalXor ρ (.not inner :: as)) ∧
      (BExp.not inner :: as ≠ [] → TgtL s0 s' d) := by
  obtain ⟨s1, gi1, fr1, pd1, hval, _, k⟩ := xorAcc_g (K := fun d' => do xGate d'; compileXorArgs as d') iha hns h gi pd
  obtain ⟨u, s2, hx, h3⟩ := run_bind_ok.mp k
  obtain ⟨gi2, frx, pd2, tg2, ax, _⟩ := gateP (cs := []) (t := d) hx gi1 rfl rfl (fun _ hc => by cases hc) pd1
  obtain ⟨rfl, gi3, fr3, hv3, _⟩ := ihs d h3 gi2 pd2
  refine ⟨rfl, gi3, (((Fr.refl s).seq fr1 (hd := fun _ _ h => h) (hr := fun _ h => h)
      (he := fun _ h => by simpa [hasConstList, hasConst] using Or.inl h)).seq frx (hd := fun _ _ h => h)
      (hc := fun _ _ h => nomatch h)).seq fr3 (hd := fun _ _ h => h) (hr := fun _ h => h)
      (he := fun _ h => by simpa [hasConstList, hasConst] using Or.inr h), ?_, fun _ => fr3.tkeep _ tg2⟩
  rw [hv3, ax.cur_eq rfl σ0, hval]
  simp only [List.all_nil, Bool.xor_true, evalXor, BExp.eval]
  rw [bnot_xor, Bool.xor_assoc]

/-- the `hsc` and `KConst` of `compileSemK` in one record: for a name of the scope `kval` is the environment's
value (the name is not read as a constant).  (The field `knOK` of `PreK` / `GIh` says something else: no known name
is ancilla-shaped.) -/
structure KnOK (Kn : String → Prop) (ρ : Env) (scope : List String) : Prop where
  sc : ∀ n ∈ scope, Kn n ∧ kval ρ n = ρ n
  tt : Kn "TRUE"
  ff : Kn "FALSE"

theorem xorG_cons {scope : List String} (hk : KnOK Kn ρ scope) {a : BExp} {as : List BExp}
    (hwf : wfExpG scope a = true) (hbad : xorArgBad a = false)
    (iha : ExprG Kn ρ σ0 s0 a) (ihi : ExprG Kn ρ σ0 s0 (stripNot a)) (ihs : XorG Kn ρ σ0 s0 as) :
    XorG Kn ρ σ0 s0 (a :: as) := by
  intro d q s s' h gi pd
  rw [compileXorArgs_cons] at h
  cases a with
  | sym n =>
    obtain ⟨hk, hkv⟩ := hk.sc n (by simpa [wfExpG] using hwf)
    obtain ⟨q0, s1, hl, h1⟩ := run_bind_ok.mp h
    obtain ⟨rfl, hq0⟩ := lookup_run hl
    rcases run_ite_ok.mp h1 with ⟨hc, _⟩ | ⟨_, k1⟩
    · have : q0 = d := by simpa using hc
      exact absurd hq0 (this ▸ pd.nn n hk)
    · obtain ⟨u, s2, hcx, h2⟩ := run_bind_ok.mp k1
      obtain ⟨gi2, frc, pd2, tgc, ac, _⟩ := gateP (cs := [q0]) (t := d) hcx gi rfl rfl
        (List.forall_mem_singleton.mpr (gi.name_nav hk hq0)) pd
      obtain ⟨rfl, gi3, fr3, hv3, _⟩ := ihs d h2 gi2 pd2
      refine ⟨rfl, gi3, ((Fr.refl _).seq frc (hd := fun _ _ h => h)
          (hc := fun x hx hh => hx.nn n hk (List.mem_singleton.mp hh ▸ hq0))).seq fr3 (hd := fun _ _ h => h)
          (hr := fun _ h => h) (he := fun _ h => by simpa [hasConstList, hasConst] using h), ?_, fun _ => fr3.tkeep _ tgc⟩
      · rw [hv3, ac.cur_eq rfl σ0]
        simp only [List.all_cons, List.all_nil, Bool.and_true, evalXor, BExp.eval]
        rw [(gi.names n q0 hk hq0).2.2, hkv, Bool.xor_assoc]
  | not inner =>
    rcases run_ite_ok.mp h with ⟨_, h⟩ | ⟨hs, h⟩
    · exact xorStep_g iha ihs rfl h gi pd
    · have hl : isLeaf inner = false := by
        cases inner with
        | sym n => exact absurd rfl hs
        | ff | tt => simp [xorArgBad] at hbad
        | ite x y z | imp x y => simp [wfExpG] at hwf
        | _ => rfl
      exact xorNotStep_g ihi ihs hl h gi pd
  | ff | tt => simp [xorArgBad] at hbad
  | ite x y z | imp x y => simp [wfExpG] at hwf
  | xor l | and l | or l => exact xorStep_g iha ihs rfl h gi pd

theorem exprG_xor {args : List BExp} (ih : XorG Kn ρ σ0 s0 args) (hne : args ≠ []) :
    ExprG Kn ρ σ0 s0 (.xor args) := by
  intro dest sym a s1 s' h gi hd _ _
  rw [compileExpr_xor] at h
  rcases cached_g h gi hd rfl with hit | h1
  · exact hit
  obtain ⟨d, s2, hdest, h2⟩ := run_bind_ok.mp h1
  obtain ⟨gi2, frd, hcd, pd2, dcase⟩ := dest_g hdest gi hd
  obtain ⟨d', s3, hx, h3⟩ := run_bind_ok.mp h2
  obtain ⟨rfl, gi3, fr3, hv, htg⟩ := ih d hx gi2 pd2
  have own : dest = some d' ∨ (dest = none ∧ Avail s1 d') := dcase.imp id (fun h' => ⟨h'.1, h'.2.1⟩)
  have fr : Fr Kn σ0 s0 s1 s3 (fun q => dest = some q) (· = d') NoN (fun _ => hasConst (.xor args) = true) :=
    ((Fr.refl s1).seq frd (hr := fun _ h => h.2)).seq fr3
      (hd := fun q hq e => own.elim (fun h' => e ▸ h') (fun h' => absurd (e ▸ h'.2) hq)) (hr := fun _ h => h)
      (he := fun _ h => by simpa [hasConst] using h)
  exact node_end rfl own gi3 fr (fr3.priv d' pd2 id) (htg hne)
    (fun hn => by rw [hv, hcd, gi.zero d' (own.elim (fun h' => by rw [hn] at h'; cases h') (·.2))]; simp [BExp.eval])
    (fun _ => by rw [hv, hcd]; simp [BExp.eval]) h3

theorem wfExpG_strip {scope : List String} {a : BExp} (h : wfExpG scope a = true) :
    wfExpG scope (stripNot a) = true := by
  cases a <;> first | exact h | (simp only [stripNot]; simpa [wfExpG] using h)

theorem wfG_cons {scope : List String} {a : BExp} {as : List BExp} (h : wfExpListG scope (a :: as) = true) :
    wfExpG scope a = true ∧ wfExpListG scope as = true := by
  simpa [wfExpListG] using h

theorem compileG {scope : List String} (hk : KnOK Kn ρ scope) :
    (∀ e : BExp, wfExpG scope e = true → ExprG Kn ρ σ0 s0 e) ∧
    (∀ as : List BExp, wfExpListG scope as = true → ArgsG Kn ρ σ0 s0 as) ∧
    (∀ as : List BExp, wfExpListG scope as = true → (∀ a ∈ as, xorArgBad a = false) → XorG Kn ρ σ0 s0 as) := by
  apply compile_induction
  case ff => exact fun _ => (exprGc_ff hk.ff).toG rfl
  case tt => exact fun _ => (exprGc_tt hk.tt).toG rfl
  case sym =>
    intro n hwf
    have := hk.sc n (by simpa [wfExpG] using hwf)
    exact exprG_sym n this.1 this.2
  case ite => intro a b c hwf; simp [wfExpG] at hwf
  case imp => intro a b hwf; simp [wfExpG] at hwf
  case not => exact fun x ih hwf => exprG_not (ih (by simpa [wfExpG] using hwf))
  case and => exact fun l ih hwf => exprG_and (ih (by simpa [wfExpG] using hwf))
  case or =>
    intro l ih hwf
    have h' : wfExpListG scope l = true ∧ l ≠ [] := by simpa [wfExpG] using hwf
    exact exprG_or (ih h'.1) h'.2
  case xor =>
    intro l ih hwf
    have h' : (wfExpListG scope l = true ∧ ∀ a ∈ l, xorArgBad a = false) ∧ l ≠ [] := by
      simpa [wfExpG] using hwf
    exact exprG_xor (ih h'.1.1 h'.1.2) h'.2
  case anil => exact fun _ => argsG_nil
  case acons => exact fun a l iha ihl hwf => argsG_cons (iha (wfG_cons hwf).1) (ihl (wfG_cons hwf).2)
  case xnil => exact fun _ _ => xorG_nil
  case xcons =>
    intro a l iha ihi ihl hwf hb
    exact xorG_cons hk (wfG_cons hwf).1 (hb a List.mem_cons_self) (iha (wfG_cons hwf).1)
      (ihi (wfExpG_strip (wfG_cons hwf).1)) (ihl (wfG_cons hwf).2 (fun x hx => hb x (List.mem_cons_of_mem _ hx)))

theorem exprG {scope : List String} (hk : KnOK Kn ρ scope) :
    ∀ e : BExp, wfExpG scope e = true → ExprG Kn ρ σ0 s0 e :=
  (compileG hk).1

theorem argsG {scope : List String} (hk : KnOK Kn ρ scope) :
    ∀ as : List BExp, wfExpListG scope as = true → ArgsG Kn ρ σ0 s0 as :=
  (compileG hk).2.1

theorem xorG {scope : List String} (hk : KnOK Kn ρ scope) :
    ∀ as : List BExp, wfExpListG scope as = true → (∀ a ∈ as, xorArgBad a = false) → XorG Kn ρ σ0 s0 as :=
  (compileG hk).2.2

end QV.Compiler
