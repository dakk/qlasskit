import QV.Proofs.FrontStmtBind
namespace QV.Sem
open QV.Front

mutual
theorem names_sub : ∀ (ty : Ty) (base : String), ∀ s ∈ Ty.names base ty, Sub base s
  | .bool, base, s, hs => by simp only [names_bool, List.mem_singleton] at hs; exact Or.inl hs
  | .qint w, base, s, hs => by
    rw [names_qint] at hs
    simp only [List.mem_map, List.mem_range] at hs
    obtain ⟨i, _, rfl⟩ := hs
    exact sub_child base i (sub_refl _)
  | .qchar, base, s, hs => by
    rw [names_qchar] at hs
    simp only [List.mem_map, List.mem_range] at hs
    obtain ⟨i, _, rfl⟩ := hs
    exact sub_child base i (sub_refl _)
  | .tuple ts, base, s, hs => by
    rw [Ty.names] at hs
    obtain ⟨j, _, hj⟩ := namesList_sub ts base 0 s hs
    exact sub_child base j hj
theorem namesList_sub : ∀ (ts : List Ty) (base : String) (i : Nat), ∀ s ∈ Ty.namesList base i ts,
    ∃ j, i ≤ j ∧ Sub (bitName base j) s
  | [], base, i, s, hs => by simp [Ty.namesList] at hs
  | t :: ts, base, i, s, hs => by
    rw [namesList_cons, List.mem_append] at hs
    rcases hs with hs | hs
    · exact ⟨i, Nat.le_refl _, names_sub t _ s hs⟩
    · obtain ⟨j, hj, hsub⟩ := namesList_sub ts base (i + 1) s hs
      exact ⟨j, by omega, hsub⟩
end

mutual
theorem names_nodup : ∀ (ty : Ty) (base : String), (Ty.names base ty).Nodup
  | .bool, base => by simp [names_bool]
  | .qint w, base => by
    rw [names_qint]
    exact nodup_map_bitName base _
  | .qchar, base => by
    rw [names_qchar]
    exact nodup_map_bitName base _
  | .tuple ts, base => by rw [Ty.names]; exact namesList_nodup ts base 0
theorem namesList_nodup : ∀ (ts : List Ty) (base : String) (i : Nat), (Ty.namesList base i ts).Nodup
  | [], base, i => by simp [Ty.namesList]
  | t :: ts, base, i => by
    rw [namesList_cons, List.nodup_append]
    refine ⟨names_nodup t _, namesList_nodup ts base (i + 1), ?_⟩
    intro a ha b hb hab
    subst hab
    obtain ⟨j, hj, hsub⟩ := namesList_sub ts base (i + 1) a hb
    have := child_disjoint (names_sub t _ a ha) hsub
    omega
end

mutual
theorem decodeT_congr (ρ ρ' : QV.Env) : ∀ (ty : Ty) (base : String),
    (∀ s ∈ Ty.names base ty, ρ' s = ρ s) → decodeT ρ' base ty = decodeT ρ base ty
  | .bool, base, h => by simp only [decodeT]; rw [h base (by simp [names_bool])]
  | .qint w, base, h => by
    simp only [decodeT]; congr 2; exact List.map_congr_left h
  | .qchar, base, h => by
    simp only [decodeT]; congr 2; exact List.map_congr_left h
  | .tuple ts, base, h => by
    simp only [decodeT]; congr 1
    exact decodeTList_congr ρ ρ' ts base 0 (by rw [Ty.names] at h; exact h)
theorem decodeTList_congr (ρ ρ' : QV.Env) : ∀ (ts : List Ty) (base : String) (i : Nat),
    (∀ s ∈ Ty.namesList base i ts, ρ' s = ρ s) → decodeTList ρ' base i ts = decodeTList ρ base i ts
  | [], _, _, _ => rfl
  | t :: ts, base, i, h => by
    rw [decodeTList_cons, decodeTList_cons]
    rw [namesList_cons] at h
    rw [decodeT_congr ρ ρ' t _ (fun s hs => h s (List.mem_append_left _ hs)),
      decodeTList_congr ρ ρ' ts base (i + 1) (fun s hs => h s (List.mem_append_right _ hs))]
end

mutual
theorem semT_congr (t : String) (σ σ' : TEnv) (h : ∀ n, n ≠ t → σ n = σ' n) :
    ∀ e : PExp, mentions t e = false → semT σ e = semT σ' e
  | .name n, hm => by
    simp only [mentions, beq_eq_false_iff_ne, ne_eq] at hm
    simp only [semT, h n hm]
  | .subs n p, hm => by
    simp only [mentions, beq_eq_false_iff_ne, ne_eq] at hm
    rw [semT_subs, semT_subs, h n hm]
  | .cbool _, _ => rfl
  | .cint _, _ => rfl
  | .cchar _, _ => rfl
  | .unsupported _, _ => rfl
  | .tuple es, hm => by rw [semT_tuple, semT_tuple, semTList_congr t σ σ' h es (by simpa only [mentions] using hm)]
  | .not e, hm => by rw [semT_not, semT_not, semT_congr t σ σ' h e (by simpa only [mentions] using hm)]
  | .inv e, hm => by rw [semT_inv, semT_inv, semT_congr t σ σ' h e (by simpa only [mentions] using hm)]
  | .boolop _ vs, hm => by
    rw [semT_boolop, semT_boolop, semTList_congr t σ σ' h vs (by simpa only [mentions] using hm)]
  | .ite c a b, hm => by
    simp only [mentions, Bool.or_eq_false_iff] at hm
    rw [semT_ite, semT_ite, semT_congr t σ σ' h c hm.1.1, semT_congr t σ σ' h a hm.1.2, semT_congr t σ σ' h b hm.2]
  | .cmp _ l r, hm => by
    simp only [mentions, Bool.or_eq_false_iff] at hm
    rw [semT_cmp, semT_cmp, semT_congr t σ σ' h l hm.1, semT_congr t σ σ' h r hm.2]
  | .bin _ l r, hm => by
    simp only [mentions, Bool.or_eq_false_iff] at hm
    rw [semT_bin, semT_bin, semT_congr t σ σ' h l hm.1, semT_congr t σ σ' h r hm.2]
theorem semTList_congr (t : String) (σ σ' : TEnv) (h : ∀ n, n ≠ t → σ n = σ' n) :
    ∀ es : List PExp, mentionsList t es = false → semTList σ es = semTList σ' es
  | [], _ => rfl
  | e :: es, hm => by
    simp only [mentionsList, Bool.or_eq_false_iff] at hm
    rw [semTList_cons, semTList_cons, semT_congr t σ σ' h e hm.1, semTList_congr t σ σ' h es hm.2]
end

mutual
theorem wellT_congr (t : String) (σ σ' : TEnv) (h : ∀ n, n ≠ t → σ n = σ' n) :
    ∀ e : PExp, mentions t e = false → wellT σ e = wellT σ' e
  | .name _, _ => by simp only [wellT]
  | .subs n p, hm => by
    simp only [wellT, semT_congr t σ σ' h (.subs n p) hm]
  | .cbool _, _ => by simp only [wellT]
  | .cint _, _ => by simp only [wellT]
  | .cchar _, _ => by simp only [wellT]
  | .unsupported _, _ => by simp only [wellT]
  | .tuple es, hm => by
    simp only [mentions] at hm
    simp only [wellT, wellTList_congr t σ σ' h es hm]
  | .not e, hm => by
    simp only [mentions] at hm
    simp only [wellT, wellT_congr t σ σ' h e hm]
  | .inv e, hm => by
    simp only [mentions] at hm
    simp only [wellT, wellT_congr t σ σ' h e hm, semT_congr t σ σ' h e hm]
  | .boolop _ vs, hm => by
    simp only [mentions] at hm
    simp only [wellT, wellTList_congr t σ σ' h vs hm]
  | .ite c a b, hm => by
    simp only [mentions, Bool.or_eq_false_iff] at hm
    simp only [wellT, wellT_congr t σ σ' h c hm.1.1, wellT_congr t σ σ' h a hm.1.2,
      wellT_congr t σ σ' h b hm.2, semT_congr t σ σ' h a hm.1.2, semT_congr t σ σ' h b hm.2]
  | .cmp _ l r, hm => by
    simp only [mentions, Bool.or_eq_false_iff] at hm
    simp only [wellT, wellT_congr t σ σ' h l hm.1, wellT_congr t σ σ' h r hm.2]
  | .bin _ l r, hm => by
    simp only [mentions, Bool.or_eq_false_iff] at hm
    simp only [wellT, wellT_congr t σ σ' h l hm.1, wellT_congr t σ σ' h r hm.2]
theorem wellTList_congr (t : String) (σ σ' : TEnv) (h : ∀ n, n ≠ t → σ n = σ' n) :
    ∀ es : List PExp, mentionsList t es = false → wellTList σ es = wellTList σ' es
  | [], _ => by simp only [wellTList]
  | e :: es, hm => by
    simp only [mentionsList, Bool.or_eq_false_iff] at hm
    simp only [wellTList, wellT_congr t σ σ' h e hm.1, wellTList_congr t σ σ' h es hm.2]
end

def GoodEnv (σ : TEnv) : Prop := ∀ n v, σ n = some v → tyGood v.ty = true

theorem tyGoodList_get : ∀ (vs : List TVal) (i : Nat) (x : TVal), tyGoodList (TVal.tyList vs) = true →
    vs[i]? = some x → tyGood x.ty = true
  | [], i, x, _, h => by simp at h
  | v :: vs, 0, x, hg, h => by
    simp only [TVal.tyList, tyGoodList, Bool.and_eq_true] at hg
    simp only [List.getElem?_cons_zero, Option.some.injEq] at h
    rw [← h]; exact hg.1
  | v :: vs, i + 1, x, hg, h => by
    simp only [TVal.tyList, tyGoodList, Bool.and_eq_true] at hg
    rw [List.getElem?_cons_succ] at h
    exact tyGoodList_get vs i x hg.2 h

theorem index_good : ∀ (path : List Int) (v r : TVal), tyGood v.ty = true → v.index path = some r →
    tyGood r.ty = true
  | [], v, r, hg, h => by
    simp only [TVal.index, Option.some.injEq] at h
    rw [← h]; exact hg
  | i :: is, .tuple vs, r, hg, h => by
    simp only [TVal.index] at h
    split at h
    · split at h
      · rename_i x hx
        simp only [TVal.ty, tyGood, Bool.and_eq_true] at hg
        exact index_good is x r (tyGoodList_get vs _ x hg.2 hx) h
      · cases h
    · cases h
  | [i], .int w x, r, _, h => by
    simp only [TVal.index] at h
    split at h
    · simp only [Option.some.injEq] at h
      rw [← h]; rfl
    · cases h
  | i :: j :: js, .int w x, r, _, h => by simp [TVal.index] at h
  | i :: is, .bool _, r, _, h => by simp [TVal.index] at h
  | i :: is, .char _, r, _, h => by simp [TVal.index] at h

theorem semTList_length (σ : TEnv) : ∀ (es : List PExp) (vs : List TVal), semTList σ es = some vs →
    vs.length = es.length
  | [], vs, h => by simp only [semTList, Option.some.injEq] at h; rw [← h]; rfl
  | e :: es, vs, h => by
    rw [semTList_cons] at h
    obtain ⟨x, _, h⟩ := Option.bind_eq_some_iff.mp h
    obtain ⟨xs, hxs, rfl⟩ := Option.map_eq_some_iff.mp h
    rw [List.length_cons, List.length_cons, semTList_length σ es xs hxs]

mutual
theorem semT_good (σ : TEnv) (hσ : GoodEnv σ) :
    ∀ e : PExp, inFragT e = true → OAll (tyGood ·.ty = true) (semT σ e)
  | .name n, _ => fun v h => hσ n v (by simpa only [semT] using h)
  | .cbool _, _ => OAll.some rfl
  | .cchar _, _ => by simp only [semT]; split <;> first | exact OAll.some rfl | exact OAll.none
  | .unsupported _, _ => OAll.none
  | .cint c, _ => by
    simp only [semT]
    cases hw : constWidth c with
    | none => exact OAll.none
    | some w => exact OAll.some (tyClosed_good.ge2 w (constWidth_ge c w hw))
  | .subs n p, _ => by
    rw [semT_subs]
    exact OAll.bind (fun x hx => hσ n x hx) fun x hx v h => index_good p x v hx h
  | .not e, _ => by rw [semT_not]; exact OAll.bind_any fun x => notT_ty tyClosed_good x
  | .inv e, h => by
    rw [semT_inv]
    exact (semT_good σ hσ e (by simpa only [inFragT] using h)).bind fun _ hx _ h => by simpa only [invT_ty h] using hx
  | .boolop isAnd _, _ => by rw [semT_boolop]; exact OAll.bind_any fun xs => boolopT_ty tyClosed_good isAnd xs
  | .ite c a b, h => by
    simp only [inFragT, Bool.and_eq_true] at h
    rw [semT_ite]
    exact OAll.bind_any fun _ => (semT_good σ hσ a h.1.2).bind fun _ hx =>
      (semT_good σ hσ b h.2).bind fun _ hy => iteT_ty tyClosed_good hx hy
  | .cmp op _ _, _ => by
    rw [semT_cmp]; exact OAll.bind_any fun x => OAll.bind_any fun y => cmpT_ty tyClosed_good op x y
  | .bin op l r, h => by
    simp only [inFragT, Bool.and_eq_true] at h
    rw [semT_bin]
    refine (semT_good σ hσ l h.1.2).bind fun _ hx => ?_
    split
    · exact fun _ h => by simpa only [shiftT_ty h] using hx
    · exact (semT_good σ hσ r h.2).bind fun _ hy => arithT_ty tyClosed_good hx hy
  | .tuple es, h => by
    -- a tuple literal of the fragment has at least two elements
    simp only [inFragT, Bool.and_eq_true, decide_eq_true_eq] at h
    rw [semT_tuple]
    intro v hv
    obtain ⟨xs, hxs, rfl⟩ := Option.map_eq_some_iff.mp hv
    simp only [TVal.ty, tyGood, Bool.and_eq_true, decide_eq_true_eq]
    exact ⟨by rw [tyList_length, semTList_length σ es xs hxs]; exact h.1, semTList_good σ hσ es xs h.2 hxs⟩
theorem semTList_good (σ : TEnv) (hσ : GoodEnv σ) :
    ∀ (es : List PExp) (vs : List TVal), inFragTList es = true → semTList σ es = some vs →
      tyGoodList (TVal.tyList vs) = true
  | [], vs, _, h => by simp only [semTList, Option.some.injEq] at h; rw [← h]; rfl
  | e :: es, vs, hf, h => by
    simp only [inFragTList, Bool.and_eq_true] at hf
    rw [semTList_cons] at h
    obtain ⟨x, hx, h⟩ := Option.bind_eq_some_iff.mp h
    obtain ⟨xs, hxs, rfl⟩ := Option.map_eq_some_iff.mp h
    simp only [TVal.tyList, tyGoodList, Bool.and_eq_true]
    exact ⟨semT_good σ hσ e hf.1 x hx, semTList_good σ hσ es xs hf.2 hxs⟩
end

end QV.Sem
