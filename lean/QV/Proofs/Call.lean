import QV.Model.Call
import QV.Proofs.BExp
import QV.Proofs.Assoc
/-!
In `renameAll_none`, `call_none_eq` the suffix means: the relevant flags off, `q` arbitrary.  `C07.call_composition` goes
`bindFunction_exps` → `compress_vals` → `vals_renamed` → `vals_congr` with `compEnv_actuals` → `ret_vals_eq_run`.
-/
namespace QV.Call

/-- definitionally `BExp.substEnv` -/
def compEnv (σ : String → Option BExp) (ρ : Env) : Env := fun n =>
  match σ n with
  | some r => r.eval ρ
  | none => ρ n

/-! ## `QV.Proofs.BExp` restated for `compEnv`; only `eval_subst` and `syms_subst` are used below -/

theorem eval_subst (σ : String → Option BExp) (ρ : Env) (e : BExp) :
    (e.subst σ).eval ρ = e.eval (compEnv σ ρ) := BExp.eval_subst σ ρ e
theorem evalAnd_subst (σ : String → Option BExp) (ρ : Env) :
    ∀ l : List BExp, evalAnd ρ (substList σ l) = evalAnd (compEnv σ ρ) l := BExp.evalAnd_subst σ ρ
theorem evalOr_subst (σ : String → Option BExp) (ρ : Env) :
    ∀ l : List BExp, evalOr ρ (substList σ l) = evalOr (compEnv σ ρ) l := BExp.evalOr_subst σ ρ
theorem evalXor_subst (σ : String → Option BExp) (ρ : Env) :
    ∀ l : List BExp, evalXor ρ (substList σ l) = evalXor (compEnv σ ρ) l := BExp.evalXor_subst σ ρ

theorem evalAnd_congr (ρ ρ' : Env) :
    ∀ l : List BExp, (∀ n ∈ symsList l, ρ n = ρ' n) → evalAnd ρ l = evalAnd ρ' l := BExp.evalAnd_congr ρ ρ'
theorem evalOr_congr (ρ ρ' : Env) :
    ∀ l : List BExp, (∀ n ∈ symsList l, ρ n = ρ' n) → evalOr ρ l = evalOr ρ' l := BExp.evalOr_congr ρ ρ'
theorem evalXor_congr (ρ ρ' : Env) :
    ∀ l : List BExp, (∀ n ∈ symsList l, ρ n = ρ' n) → evalXor ρ l = evalXor ρ' l := BExp.evalXor_congr ρ ρ'

theorem symsList_subst (σ : String → Option BExp) : ∀ l : List BExp, ∀ n, n ∈ symsList (substList σ l) →
    ∃ m ∈ symsList l, (σ m = none ∧ n = m) ∨ (∃ r, σ m = some r ∧ n ∈ r.syms) := by
  intro l n h
  rw [BExp.symsList_subst, List.mem_flatMap] at h
  exact h.imp fun m hm => ⟨hm.1, BExp.mem_image.mp hm.2⟩

theorem syms_subst (σ : String → Option BExp) (e : BExp) (n : String) (h : n ∈ (e.subst σ).syms) :
    ∃ m ∈ e.syms, (σ m = none ∧ n = m) ∨ (∃ r, σ m = some r ∧ n ∈ r.syms) := by
  rw [BExp.syms_subst, List.mem_flatMap] at h
  exact h.imp fun m hm => ⟨hm.1, BExp.mem_image.mp hm.2⟩

theorem eval_subst1 (x : String) (r e : BExp) (ρ : Env) :
    (subst1 x r e).eval ρ = e.eval (upd ρ x (r.eval ρ)) := by
  unfold subst1
  rw [eval_subst]
  congr 1
  funext n
  by_cases h : n = x <;> simp [compEnv, upd, h]

theorem syms_subst1 (x : String) (r e : BExp) (n : String) (h : n ∈ (subst1 x r e).syms) :
    n ∈ r.syms ∨ (n ∈ e.syms ∧ n ≠ x) := by
  obtain ⟨m, hm, hh⟩ := syms_subst _ e n h
  by_cases hx : m = x
  · simp [hx] at hh
    exact Or.inl hh
  · simp [hx] at hh
    exact Or.inr ⟨hh ▸ hm, hh ▸ hx⟩

theorem lookup_eq_get? : ∀ (L : Defs) (n : String), lookup L n = Assoc.get? L n
  | [], _ => rfl
  | (k, w) :: L, n => by
      rw [lookup, Assoc.get?_cons, lookup_eq_get? L n]
      by_cases h : n = k
      · simp [h]
      · simp [h, Ne.symm h]

theorem lookup_some_mem (L : Defs) (n : String) (v : BExp) (h : lookup L n = some v) : (n, v) ∈ L :=
  Assoc.get?_mem (lookup_eq_get? L n ▸ h)

theorem lookup_none_iff (L : Defs) (n : String) : lookup L n = none ↔ ∀ kv ∈ L, kv.1 ≠ n := by
  rw [lookup_eq_get?]; exact Assoc.get?_eq_none L n

theorem compEnv_nil (ρ : Env) : compEnv (lookup []) ρ = ρ := by
  funext n; simp [compEnv, lookup]

theorem eval_seqSubst : ∀ (L : Defs) (e : BExp) (ρ : Env),
    (∀ kv ∈ L, ∀ kv' ∈ L, kv'.1 ∉ kv.2.syms) →
    (seqSubst L e).eval ρ = e.eval (compEnv (lookup L) ρ)
  | [], e, ρ, _ => by simp [seqSubst, compEnv_nil]
  | (x, r) :: L, e, ρ, h => by
      have hL : ∀ kv ∈ L, ∀ kv' ∈ L, kv'.1 ∉ kv.2.syms := fun kv hkv kv' hkv' =>
        h kv (List.mem_cons_of_mem _ hkv) kv' (List.mem_cons_of_mem _ hkv')
      simp only [seqSubst]
      rw [eval_seqSubst L _ ρ hL, eval_subst1]
      have hr : r.eval (compEnv (lookup L) ρ) = r.eval ρ := by
        apply BExp.eval_congr
        intro n hn
        have : lookup L n = none := by
          rw [lookup_none_iff]
          intro kv hkv heq
          exact h (x, r) (by simp) kv (List.mem_cons_of_mem _ hkv) (heq ▸ hn)
        simp [compEnv, this]
      rw [hr]
      congr 1
      funext n
      simp only [upd, compEnv, lookup]
      split <;> simp

/-- sequential substitution, read by membership (so in any processing order) -/
theorem eval_seqSubst_of (L : Defs) (e : BExp) (ρ σ : Env)
    (hfree : ∀ kv ∈ L, ∀ kv' ∈ L, kv'.1 ∉ kv.2.syms)
    (hkey : ∀ kv ∈ L, σ kv.1 = kv.2.eval ρ)
    (hoth : ∀ n ∈ e.syms, (∀ kv ∈ L, kv.1 ≠ n) → σ n = ρ n) :
    (seqSubst L e).eval ρ = e.eval σ := by
  rw [eval_seqSubst L e ρ hfree]
  refine BExp.eval_congr _ _ e fun n hn => ?_
  simp only [compEnv]
  cases hl : lookup L n with
  | some v => exact (hkey _ (lookup_some_mem _ _ _ hl)).symm
  | none => exact (hoth n hn ((lookup_none_iff _ _).mp hl)).symm

theorem eval_simSubst (L : Defs) (e : BExp) (ρ : Env) :
    (simSubst L e).eval ρ = e.eval (compEnv (lookup L) ρ) := eval_subst _ ρ e

theorem syms_seqSubst : ∀ (L : Defs) (e : BExp) (n : String), n ∈ (seqSubst L e).syms →
    (∃ kv ∈ L, n ∈ kv.2.syms) ∨ (n ∈ e.syms ∧ ∀ kv ∈ L, kv.1 ≠ n)
  | [], e, n, h => by simp [seqSubst] at h; exact Or.inr ⟨h, by simp⟩
  | (x, r) :: L, e, n, h => by
      simp only [seqSubst] at h
      rcases syms_seqSubst L _ n h with ⟨kv, hkv, hn⟩ | ⟨hn, hk⟩
      · exact Or.inl ⟨kv, List.mem_cons_of_mem _ hkv, hn⟩
      · rcases syms_subst1 x r e n hn with hr | ⟨he, hx⟩
        · exact Or.inl ⟨(x, r), by simp, hr⟩
        · refine Or.inr ⟨he, ?_⟩
          intro kv hkv
          rcases List.mem_cons.mp hkv with rfl | hkv
          · exact fun h => hx h.symm
          · exact hk kv hkv

theorem dictSet_fresh (d : Defs) (k : String) (v : BExp) (h : ∀ kv ∈ d, kv.1 ≠ k) :
    dictSet d k v = d ++ [(k, v)] := Assoc.set_fresh v h

theorem lookup_dictSet (d : Defs) (k : String) (v : BExp) (n : String) :
    lookup (dictSet d k v) n = if n = k then some v else lookup d n := by
  rw [lookup_eq_get?, lookup_eq_get?]; exact Assoc.get?_set d k v n

theorem compEnv_dictSet (d : Defs) (s : String) (v : BExp) (ρ : Env) :
    compEnv (lookup (dictSet d s v)) ρ = upd (compEnv (lookup d) ρ) s (v.eval ρ) := by
  funext n
  simp only [compEnv, lookup_dictSet, upd]
  by_cases hn : n = s <;> simp [hn]

/-- for EVERY definition list (re-binding allowed, no
well-formedness needed): with one simultaneous replacement per definition the compressed expressions
evaluate, in `ρ`, to the values the definitions take when run sequentially from the environment
`d` induces on `ρ` -/
theorem compress_vals (q : Quirks) (hq : q.compressSequential = false) (ρ : Env) :
    ∀ (l d : Defs), (compressGo q d l).map (fun se => se.2.eval ρ) = vals (compEnv (lookup d) ρ) l
  | [], d => by simp [compressGo, vals]
  | (s, e) :: t, d => by
      have hs : compressSubst q d e = simSubst d e := by simp [compressSubst, hq]
      simp only [compressGo, vals, List.map_cons, hs]
      rw [compress_vals q hq ρ t, compEnv_dictSet, eval_simSubst]

theorem compress_names (q : Quirks) : ∀ (l d : Defs), (compressGo q d l).map (·.1) = l.map (·.1)
  | [], d => by simp [compressGo]
  | (s, e) :: t, d => by simp [compressGo, compress_names q t]

theorem compress_syms (q : Quirks) (hq : q.compressSequential = false) (A : List String) :
    ∀ (l d : Defs) (K : List String),
      Closed A K l →
      (∀ k ∈ K, lookup d k ≠ none) →
      (∀ kv ∈ d, ∀ n ∈ kv.2.syms, n ∈ A) →
      ∀ se ∈ compressGo q d l, ∀ n ∈ se.2.syms, n ∈ A
  | [], d, K, _, _, _ => by simp [compressGo]
  | (s, e) :: t, d, K, hcl, hK, hv => by
      obtain ⟨hes, hclt⟩ := hcl
      have hs : compressSubst q d e = simSubst d e := by simp [compressSubst, hq]
      have hsyms : ∀ n ∈ (simSubst d e).syms, n ∈ A := by
        intro n hn
        obtain ⟨m, hm, hh⟩ := syms_subst _ e n hn
        rcases hh with ⟨hnone, rfl⟩ | ⟨r, hsome, hr⟩
        · rcases hes n hm with hA | hk
          · exact hA
          · exact absurd hnone (hK n hk)
        · exact hv (m, r) (lookup_some_mem _ _ _ hsome) n hr
      have ih := compress_syms q hq A t (dictSet d s (simSubst d e)) (s :: K) hclt
        (by
          intro k hk
          rw [lookup_dictSet]
          by_cases hks : k = s
          · simp [hks]
          · simp only [hks, if_false]
            rcases List.mem_cons.mp hk with h | h
            · exact absurd h hks
            · exact hK k h)
        (by
          intro kv hkv
          rcases Assoc.mem_set hkv with h | h
          · subst h; exact hsyms
          · exact hv kv h)
      simp only [compressGo, hs, List.mem_cons]
      rintro se (rfl | hse)
      · exact hsyms
      · exact ih se hse

theorem mem_insertSorted (a : String × BExp) : ∀ (l : Defs) (kv : String × BExp),
    kv ∈ insertSorted a l ↔ kv = a ∨ kv ∈ l
  | [], kv => by simp [insertSorted]
  | h :: t, kv => by
      simp only [insertSorted]
      split
      · simp
      · rw [List.mem_cons, mem_insertSorted a t kv, List.mem_cons]; exact or_left_comm

theorem mem_sortKeys : ∀ (l : Defs) (kv : String × BExp), kv ∈ sortKeys l ↔ kv ∈ l
  | [], kv => by simp [sortKeys]
  | h :: t, kv => by simp [sortKeys, mem_insertSorted, mem_sortKeys t kv]


/-- the compression loop with flag `compressSequential` on (`e.subs(d_exp)`) is correct on
single-assignment lists (`Ok`): there no image mentions a key, so sequential = simultaneous.
`K` are the keys of `d`, `σ` is the environment the definitions so far have built -/
theorem compress_seq_vals (q : Quirks) (hq : q.compressSequential = true) (A : List String) (ρ : Env) :
    ∀ (l d : Defs) (K : List String) (σ : Env),
      Ok A K l →
      (∀ k, k ∈ K ↔ ∃ v, (k, v) ∈ d) →
      (∀ kv ∈ d, ∀ n ∈ kv.2.syms, n ∈ A) →
      (∀ k ∈ K, k ∉ A) →
      (∀ n ∈ A, σ n = ρ n) →
      (∀ kv ∈ d, σ kv.1 = kv.2.eval ρ) →
      (compressGo q d l).map (fun se => se.2.eval ρ) = vals σ l
  | [], _, _, _, _, _, _, _, _, _ => rfl
  | (s, e) :: t, d, K, σ, ⟨hsA, hsK, hes, hokt⟩, hK, hv, hKA, hσA, hσd => by
      have hmem : ∀ kv, kv ∈ sortKeys d → kv ∈ d := fun kv => (mem_sortKeys d kv).mp
      -- images are over `A`, keys are outside `A`
      have hfree : ∀ kv ∈ sortKeys d, ∀ kv' ∈ sortKeys d, kv'.1 ∉ kv.2.syms := fun kv hkv kv' hkv' h =>
        hKA kv'.1 ((hK _).mpr ⟨_, hmem _ hkv'⟩) (hv kv (hmem _ hkv) _ h)
      have hnotK : ∀ n, (∀ kv ∈ sortKeys d, kv.1 ≠ n) → n ∉ K := fun n hk hK' => by
        obtain ⟨v, hv'⟩ := (hK n).mp hK'
        exact hk (n, v) ((mem_sortKeys _ _).mpr hv') rfl
      have heval : (seqSubst (sortKeys d) e).eval ρ = e.eval σ :=
        eval_seqSubst_of _ e ρ σ hfree (fun kv hkv => hσd _ (hmem _ hkv)) fun n hn hk =>
          hσA n ((hes n hn).resolve_right (hnotK n hk))
      have hsyms : ∀ n ∈ (seqSubst (sortKeys d) e).syms, n ∈ A := by
        intro n hn
        rcases syms_seqSubst _ _ _ hn with ⟨kv, hkv, hm⟩ | ⟨hm, hk⟩
        · exact hv kv (hmem _ hkv) n hm
        · exact (hes n hm).resolve_right (hnotK n hk)
      have hds : dictSet d s (seqSubst (sortKeys d) e) = d ++ [(s, seqSubst (sortKeys d) e)] :=
        dictSet_fresh _ _ _ fun kv hkv heq => hsK ((hK s).mpr ⟨kv.2, heq ▸ hkv⟩)
      simp only [compressGo, compressSubst, hq, if_true, vals, List.map_cons, heval, hds]
      congr 1
      refine compress_seq_vals q hq A ρ t _ (s :: K) (upd σ s (e.eval σ)) hokt ?_ ?_ ?_ ?_ ?_
      · intro k
        rw [List.mem_cons, hK k]
        constructor
        · rintro (rfl | ⟨v, hv'⟩)
          · exact ⟨_, List.mem_append_right _ (List.mem_singleton.mpr rfl)⟩
          · exact ⟨v, List.mem_append_left _ hv'⟩
        · rintro ⟨v, hv'⟩
          exact (List.mem_append.mp hv').elim (fun h => .inr ⟨v, h⟩)
            fun h => .inl (Prod.mk.inj (List.mem_singleton.mp h)).1
      · exact fun kv hkv => (List.mem_append.mp hkv).elim (hv kv) fun h => List.mem_singleton.mp h ▸ hsyms
      · exact fun k hk => (List.mem_cons.mp hk).elim (· ▸ hsA) (hKA k)
      · intro n hn
        have : n ≠ s := fun h => hsA (h ▸ hn)
        simp only [upd, this, if_false, hσA n hn]
      · intro kv hkv
        rcases List.mem_append.mp hkv with h | h
        · have : kv.1 ≠ s := fun heq => hsK ((hK s).mpr ⟨kv.2, heq ▸ h⟩)
          simp only [upd, this, if_false, hσd kv h]
        · rw [List.mem_singleton.mp h]
          simp only [upd, if_true, heval]

theorem pref_inj (p : String) {a b : String} (h : pref p a = pref p b) : a = b := by
  unfold pref at h
  rw [String.append_assoc, String.append_assoc] at h
  exact (String.append_right_inj "_").mp ((String.append_right_inj p).mp h)

theorem mem_map_pref (p : String) {a : String} {A : List String} : pref p a ∈ A.map (pref p) ↔ a ∈ A :=
  ⟨fun h => by obtain ⟨b, hb, hp⟩ := List.mem_map.mp h; exact pref_inj p hp ▸ hb, List.mem_map_of_mem⟩

theorem symsList_renameSim (p : String) : ∀ l : List BExp,
    symsList (substList (fun n => some (.sym (pref p n))) l) = (symsList l).map (pref p) := by
  intro l
  rw [BExp.symsList_subst, List.map_eq_flatMap]
  rfl

theorem syms_renameSim (p : String) (e : BExp) : (renameSim p e).syms = e.syms.map (pref p) := by
  rw [renameSim, BExp.syms_subst, List.map_eq_flatMap]
  rfl

theorem eval_renameSim (p : String) (e : BExp) (ρ : Env) :
    (renameSim p e).eval ρ = e.eval (fun n => ρ (pref p n)) := eval_subst _ ρ e

/-- the renamed definition list of the repaired code -/
def renamed (p : String) (l : Defs) : Defs := l.map (fun se => (pref p se.1, renameSim p se.2))

theorem renameAll_none (q : Quirks) (hq : q.renameSequential = false) (p : String) :
    ∀ (os : List (List String)) (l : Defs), renameAll q p os l = renamed p l
  | _, [] => by simp [renameAll, renamed]
  | [], se :: t => by
      simp [renameAll, renamed, expRename, hq]
      exact renameAll_none q hq p [] t
  | o :: os, se :: t => by
      simp [renameAll, renamed, expRename, hq]
      exact renameAll_none q hq p os t

theorem bindFunction_exps (q : Quirks) (hq : q.renameSequential = false) (ords : List (List String))
    (f : LogicFun) :
    (bindFunction q ords f).exps = lastN f.ret.bitvec.length (compressGo q [] (renamed f.name f.exps)) := by
  simp only [bindFunction, renameAll_none q hq]

theorem Ok_closed (A : List String) : ∀ (l : Defs) (K : List String), Ok A K l → Closed A K l
  | [], _, _ => trivial
  | (s, _) :: t, K, ⟨_, _, h3, h4⟩ => ⟨h3, Ok_closed A t (s :: K) h4⟩

theorem Ok_fresh (A : List String) : ∀ (l : Defs) (K : List String), Ok A K l →
    ∀ se ∈ l, se.1 ∉ K
  | (s, _) :: t, K, ⟨_, h2, _, h4⟩, se, h => by
      rcases List.mem_cons.mp h with rfl | h
      · exact h2
      · exact fun hk => Ok_fresh A t (s :: K) h4 se h (List.mem_cons_of_mem _ hk)

theorem Ok_names_nodup (A : List String) : ∀ (l : Defs) (K : List String), Ok A K l →
    (l.map (·.1)).Pairwise (· ≠ ·)
  | [], _, _ => List.Pairwise.nil
  | (s, e) :: t, K, hok => by
      refine List.Pairwise.cons (fun n hn heq => ?_) (Ok_names_nodup A t (s :: K) hok.2.2.2)
      obtain ⟨se, hse, rfl⟩ := List.mem_map.mp hn
      exact Ok_fresh A t (s :: K) hok.2.2.2 se hse (heq ▸ List.mem_cons_self)

theorem closed_renameSim (p : String) {A K : List String} {e : BExp} (h : ∀ n ∈ e.syms, n ∈ A ∨ n ∈ K) :
    ∀ n ∈ (renameSim p e).syms, n ∈ A.map (pref p) ∨ n ∈ K.map (pref p) := by
  intro n hn
  rw [syms_renameSim] at hn
  obtain ⟨m, hm, rfl⟩ := List.mem_map.mp hn
  exact (h m hm).imp List.mem_map_of_mem List.mem_map_of_mem

theorem Ok_renamed (p : String) (A : List String) : ∀ (l : Defs) (K : List String),
    Ok A K l → Ok (A.map (pref p)) (K.map (pref p)) (renamed p l)
  | [], _, _ => trivial
  | (s, _) :: t, K, ⟨h1, h2, h3, h4⟩ =>
    ⟨mt (mem_map_pref p).mp h1, mt (mem_map_pref p).mp h2, closed_renameSim p h3, Ok_renamed p A t (s :: K) h4⟩

theorem Closed_renamed (p : String) (A : List String) : ∀ (l : Defs) (K : List String),
    Closed A K l → Closed (A.map (pref p)) (K.map (pref p)) (renamed p l)
  | [], _, _ => trivial
  | (s, _) :: t, K, ⟨h3, h4⟩ => ⟨closed_renameSim p h3, Closed_renamed p A t (s :: K) h4⟩

theorem vals_renamed (p : String) : ∀ (l : Defs) (σ : Env),
    vals σ (renamed p l) = vals (fun n => σ (pref p n)) l
  | [], _ => rfl
  | (s, e) :: t, σ => by
      have ih := vals_renamed p t (upd σ (pref p s) (e.eval fun n => σ (pref p n)))
      simp only [renamed, List.map_cons, vals, eval_renameSim] at ih ⊢
      rw [ih]
      congr 2
      funext n
      by_cases h : n = s
      · simp [upd, h]
      · have : pref p n ≠ pref p s := fun hh => h (pref_inj p hh)
        simp [upd, h, this]

theorem run_not_def : ∀ (t : Defs) (σ : Env) (s : String), (∀ se ∈ t, se.1 ≠ s) → run σ t s = σ s
  | [], _, _, _ => rfl
  | (s', e) :: t, σ, s, h => by
      have hs : s ≠ s' := fun hh => h (s', e) List.mem_cons_self hh.symm
      rw [run, run_not_def t _ s fun se hse => h se (List.mem_cons_of_mem _ hse)]
      simp only [upd, hs, if_false]

theorem vals_length : ∀ (l : Defs) (σ : Env), (vals σ l).length = l.length
  | [], _ => rfl
  | (s, e) :: t, σ => by simp only [vals, List.length_cons, vals_length t]

theorem drop_vals_eq_run : ∀ (l : Defs) (σ : Env) (j : Nat),
    ((l.drop j).map (·.1)).Pairwise (· ≠ ·) →
    (vals σ l).drop j = (l.drop j).map (fun se => run σ l se.1)
  | [], _, _, _ => by simp [vals]
  | (s, e) :: t, σ, 0, h => by
      simp only [List.drop_zero, List.map_cons, List.pairwise_cons] at h
      have ih := drop_vals_eq_run t (upd σ s (e.eval σ)) 0 h.2
      simp only [List.drop_zero] at ih
      simp only [List.drop_zero, vals, List.map_cons, run, ih]
      congr 1
      rw [run_not_def t _ s fun se hse heq => h.1 se.1 (List.mem_map_of_mem hse) heq.symm]
      simp only [upd, if_true]
  | (s, e) :: t, σ, j + 1, h => drop_vals_eq_run t _ j h

theorem lastN_eq_drop {α} (n : Nat) (l : List α) :
    lastN n l = l.drop (if n = 0 then 0 else l.length - n) := by
  unfold lastN
  split <;> rfl

theorem lastN_map {α β} (f : α → β) (n : Nat) (l : List α) : lastN n (l.map f) = (lastN n l).map f := by
  rw [lastN_eq_drop, lastN_eq_drop, List.length_map, List.map_drop]

theorem mem_lastN {α} (n : Nat) (l : List α) (x : α) (h : x ∈ lastN n l) : x ∈ l :=
  List.mem_of_mem_drop (lastN_eq_drop n l ▸ h)

theorem lastN_vals_eq_run (k : Nat) (l : Defs) (σ : Env)
    (h : ((lastN k l).map (·.1)).Pairwise (· ≠ ·)) :
    lastN k (vals σ l) = (lastN k l).map (fun se => run σ l se.1) := by
  rw [lastN_eq_drop] at h
  rw [lastN_eq_drop, lastN_eq_drop, vals_length]
  exact drop_vals_eq_run l σ _ h

theorem ret_vals_eq_run (bits : List String) (l : Defs) (σ : Env)
    (hlast : (lastN bits.length l).map (·.1) = bits) (hnodup : bits.Pairwise (· ≠ ·)) :
    lastN bits.length (vals σ l) = bits.map (run σ l) := by
  rw [lastN_vals_eq_run _ _ _ (hlast.symm ▸ hnodup)]
  conv => rhs; rw [← hlast]
  rw [List.map_map]
  rfl

theorem vals_eq_run (A : List String) : ∀ (l : Defs) (K : List String) (σ : Env), Ok A K l →
    vals σ l = l.map (fun se => run σ l se.1) := fun l K σ hok => by
  simpa using drop_vals_eq_run l σ 0 (Ok_names_nodup A l K hok)

theorem vals_congr (A : List String) : ∀ (l : Defs) (K : List String) (σ σ' : Env), Closed A K l →
    (∀ n, n ∈ A ∨ n ∈ K → σ n = σ' n) → vals σ l = vals σ' l
  | [], _, _, _, _, _ => by simp [vals]
  | (s, e) :: t, K, σ, σ', ⟨h3, h4⟩, h => by
      have he : e.eval σ = e.eval σ' := BExp.eval_congr _ _ e (fun n hn => h n (h3 n hn))
      simp only [vals]
      rw [he, vals_congr A t (s :: K) (upd σ s (e.eval σ')) (upd σ' s (e.eval σ')) h4]
      intro n hn
      by_cases hs : n = s
      · simp [upd, hs]
      · simp only [upd, hs, if_false]
        rcases hn with hn | hn
        · exact h n (Or.inl hn)
        · rcases List.mem_cons.mp hn with hn | hn
          · exact absurd hn hs
          · exact h n (Or.inr hn)

theorem foldl_dictSet_fresh : ∀ (pairs d : Defs),
    (pairs.map (·.1)).Pairwise (· ≠ ·) →
    (∀ kv ∈ d, ∀ kv' ∈ pairs, kv.1 ≠ kv'.1) →
    pairs.foldl (fun d kv => dictSet d kv.1 kv.2) d = d ++ pairs
  | [], d, _, _ => by simp
  | (k, v) :: ps, d, hp, hd => by
      simp only [List.map_cons, List.pairwise_cons] at hp
      simp only [List.foldl_cons]
      rw [dictSet_fresh d k v (fun kv hkv => hd kv hkv (k, v) (by simp)),
        foldl_dictSet_fresh ps _ hp.2]
      · simp
      · intro kv hkv kv' hkv'
        rcases List.mem_append.mp hkv with h | h
        · exact hd kv h kv' (List.mem_cons_of_mem _ hkv')
        · simp at h; subst h
          exact hp.1 kv'.1 (List.mem_map.mpr ⟨kv', hkv', rfl⟩)

theorem mkDict_eq (pairs : Defs) (h : (pairs.map (·.1)).Pairwise (· ≠ ·)) : mkDict pairs = pairs := by
  unfold mkDict
  rw [foldl_dictSet_fresh pairs [] h (by simp)]
  simp

theorem compEnv_zip (ρ : Env) : ∀ (bits : List String) (acts : List BExp), bits.length = acts.length →
    ∀ n ∈ bits, compEnv (lookup (bits.zip acts)) ρ n = zipEnv bits (acts.map (·.eval ρ)) n
  | [], _, _, n, h => by simp at h
  | b :: bs, [], hl, _, _ => by simp at hl
  | b :: bs, a :: as, hl, n, hn => by
      simp only [List.zip_cons_cons, List.map_cons, zipEnv, compEnv, lookup]
      by_cases hb : n = b
      · simp [hb]
      · simp only [hb, if_false]
        have hn' : n ∈ bs := by
          rcases List.mem_cons.mp hn with h | h
          · exact absurd h hb
          · exact h
        exact compEnv_zip ρ bs as (by simpa using hl) n hn'

theorem Shaped_length : ∀ (fas : List Arg) (as : List Actual), Shaped fas as → as.length = fas.length
  | [], [], _ => rfl
  | [], _ :: _, h => by simp [Shaped] at h
  | _ :: _, [], h => by simp [Shaped] at h
  | fa :: fas, a :: as, h => by simp [Shaped_length fas as h.2]

theorem allPairs_shaped (q : Quirks) (hq : q.argIndexFromName = false) :
    ∀ (fas : List Arg) (as : List Actual), Shaped fas as →
      allPairs q fas as = .ok ((fas.map (·.bitvec)).flatten.zip (actualBits as)) ∧
      (fas.map (·.bitvec)).flatten.length = (actualBits as).length
  | [], [], _ => by simp [allPairs, actualBits]
  | [], _ :: _, h => by simp [Shaped] at h
  | _ :: _, [], h => by simp [Shaped] at h
  | fa :: fas, a :: as, ⟨h1, h2⟩ => by
      obtain ⟨ih1, ih2⟩ := allPairs_shaped q hq fas as h2
      have hp : actualPairs q fa a = .ok (fa.bitvec.zip a.bits) := by
        simp [actualPairs, hq, h1]
      unfold actualBits at ih1 ih2 ⊢
      simp only [allPairs, hp, ih1, List.map_cons, List.flatten_cons]
      rw [List.zip_append h1.symm]
      simp [List.length_append, ih2, h1]

theorem Shaped_rename (p : String) : ∀ (fas : List Arg) (as : List Actual), Shaped fas as →
    Shaped (fas.map (argRename p)) as
  | [], [], _ => by simp [Shaped]
  | [], _ :: _, h => by simp [Shaped] at h
  | _ :: _, [], h => by simp [Shaped] at h
  | fa :: fas, a :: as, ⟨h1, h2⟩ => by
      simp only [List.map_cons, Shaped]
      exact ⟨by simp [argRename, h1], Shaped_rename p fas as h2⟩

theorem argBits_rename (p : String) (args : List Arg) :
    ((args.map (argRename p)).map (·.bitvec)).flatten = ((args.map (·.bitvec)).flatten).map (pref p) := by
  induction args with
  | nil => simp
  | cons a t ih =>
      simp only [List.map_cons, List.flatten_cons, List.map_append]
      rw [ih]; rfl

theorem zipEnv_map (p : String) : ∀ (bits : List String) (vs : List Bool) (n : String),
    zipEnv (bits.map (pref p)) vs (pref p n) = zipEnv bits vs n
  | [], _, _ => by simp [zipEnv]
  | _ :: _, [], _ => by simp [zipEnv]
  | b :: bs, v :: vs, n => by
      simp only [List.map_cons, zipEnv]
      by_cases h : n = b
      · simp [h]
      · have : pref p n ≠ pref p b := fun hh => h (pref_inj p hh)
        simp [h, this, zipEnv_map p bs vs n]

theorem lookup_zip_some : ∀ (bits : List String) (acts : List BExp), bits.length = acts.length →
    ∀ n ∈ bits, ∃ r ∈ acts, lookup (bits.zip acts) n = some r
  | [], _, _, n, h => by simp at h
  | b :: bs, [], hl, _, _ => by simp at hl
  | b :: bs, a :: as, hl, n, hn => by
      simp only [List.zip_cons_cons, lookup]
      by_cases hb : n = b
      · exact ⟨a, by simp, by simp [hb]⟩
      · have hn' : n ∈ bs := by
          rcases List.mem_cons.mp hn with h | h
          · exact absurd h hb
          · exact h
        obtain ⟨r, hr, hl'⟩ := lookup_zip_some bs as (by simpa using hl) n hn'
        exact ⟨r, List.mem_cons_of_mem _ hr, by simp [hb, hl']⟩

theorem compEnv_actuals (ρ : Env) (p : String) (bits : List String) (acts : List BExp)
    (hl : (bits.map (pref p)).length = acts.length) (n : String) (hn : n ∈ bits) :
    compEnv (lookup ((bits.map (pref p)).zip acts)) ρ (pref p n) = zipEnv bits (acts.map (·.eval ρ)) n := by
  rw [compEnv_zip ρ _ _ hl _ (List.mem_map.mpr ⟨n, hn, rfl⟩), zipEnv_map]

/-- what the repaired call site computes on the bound callee: one simultaneous substitution of the actual bits
for the (prefixed) formal bits in each of its expressions -/
theorem call_none_eq (q : Quirks) (hq1 : q.argIndexFromName = false) (hq2 : q.subsSequential = false)
    (f : LogicFun) (ords : List (List String)) (actuals : List Actual)
    (hwf : WF f) (hsh : Shaped f.args actuals) :
    callSite q (bindFunction q ords f) actuals =
      .ok ((bindFunction q ords f).exps.map
        (fun se => simSubst (((argBits f).map (pref f.name)).zip (actualBits actuals)) se.2))
    ∧ ((argBits f).map (pref f.name)).length = (actualBits actuals).length := by
  have hlen := Shaped_length _ _ (Shaped_rename f.name _ _ hsh)
  obtain ⟨hp, hl⟩ := allPairs_shaped q hq1 _ _ (Shaped_rename f.name _ _ hsh)
  rw [argBits_rename] at hp hl
  have hl' : ((argBits f).map (pref f.name)).length = (actualBits actuals).length := hl
  have hp' : allPairs q (List.map (argRename f.name) f.args) actuals =
      .ok (((argBits f).map (pref f.name)).zip (actualBits actuals)) := hp
  have hkeys : ((((argBits f).map (pref f.name)).zip (actualBits actuals)).map (·.1)).Pairwise (· ≠ ·) := by
    have := @List.map_fst_zip _ _ ((argBits f).map (pref f.name)) (actualBits actuals) (Nat.le_of_eq hl')
    show List.Pairwise _ (List.map Prod.fst _)
    rw [this]
    exact List.Pairwise.map _ (fun a b hab hh => hab (pref_inj _ hh)) hwf.argsNodup
  refine ⟨?_, hl'⟩
  unfold callSite
  simp only [bindFunction, hlen, bne_self_eq_false, Bool.false_eq_true, if_false]
  rw [hp']
  simp only [callSubst, hq2, Bool.false_eq_true, if_false, mkDict_eq _ hkeys]

/-- the definitions the environment holds under the name `n`, oldest first -/
def bindings (defs : List LogicFun) (n : String) : List LogicFun := defs.filter (fun d => d.name == n)

theorem mem_bindings {defs : List LogicFun} {n : String} {d : LogicFun} :
    d ∈ bindings defs n ↔ d ∈ defs ∧ d.name = n := by simp [bindings]

theorem bindings_eq_nil {defs : List LogicFun} {n : String} (h : ∀ d ∈ defs, d.name ≠ n) :
    bindings defs n = [] := by simpa [bindings, List.filter_eq_nil_iff] using h

theorem resolve_eq (defs : List LogicFun) (n : String) :
    resolve defs n = match bindings defs n with | [d] => some d | _ => none := by
  unfold resolve knowFunction getDef
  rw [← List.head?_filter]
  show (if (bindings defs n).length == 1 then (bindings defs n).head? else none) = _
  rcases bindings defs n with _ | ⟨d, _ | ⟨d', l⟩⟩ <;> simp

theorem bindings_envBind {q : Quirks} {types : List String} {defs defs' : List LogicFun}
    {ords : List (List String)} {f : LogicFun} (h : envBind q types defs ords f = .ok defs') (n : String) :
    bindings defs' n = bindings defs n ++ if f.name = n then [bindFunction q ords f] else [] := by
  unfold envBind at h
  split at h
  · cases h
  · cases h
    by_cases hn : f.name = n <;> simp [bindings, List.filter_append, bindFunction, hn]

end QV.Call
