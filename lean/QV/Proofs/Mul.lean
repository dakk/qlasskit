import QV.Proofs.Arith
/-! `qMul_spec` and `qMod_spec` (with `qSub_spec` of `QV/Proofs/Arith.lean`) are what the proof about the translator uses
for `*`, `%`, `-`; `QV/Props/C01.lean` states them again as `mul_spec`, `mod_spec`, `sub_spec`. -/
namespace QV.Arith

theorem evalBits_set (ρ : Env) (l : List BExp) (k : Nat) (b : BExp) :
    evalBits ρ (l.set k b) = (evalBits ρ l).set k (b.eval ρ) :=
  List.map_set

theorem evalBits_getD (ρ : Env) (l : List BExp) (k : Nat) :
    (evalBits ρ l).getD k false = (l.getD k .ff).eval ρ := by
  induction l generalizing k with
  | nil => rfl
  | cons a as ih => cases k with
    | zero => rfl
    | succ k => exact ih k

theorem mulRow_length (li : BExp) (last : Nat) (rs : List BExp) (c : BExp) (k : Nat) (product : List BExp) :
    (mulRow li last c k rs product).length = product.length := by
  induction rs generalizing c k product with
  | nil => exact List.length_set
  | cons rj rs ih => rw [mulRow]; split <;> rw [ih, List.length_set]

theorem bitN_and (a b : Bool) : bitN (a && b) = bitN a * bitN b := by
  cases a <;> cases b <;> rfl

/-- a row of the schoolbook loop is the ripple adder writing over the product in place: below `k` untouched, then
the sum bits of `l_i * r` and the old product bits, the carry over the next bit `z`, the rest untouched -/
theorem mulRow_append (li : BExp) (last : Nat) (rs : List BExp) :
    ∀ (c : BExp) (A S : List BExp) (z : BExp) (T : List BExp), S.length = rs.length → A.length + rs.length ≤ last →
      mulRow li last c A.length rs (A ++ (S ++ z :: T))
        = A ++ (addLoop c (rs.map fun rj => .and [li, rj]) S
            ++ carryOut c (rs.map fun rj => .and [li, rj]) S :: T) := by
  induction rs with
  | nil =>
    intro c A S z T hS _
    obtain rfl := List.length_eq_zero_iff.1 hS
    simp [mulRow, addLoop, carryOut]
  | cons rj rs ih =>
    intro c A S z T hS hl
    cases S with
    | nil => simp at hS
    | cons b S =>
      have := ih (fullAdder c (.and [li, rj]) b).1 (A ++ [(fullAdder c (.and [li, rj]) b).2]) S z T
        (by simpa using hS) (by simp at hl ⊢; omega)
      simp only [List.length_append, List.length_singleton, List.append_assoc, List.singleton_append] at this
      rw [mulRow, if_pos (by simp at hl; omega)]
      simp only [List.getD_eq_getElem?_getD, List.getElem?_append_right (Nat.le_refl _), Nat.sub_self,
        List.cons_append, List.getElem?_cons_zero, Option.getD_some, List.set_append_right _ _ (Nat.le_refl _),
        List.set_cons_zero, this, List.map_cons, addLoop, carryOut]

theorem cut3 {α} (d : α) (P : List α) (k m : Nat) (h : k + m < P.length) :
    ∃ A S T, P = A ++ (S ++ P.getD (k + m) d :: T) ∧ A.length = k ∧ S.length = m := by
  refine ⟨P.take k, (P.drop k).take m, P.drop (k + m + 1), ?_, List.length_take_of_le (by omega),
    by rw [List.length_take, List.length_drop]; omega⟩
  have hg : P.getD (k + m) d = P[k + m] := by rw [List.getD_eq_getElem?_getD, List.getElem?_eq_getElem h]; rfl
  rw [hg, ← List.drop_eq_getElem_cons h, ← List.drop_drop, List.take_append_drop, List.take_append_drop]

theorem val_map_and (ρ : Env) (li : BExp) (rs : List BExp) :
    val ρ (rs.map fun rj => .and [li, rj]) = bitN (li.eval ρ) * val ρ rs := by
  induction rs with
  | nil => rfl
  | cons rj rs ih =>
    rw [List.map_cons, val_cons, val_cons, ih, show (BExp.and [li, rj]).eval ρ = (li.eval ρ && rj.eval ρ) by
      simp [BExp.eval, evalAnd], bitN_and]; ring

/-- the row adds `carry + l_i * r` at offset `k`, provided the bit at `k + |r|`, which the final carry overwrites,
is still 0 -/
theorem mulRow_val (ρ : Env) (li : BExp) (last : Nat) (rs : List BExp) (c : BExp) (k : Nat)
    (product : List BExp) (h1 : k + rs.length < product.length) (h2 : k + rs.length ≤ last)
    (h0 : (product.getD (k + rs.length) .ff).eval ρ = false) :
    val ρ (mulRow li last c k rs product)
      = val ρ product + 2 ^ k * (bitN (c.eval ρ) + bitN (li.eval ρ) * val ρ rs) := by
  obtain ⟨A, S, T, e, rfl, hS⟩ := cut3 .ff product _ _ h1
  generalize product.getD _ _ = z at e h0
  subst e
  have ex := addLoop_exact ρ c (rs.map fun rj => .and [li, rj]) S (by rw [List.length_map, hS])
  rw [List.length_map, val_map_and] at ex
  rw [mulRow_append li last rs c A S z T hS h2]
  simp only [val_append, val_cons, h0, bitN_false, addLoop_length, List.length_map, hS, Nat.min_self]
  rw [Nat.mul_add (2 ^ rs.length), ← Nat.add_assoc, ex]
  ring

theorem mulRows_val (ρ : Env) (r : List BExp) (last : Nat) (ls : List BExp) (i : Nat) (product : List BExp)
    (hlen : product.length = i + ls.length + r.length) (hlast : last = product.length - 1)
    (hb : val ρ product < 2 ^ (i + r.length)) :
    val ρ (mulRows r last i ls product) = val ρ product + 2 ^ i * (val ρ ls * val ρ r) ∧
    (mulRows r last i ls product).length = product.length := by
  induction ls generalizing i product with
  | nil => rw [mulRows, val_nil, Nat.zero_mul, Nat.mul_zero]; exact ⟨rfl, rfl⟩
  | cons li ls ih =>
    rw [List.length_cons] at hlen
    rw [mulRows]
    obtain ⟨row, hrow⟩ : ∃ x, x = mulRow li last .ff i r product := ⟨_, rfl⟩
    rw [← hrow]
    have hrl : row.length = product.length := by rw [hrow, mulRow_length]
    -- `val product < 2^(i+|r|)`: the bit at `i + |r|` is still 0, and the row keeps the value below `2^(i+1+|r|)`
    have hv : val ρ row = val ρ product + 2 ^ i * (bitN (li.eval ρ) * val ρ r) := by
      rw [hrow, mulRow_val ρ li last r .ff i product (by omega) (by omega)
        (by rw [← evalBits_getD]; exact valLE_lt_getD hb)]
      exact congrArg (fun x => _ + 2 ^ i * x) (Nat.zero_add _)
    have hle : bitN (li.eval ρ) * val ρ r < 2 ^ r.length := by
      have := val_lt ρ r
      cases li.eval ρ <;> simp only [bitN_true, bitN_false, Nat.zero_mul, Nat.one_mul] <;> omega
    have hm := (Nat.mul_lt_mul_left (Nat.pow_pos (by decide : 0 < 2) (n := i))).2 hle
    rw [← Nat.pow_add] at hm
    have hb' : val ρ row < 2 ^ (i + 1 + r.length) := by
      rw [hv, Nat.add_right_comm i 1, Nat.pow_succ, Nat.mul_two]; exact Nat.add_lt_add hb hm
    obtain ⟨h1, h2⟩ := ih (i + 1) row (by rw [hrl, hlen]; omega) (by rw [hrl]; exact hlast) hb'
    refine ⟨?_, by rw [h2, hrl]⟩
    rw [h1, hv, val_cons, Nat.pow_succ]
    ring

theorem val_schoolbook (ρ : Env) (l r : List BExp) :
    val ρ (schoolbook l r) = val ρ l * val ρ r ∧ (schoolbook l r).length = l.length + r.length := by
  have hz := val_replicate_ff ρ (l.length + r.length)
  have h := mulRows_val ρ r (l.length + r.length - 1) l 0 (List.replicate (l.length + r.length) .ff)
    (by simp) (by simp) (by rw [hz]; exact Nat.pow_pos (by decide))
  rw [hz, List.length_replicate, Nat.pow_zero, Nat.one_mul, Nat.zero_add] at h
  exact h

/-! ### `QintImp.mul` with every product through the schoolbook loop (`Quirks.none`) -/

theorem crop_fill_length (t : Nat) (l : List BExp) : (crop t (fill t l)).length = t := by
  rw [crop_length, fill_length]; omega

theorem val_crop_fill (ρ : Env) (t : Nat) (l : List BExp) :
    val ρ (crop t (fill t l)) = val ρ l % 2 ^ t := by
  rw [val_crop, val_fill]

/-- the conditional fills in front of `mul` do not change the value -/
theorem val_ite_fill (ρ : Env) (c : Prop) [Decidable c] (n : Nat) (x : List BExp) :
    val ρ (if c then fill n x else x) = val ρ x := by
  split
  · exact val_fill ρ n x
  · rfl

/-- and they leave the length between the old one and `max n |x|` -/
theorem ite_fill_length (c : Prop) [Decidable c] (n : Nat) (x : List BExp) :
    x.length ≤ (if c then fill n x else x).length ∧ (if c then fill n x else x).length ≤ max n x.length := by
  split
  · rw [fill_length]; omega
  · omega

theorem qMul_spec (ρ : Env) (cl cr : Bool) (nl nr : Nat) (l r : List BExp) :
    val ρ (qMul Quirks.none cl cr nl nr l r).2
      = (val ρ l * val ρ r) % 2 ^ (qMul Quirks.none cl cr nl nr l r).1 ∧
    (qMul Quirks.none cl cr nl nr l r).2.length = (qMul Quirks.none cl cr nl nr l r).1 ∧
    (l.length = nl → r.length = nr →
      (qMul Quirks.none cl cr nl nr l r).1 = mulSizing (max nl nr) (max nl nr)) := by
  have hq : Quirks.none.mulEvenConst = false := rfl
  simp only [qMul, hq, Bool.false_and, Bool.false_eq_true, if_false]
  refine ⟨?_, crop_fill_length _ _, ?_⟩
  · rw [val_crop_fill, (val_schoolbook ρ _ _).1]
    simp only [val_ite_fill]
  · intro h1 h2
    -- both sizes are the larger of the two operand lengths after the constant fills, and that is `max nl nr`
    have hn (a b : Nat) : (if a < b then b else a) = max a b := by split <;> omega
    have hm (a b : Nat) : (if a > b then a else b) = max a b := by split <;> omega
    have hl := ite_fill_length (cl = true) nr l
    have hr := ite_fill_length (cr = true) nl r
    rw [hn, hm, show max (if cl = true then fill nr l else l).length (if cr = true then fill nl r else r).length
      = max nl nr by omega]

theorem val_and_mask (ρ : Env) (l s : List BExp) (k : Nat) (hs : val ρ s + 1 = 2 ^ k) :
    val ρ (bitwiseGeneric opAnd l s) = val ρ l % 2 ^ k := by
  have e : valLE (evalBits ρ (widenR l s)) = 2 ^ k - 1 := by have := val_widenR ρ l s; unfold val at this hs; omega
  rw [bitwiseGeneric, val, evalBits_zipWith ρ (opAnd_eval ρ), valLE_zipWith_and, e, Nat.and_two_pow_sub_one_eq_mod]
  exact congrArg (· % 2 ^ k) (val_widenL ρ l s)

/-- the digit string `bin(x)[2:][::-1]` of a value below `2^w` has at most `w` digits and value `x` -/
theorem natBitsLE_spec (ρ : Env) (w : Nat) :
    ∀ (f x : Nat), x < 2 ^ w → 0 < w → w ≤ f →
      val ρ (natBitsLE f x) = x ∧ (natBitsLE f x).length ≤ w := by
  induction w with
  | zero => intro f x _ h _; omega
  | succ w ih =>
    intro f x hx _ hwf
    cases f with
    | zero => omega
    | succ f =>
      have hbit : bitN ((if x % 2 == 1 then BExp.tt else BExp.ff).eval ρ) = x % 2 := by
        rw [← mod2_bit x]; split <;> rfl
      unfold natBitsLE
      split
      · next h2 =>
        rw [Nat.mod_eq_of_lt h2] at hbit
        exact ⟨by rw [val_cons, hbit]; rfl, Nat.succ_le_succ (Nat.zero_le _)⟩
      · next h2 =>
        rw [Nat.pow_succ] at hx
        have hw' : 0 < w := by
          rcases Nat.eq_zero_or_pos w with rfl | h0
          · omega
          · exact h0
        obtain ⟨h3, h4⟩ := ih f (x / 2) (by omega) hw' (by omega)
        exact ⟨by rw [val_cons, h3, hbit]; omega, Nat.succ_le_succ h4⟩

theorem qintConst_spec (ρ : Env) (w v : Nat) (hw : 0 < w) :
    val ρ (qintConst w v) = v % 2 ^ w ∧ (qintConst w v).length = w := by
  obtain ⟨h1, h2⟩ := natBitsLE_spec ρ w (w + 1) (v % 2 ^ w) (Nat.mod_lt _ (Nat.pow_pos (by decide))) hw
    (by omega)
  exact ⟨by rw [qintConst, val_fill, h1], by rw [qintConst, fill_length]; omega⟩

theorem qMod_spec (ρ : Env) (nr : Nat) (l r : List BExp) (k : Nat) (hn : 0 < nr)
    (hr : val ρ r = 2 ^ k) :
    val ρ (qMod Quirks.none nr l r) = val ρ l % 2 ^ k ∧
    (qMod Quirks.none nr l r).length = max l.length (max nr r.length) := by
  obtain ⟨hc, hcl⟩ := qintConst_spec ρ nr 1 hn
  obtain ⟨hs, hsl⟩ := qSub_spec ρ nr r (qintConst nr 1)
  rw [hcl, Nat.max_comm r.length nr, ← Nat.max_assoc, Nat.max_self] at hs hsl
  refine ⟨val_and_mask ρ l _ k ?_, by rw [qMod, bitwiseGeneric_length, hsl]⟩
  -- the mask is `r - 1` without wrap-around: `1 ≤ 2^k = val r < 2^|r| ≤ 2^W`
  have hlt : 2 ^ k < 2 ^ max nr r.length :=
    hr ▸ Nat.lt_of_lt_of_le (val_lt ρ r) (Nat.pow_le_pow_right (by decide) (Nat.le_max_right _ _))
  have hk : 0 < 2 ^ k := Nat.pow_pos (by decide)
  rw [hs, hc, hr, Nat.mod_eq_of_lt (Nat.one_lt_two_pow (Nat.pos_iff_ne_zero.1 hn)), Nat.sub_add_comm hk,
    Nat.add_mod_right, Nat.mod_eq_of_lt (Nat.lt_of_le_of_lt (Nat.sub_le _ _) hlt)]
  exact Nat.sub_add_cancel hk

end QV.Arith
