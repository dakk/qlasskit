import QV.Props.C06
import QV.Model.Grover
import QV.Proofs.Algo
/-!
# From the compiler model to the algorithm theorems (C15 / C16 end to end)

`QV.C15.C15_full` and `QV.C16.C16_full` are about every oracle gate list that satisfies a clean-oracle hypothesis
(`QV.Grover.CleanXorOracle`, `QV.Amp.XorOracle`, `QV.Amp.FunOracle`); C02/C03/C06 prove about the model of the
compiler that a successful compilation of a definition list of a decidable class is such an oracle
(`QV.C06.XorOracle`, `C02.Correct`, C03's cleanliness).  The oracle predicates speak of the same gates and the same
`runClassical`; they differ in how a basis state is written (`(initState x nq).set q y`, `oracleState nq q x y`,
`x ++ embed (nq - n) (q - n) y`).  The Bool-valued checks of a run's result (`runCheck`, `retsCheck`) let the kernel
evaluate `compile` on the concrete programs of `Props/C15.lean`, `Props/C16.lean`.
-/
namespace QV.EndToEnd
open QV QV.Compiler

theorem cleanXorOracle_congr {n nq ret : Nat} {og : List AGate} {f f' : BState → Bool}
    (h : Grover.CleanXorOracle n nq ret og f) (hff : ∀ x : BState, x.length = n → f x = f' x) :
    Grover.CleanXorOracle n nq ret og f' := by
  obtain ⟨h1, h2, h3, h4, h5, h6⟩ := h
  refine ⟨h1, h2, h3, h4, h5, ?_⟩
  intro x hx r
  rw [← hff x hx]
  exact h6 x hx r

/-- C06's `XorOracle` ⇒ C15's `CleanXorOracle`: the basis states `(initState x nq).set q y` and
`oracleState nq q x y` are the same list -/
theorem cleanXorOracle_of_xorOracle {gs : List AGate} {nq n q : Nat} {f : List Bool → Bool}
    (hge : n ≤ q) (hlt : q < nq)
    (hwf : ∀ g ∈ gs, g.cls.isMCXLike = true ∧ g.wires.Nodup ∧ (∀ w ∈ g.wires, w < nq))
    (hX : C06.XorOracle gs nq n q f) : Grover.CleanXorOracle n nq q gs f := by
  refine ⟨hge, hlt, ?_, fun g hg => (hwf g hg).2.2, fun g hg => (hwf g hg).2.1, ?_⟩
  · simp only [allClassical, List.all_eq_true, Bool.or_eq_true]
    exact fun g hg => Or.inl (hwf g hg).1
  · intro x hx r
    exact hX x r hx

/-- what `QCircuit.append` admits is what the amplitude semantics of C16 needs of a black box -/
theorem wfOracle_of_wf {gs : List AGate} {nq : Nat}
    (hwf : ∀ g ∈ gs, g.cls.isMCXLike = true ∧ g.wires.Nodup ∧ (∀ w ∈ g.wires, w < nq)) :
    Amp.wfOracle gs = true := by
  simp only [Amp.wfOracle, List.all_eq_true]
  exact fun g hg => Amp.wfGate_iff.mpr (Or.inl ⟨(hwf g hg).1, (hwf g hg).2.1⟩)

/-- C06's `XorOracle` ⇒ C16's `XorOracle` on the `m = nq - n` non-argument qubits with the result qubit at offset
`k = q - n` -/
theorem algoXorOracle_of_xorOracle {gs : List AGate} {nq n q : Nat} {f : List Bool → Bool}
    (hge : n ≤ q)
    (hwf : ∀ g ∈ gs, g.cls.isMCXLike = true ∧ g.wires.Nodup ∧ (∀ w ∈ g.wires, w < nq))
    (hX : C06.XorOracle gs nq n q f) : Amp.XorOracle gs n (nq - n) (q - n) f := by
  refine ⟨wfOracle_of_wf hwf, ?_⟩
  · intro x r hx
    have := hX x r hx
    rw [Amp.initState_set x nq q r (by omega), Amp.initState_set x nq q _ (by omega), hx] at this
    exact this

/-- a clean xor-oracle of a one-bit function is a Simon black box for `x ↦ (0…, f x, …0)` -/
theorem funOracle_of_xorOracle {gs : List AGate} {n m k : Nat} {f : List Bool → Bool}
    (hO : Amp.XorOracle gs n m k f) : Amp.FunOracle gs n m (fun x => Amp.embed m k (f x)) := by
  refine ⟨hO.1, fun x hx => ⟨Amp.embed_length m k _, ?_⟩⟩
  have := hO.2 x false hx
  rw [Amp.embed_false] at this
  simpa using this

theorem period_embed {n m k : Nat} (hk : k < m) {f : List Bool → Bool} {s : List Bool}
    (hs : s.length = n) (hz : s ≠ Amp.zeros n)
    (hp : ∀ x x' : List Bool, x.length = n → x'.length = n → (f x = f x' ↔ (x' = x ∨ x' = Amp.xorBits x s))) :
    Amp.Period n (fun x => Amp.embed m k (f x)) s := by
  refine ⟨hs, hz, fun x x' hx hx' => ?_⟩
  rw [← hp x x' hx hx']
  exact ⟨fun h => Amp.embed_inj hk h, fun h => by simp only [h]⟩

theorem funOracle_of_final {gs : List AGate} {nq n : Nat} {F : List Bool → List Bool}
    (hwf : ∀ g ∈ gs, g.cls.isMCXLike = true ∧ g.wires.Nodup ∧ (∀ w ∈ g.wires, w < nq))
    (hF : ∀ x : List Bool, x.length = n → (F x).length = nq - n ∧ runClassical gs (initState x nq) = x ++ F x) :
    Amp.FunOracle gs n (nq - n) F := by
  refine ⟨wfOracle_of_wf hwf, fun x hx => ?_⟩
  have hz : x ++ Amp.zeros (nq - n) = initState x nq := by rw [initState, Amp.zeros, hx]
  rw [hz]
  exact hF x hx

/-- Simon black box: `F x` is everything the gate list leaves on the `nq - n` other qubits (return bits and scratch) -/
theorem funOracle_of_targets {gs : List AGate} {nq n : Nat} (hn : n ≤ nq)
    (hwf : ∀ g ∈ gs, g.cls.isMCXLike = true ∧ g.wires.Nodup ∧ (∀ w ∈ g.wires, w < nq))
    (htg : ∀ g ∈ gs, n ≤ g.target) :
    Amp.FunOracle gs n (nq - n) (fun x => (runClassical gs (initState x nq)).drop n) := by
  refine funOracle_of_final hwf fun x hx => ?_
  have hlen : (runClassical gs (initState x nq)).length = nq := by
    rw [runClassical_length, initState_length x _ (hx ▸ hn)]
  refine ⟨by rw [List.length_drop, hlen], ?_⟩
  conv => lhs; rw [← List.take_append_drop n (runClassical gs (initState x nq))]
  congr 1
  refine BState.ext_getD (by rw [List.length_take, hlen, hx]; omega) (fun i hi => ?_)
  rw [List.length_take, hlen] at hi
  have hi' : i < n := by omega
  rw [List.getD_eq_getElem?_getD, List.getElem?_take_of_lt hi', ← List.getD_eq_getElem?_getD,
    runClassical_getD_of_target_ne _ i (fun g hg => by have := htg g hg; omega), initState_getD]

theorem compile_wf {inputs : List String} {defs : List (String × BExp)} {ret : Option (List String)}
    {unc : Bool} {cs : List Nat} {s : CState}
    (h : (compile inputs defs ret unc).run { choices := cs } = .ok ((), s)) :
    ∀ g ∈ s.qc.gates.toList, g.cls.isMCXLike = true ∧ g.wires.Nodup ∧ (∀ w ∈ g.wires, w < s.qc.numQubits) :=
  fun g hg =>
    have := C02.compile_gates_wellformed inputs defs ret unc cs s h g hg
    ⟨this.1, this.2.1, this.2.2.1⟩

/-- any definition list, any return list, uncomputation on or off -/
theorem compile_funOracle {inputs : List String} {defs : List (String × BExp)} {ret : Option (List String)}
    {unc : Bool} {cs : List Nat} {s : CState}
    (h : (compile inputs defs ret unc).run { choices := cs } = .ok ((), s))
    (htg : ∀ g ∈ s.qc.gates.toList, inputs.length ≤ g.target) :
    Amp.FunOracle s.qc.gates.toList inputs.length (s.qc.numQubits - inputs.length)
      (fun x => (runClassical s.qc.gates.toList (initState x s.qc.numQubits)).drop inputs.length) :=
  funOracle_of_targets (compile_ok h).2.1 (compile_wf h) htg

/-- the class `inXorFragment`, uncomputation on: on the qubit `q` the return name is mapped to, the gate list is a
`CleanXorOracle` (hypothesis of `C15_full`), an `Amp.XorOracle` (hypothesis of the Deutsch-Jozsa and
Bernstein-Vazirani parts of `C16_full`) and, as a one-bit black box, a `FunOracle` (Simon) -/
theorem compile_oracles (inputs : List String) (defs : List (String × BExp)) (rets : List String)
    (choices : List Nat) (s : CState)
    (hf : inXorFragment inputs defs rets = true)
    (h : (compile inputs defs (some rets) true).run { choices := choices } = .ok ((), s)) :
    ∀ r ∈ rets, ∃ q, dictGet? s.qc.qmap r = some q ∧ inputs.length ≤ q ∧ q < s.qc.numQubits ∧
      Grover.CleanXorOracle inputs.length s.qc.numQubits q s.qc.gates.toList (predOf inputs defs r) ∧
      Amp.XorOracle s.qc.gates.toList inputs.length (s.qc.numQubits - inputs.length) (q - inputs.length)
        (predOf inputs defs r) ∧
      Amp.FunOracle s.qc.gates.toList inputs.length (s.qc.numQubits - inputs.length)
        (fun x => Amp.embed (s.qc.numQubits - inputs.length) (q - inputs.length) (predOf inputs defs r x)) := by
  intro r hr
  obtain ⟨q, hq, hge, _, hX⟩ := C06.C06_fragment_partial inputs defs rets choices s hf h r hr
  have hlt : q < s.qc.numQubits :=
    (C02.compile_bookkeeping inputs defs (some rets) true choices s h).2.2.2.1 _ (dictGet?_mem hq)
  have hA := algoXorOracle_of_xorOracle hge (compile_wf h) hX
  exact ⟨q, hq, hge, hlt, cleanXorOracle_of_xorOracle hge hlt (compile_wf h) hX, hA, funOracle_of_xorOracle hA⟩

/-- the same for `inGeneralClean inputs defs [r]` (several definitions, named intermediates first, shared
sub-expressions and cache hits, re-binding, constants; the return bit `r` a name defined once, last).  `hge` and
`hnc` (decidable on the compiled gate list) are the two side conditions of `C06_general_partial`. -/
theorem compile_oracles_general (inputs : List String) (defs : List (String × BExp)) (r : String)
    (choices : List Nat) (s : CState) (q : Nat)
    (hf : inGeneralClean inputs defs [r] = true)
    (h : (compile inputs defs (some [r]) true).run { choices := choices } = .ok ((), s))
    (hq : dictGet? s.qc.qmap r = some q) (hge : inputs.length ≤ q)
    (hnc : retNeverControl s.qc.gates.toList q = true) :
    q < s.qc.numQubits ∧
      Grover.CleanXorOracle inputs.length s.qc.numQubits q s.qc.gates.toList (predOf inputs defs r) ∧
      Amp.XorOracle s.qc.gates.toList inputs.length (s.qc.numQubits - inputs.length) (q - inputs.length)
        (predOf inputs defs r) ∧
      Amp.FunOracle s.qc.gates.toList inputs.length (s.qc.numQubits - inputs.length)
        (fun x => Amp.embed (s.qc.numQubits - inputs.length) (q - inputs.length) (predOf inputs defs r x)) := by
  have hX := C06.C06_general_partial inputs defs r choices s q hf h hq hge hnc
  have hlt : q < s.qc.numQubits :=
    (C02.compile_bookkeeping inputs defs (some [r]) true choices s h).2.2.2.1 _ (dictGet?_mem hq)
  have hA := algoXorOracle_of_xorOracle hge (compile_wf h) hX
  exact ⟨hlt, cleanXorOracle_of_xorOracle hge hlt (compile_wf h) hX, hA, funOracle_of_xorOracle hA⟩

/-- Simon black box on the general class, any number of return bits: `F x` is `outReg … x` (`C03_general_partial`
for the argument and scratch qubits, `C02_general_partial` for the return qubits) -/
theorem compile_funOracle_general (inputs : List String) (defs : List (String × BExp)) (rets : List String)
    (choices : List Nat) (s : CState)
    (hf : inGeneralClean inputs defs rets = true)
    (h : (compile inputs defs (some rets) true).run { choices := choices } = .ok ((), s)) :
    Amp.FunOracle s.qc.gates.toList inputs.length (s.qc.numQubits - inputs.length)
      (outReg inputs defs rets s.qc.qmap s.qc.numQubits) :=
  funOracle_of_final (compile_wf h) fun x hx =>
    ⟨outReg_length _ _ _ _ _ _,
      final_of_correct_clean (compile_ok h).2.1
        (C02.C02_general_partial inputs defs rets true choices s (inGeneralClass_of_clean hf) h)
        (C03.C03_general_partial inputs defs rets choices s (inGeneralCleanClass_of_clean hf) h)
        x hx⟩

theorem period_outReg {inputs : List String} {defs : List (String × BExp)} {rets : List String}
    {gates : List AGate} {qmap : List (String × Nat)} {nq : Nat}
    (hCorr : C02.Correct gates nq qmap inputs defs rets)
    (hall : ∀ r ∈ rets, ∃ q, dictGet? qmap r = some q ∧ inputs.length ≤ q ∧ q < nq)
    {sec : List Bool}
    (hP : Amp.Period inputs.length (fun x => rets.map (fun r => predOf inputs defs r x)) sec) :
    Amp.Period inputs.length (outReg inputs defs rets qmap nq) sec := by
  refine ⟨hP.1, hP.2.1, fun x x' hx hx' => ?_⟩
  rw [outReg_eq_iff hCorr hall x x' hx hx']
  exact hP.2.2 x x' hx hx'

def runCheck (res : Except String (Unit × CState)) (name : String) (q : Nat) : Bool :=
  match res with
  | .ok (_, s) => dictGet? s.qc.qmap name == some q && retNeverControl s.qc.gates.toList q
  | .error _ => false

theorem runCheck_ok {res : Except String (Unit × CState)} {name : String} {q : Nat}
    (h : runCheck res name q = true) :
    ∃ s, res = .ok ((), s) ∧ dictGet? s.qc.qmap name = some q ∧ retNeverControl s.qc.gates.toList q = true := by
  match res, h with
  | .ok ((), s), h =>
    simp only [runCheck, Bool.and_eq_true, beq_iff_eq] at h
    exact ⟨s, rfl, h.1, h.2⟩

def retsCheck (res : Except String (Unit × CState)) (rets : List String) (n : Nat) : Bool :=
  match res with
  | .ok (_, s) => rets.all fun r => match dictGet? s.qc.qmap r with
    | some q => decide (n ≤ q)
    | none => false
  | .error _ => false

theorem retsCheck_ok {res : Except String (Unit × CState)} {rets : List String} {n : Nat}
    (h : retsCheck res rets n = true) :
    ∃ s, res = .ok ((), s) ∧ ∀ r ∈ rets, ∃ q, dictGet? s.qc.qmap r = some q ∧ n ≤ q := by
  match res, h with
  | .ok ((), s), h =>
    simp only [retsCheck, List.all_eq_true] at h
    refine ⟨s, rfl, fun r hr => ?_⟩
    have := h r hr
    cases hq : dictGet? s.qc.qmap r with
    | none => rw [hq] at this; cases this
    | some q => rw [hq] at this; exact ⟨q, rfl, by simpa using this⟩

end QV.EndToEnd
