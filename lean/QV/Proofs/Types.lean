import QV.Model.Types
import QV.Proofs.Bits
/-! The scalar codecs of `QV.Model.Types` in closed form: `to_bool` and `const` of `Qint`, `Qchar`, `Qfixed` as
`toBitsLE` (`Qfixed`: integer part little-endian ++ fraction MSB first, `qfixedToBool_eq`; its `const` is `to_bool` by
`rfl`), `from_bool` as `valLE` / `valBE` of the pattern (bits in qubit order). -/
namespace QV.Types

theorem qintFromBool_eq {w : Nat} {bs : List Bool} (h : bs ≠ []) :
    qintFromBool w bs = some (valLE bs % 2 ^ w) := by
  rw [qintFromBool, pyInt2_boolListToBin_reverse h]; rfl

theorem qintToBool_eq {w v : Nat} (h : v < 2 ^ w) : qintToBool w v = toBitsLE w v :=
  binToBoolList_pyBin_reverse h

theorem fillBits_eq {w : Nat} {l : List Bool} (h : l.length ≤ w) : fillBits w l = toBitsLE w (valLE l) := by
  unfold fillBits; split
  · exact (toBitsLE_valLE_of_length (by omega)).symm
  · exact pad_eq_toBitsLE h

theorem fillBits_binDigits {w n : Nat} (hw : 0 < w) (h : n < 2 ^ w) :
    fillBits w ((binDigits n).map (· == '1')).reverse = toBitsLE w n := by
  rw [fillBits_eq (by rw [List.length_reverse, List.length_map]; exact binDigits_length_le hw h),
    ← valBE_eq_valLE_reverse, valBE_binDigits]

theorem qintConst_eq {w : Nat} (hw : 0 < w) (v : Nat) : qintConst w v = toBitsLE w v := by
  rw [qintConst, fillBits_binDigits hw (Nat.mod_lt _ (Nat.pow_pos (by decide))), toBitsLE_mod]

theorem qcharToBool_eq {c : Nat} (h : c < 256) : qcharToBool c = toBitsLE 8 c :=
  binToBoolList_pyBin_reverse (w := 8) h

theorem qcharFromBool_eq {bs : List Bool} (h : bs.length = 8) : qcharFromBool bs = some (valLE bs) := by
  have hne : bs ≠ [] := List.ne_nil_of_length_pos (by omega)
  have hlt : valLE bs < 2 ^ 8 := h ▸ valLE_lt bs
  rw [qcharFromBool, boolListToBin_reverse, pyInt2_boolListToBin_reverse hne]
  exact if_pos (by omega)

theorem binToBoolList_pyBin_none (n : Nat) :
    binToBoolList (pyBin n) none = (binDigits n).map (· == '1') := by
  unfold binToBoolList
  simp [strip0b_pyBin]

theorem qcharConst_eq {c : Nat} (h : c < 256) : qcharConst c = toBitsLE 8 c := by
  rw [qcharConst, binToBoolList_pyBin_none]; exact fillBits_binDigits (w := 8) (by decide) h

theorem fracVal_eq (F : Nat) (l : List Bool) : ∀ i, i + l.length = F → fracVal F i l = valBE l := by
  induction l with
  | nil => intro i _; rfl
  | cons b bs ih =>
    intro i h
    rw [List.length_cons] at h
    rw [fracVal, valBE_cons, ih (i + 1) (by omega), show F - (i + 1) = bs.length by omega]
    cases b <;> simp [bitN_true, bitN_false]

theorem fracLoop_length (F k c : Nat) : (fracLoop F k c).length = k := by
  induction k generalizing c with
  | zero => rfl
  | succ k ih => simp [fracLoop, ih]

/-- the `k` bits the loop produces are, MSB first, the first `k` binary digits of the fraction `(c mod 2^F) / 2^F` -/
theorem fracLoop_val (F k c : Nat) : valBE (fracLoop F k c) = ((c % 2 ^ F) * 2 ^ k) / 2 ^ F := by
  have hP : 0 < 2 ^ F := Nat.pow_pos (by decide)
  induction k generalizing c with
  | zero => rw [Nat.pow_zero, Nat.mul_one, Nat.div_eq_of_lt (Nat.mod_lt c hP)]; rfl
  | succ k ih =>
    have hq : 2 * (c % 2 ^ F) / 2 ^ F < 2 := Nat.div_lt_of_lt_mul (by have := Nat.mod_lt c hP; omega)
    rw [fracLoop, valBE_cons, ih, fracLoop_length]
    change (if (2 * (c % 2 ^ F) / 2 ^ F == 1) = true then 1 else 0) * 2 ^ k + _ = _
    rw [bit_of_lt_two hq]
    -- with `2 * (c mod 2^F) = 2^F * q + r`: both sides are `q * 2^k + r * 2^k / 2^F`
    have hdm := Nat.div_add_mod (2 * (c % 2 ^ F)) (2 ^ F)
    generalize c % 2 ^ F = m at *
    generalize 2 * m / 2 ^ F = q at *
    generalize 2 * m % 2 ^ F = r at *
    have e : m * 2 ^ (k + 1) = r * 2 ^ k + (q * 2 ^ k) * 2 ^ F := by
      calc m * 2 ^ (k + 1) = (2 * m) * 2 ^ k := by rw [Nat.pow_succ]; ring
        _ = _ := by rw [← hdm]; ring
    rw [e, Nat.add_mul_div_right _ _ hP, Nat.add_comm]

theorem fracLoop_eq (F sv : Nat) : fracLoop F F sv = (toBitsLE F sv).reverse := by
  apply valBE_inj
  · simp [fracLoop_length]
  · rw [valBE_reverse, valLE_toBitsLE, fracLoop_val, Nat.mul_div_cancel _ (Nat.pow_pos (by decide))]

theorem qfixedIntBits_eq (I n : Nat) : qfixedIntBits I n = toBitsLE I n := by
  unfold qfixedIntBits
  rw [binToBoolList_pyBin_reverse (Nat.mod_lt _ (Nat.pow_pos (by decide))), toBitsLE_mod]

theorem qfixedToBool_eq (I F sv : Nat) :
    qfixedToBool I F sv = toBitsLE I (sv / 2 ^ F) ++ (toBitsLE F sv).reverse := by
  unfold qfixedToBool; rw [qfixedIntBits_eq, fracLoop_eq]

theorem qfixedFromBool_eq {I F : Nat} {bs : List Bool} (hI : 0 < I) (hl : bs.length = I + F) :
    qfixedFromBool I F bs = some (valLE (bs.take I) * 2 ^ F + valBE (bs.drop I)) := by
  have hne : bs.take I ≠ [] := List.ne_nil_of_length_pos (by rw [List.length_take]; omega)
  simp only [qfixedFromBool, pyInt2_boolListToBin_reverse hne,
    fracVal_eq F (bs.drop I) 0 (by rw [List.length_drop]; omega)]

/-- a reading that has the requested length, or more, or of which none is requested, is returned as it is -/
theorem formatOutcome_of_le {l : List Bool} {o : Option Nat} (h : o.getD l.length ≤ l.length) :
    formatOutcome l o = l := if_neg (Nat.not_lt.mpr h)

theorem le_length_formatOutcome (l : List Bool) (o : Option Nat) :
    o.getD (formatOutcome l o).length ≤ (formatOutcome l o).length := by
  cases o with
  | none => exact Nat.le_refl _
  | some n =>
    unfold formatOutcome; simp only [Option.getD_some]; split
    · simp; omega
    · omega

/-- `interpret_as_qtype` of a reading of the requested length, or with no length requested: the reading is
reversed (qubit 0 is rightmost) and handed to `_interpret` whole, for every type -/
theorem interpretAsQtype_reverse (t : QTy) (l : List Bool) (o : Option Nat) (ho : o.getD l.length = l.length) :
    interpretAsQtype l.reverse t o = interpret t l := by
  unfold interpretAsQtype
  rw [formatOutcome_of_le (by rw [List.length_reverse, ho]), List.reverse_reverse]
  cases o with
  | none => cases t <;> rfl
  | some n => obtain rfl : n = l.length := ho; simp only [List.take_length]; cases t <;> rfl

end QV.Types
