import QV.Proofs.SemTVal
import QV.Proofs.OptionRel
/-! `semT` as a composition of value operators: one equation per compound form (`semT σ (.not e) = (semT σ e).bind notT`,
…), so that an induction over expressions needs one fact per operator and no case analysis on what is defined.
`semW`, taken along `SVal.toT`, satisfies the same equations, so `semT` extends it (`semT_le`).
The four evaluators: fixed width `semW` (`Model/Sem.lean`, values `SVal`) inside `semT` (`SemT.lean`, `TVal`); exact python
`sem` (`SemX.lean`, `XVal`) inside `semXT` (`SemXT.lean`, `XT`, inclusion `semXT_le`); on `inFrag` the large one is the small
one (`semT_toT`).  `Den` / `DenT` and `Agree` / `AgreeT` split the same way (`denT_toT`, `den_of_denT`, `agreeT_leaf`).  Comments
write `SemW`, `Sem`, `SemT`, `SemXT` for the evaluators; `QV.Sem` is the namespace of all four. -/
namespace QV.Sem
open QV.Front

/-! ### the operators of `.bin` and `.boolop`, which the model spells inside the evaluator -/

/-- `x << k`, `x >> k` for a literal `k ≥ 0` -/
def shiftT (op : String) (r : PExp) : TVal → Option TVal
  | .int wl x =>
    match r with
    | .cint k =>
      if k < 0 then none
      else if op == "lshift" then some (.int wl ((x * 2 ^ k.toNat) % 2 ^ wl))
      else some (.int wl (x / 2 ^ k.toNat))
    | _ => none
  | _ => none

theorem shiftT_some {op : String} {r : PExp} {x v : TVal} (h : shiftT op r x = some v) : ∃ k, r = .cint k := by
  cases x <;> simp only [shiftT, reduceCtorEq] at h
  cases r <;> simp only [reduceCtorEq] at h
  exact ⟨_, rfl⟩

def arithT (op : String) : TVal → TVal → Option TVal
  | .bool x, .bool y => (boolBin op x y).map SVal.toT
  | .int wl x, .int wr y => (intBin op wl wr x y).map SVal.toT
  | _, _ => none

def boolopT (isAnd : Bool) (xs : List TVal) : Option TVal := (boolFoldT isAnd xs).map .bool

theorem boolBin_shift {op : String} (h : (op == "lshift" || op == "rshift") = true) (x y : Bool) :
    boolBin op x y = none := by
  simp only [Bool.or_eq_true, beq_iff_eq] at h
  rcases h with rfl | rfl <;> rfl

theorem semT_subs (σ : TEnv) (n : String) (p : List Int) : semT σ (.subs n p) = (σ n).bind (·.index p) := by
  simp only [semT]; cases σ n <;> rfl

theorem semT_not (σ : TEnv) (e : PExp) : semT σ (.not e) = (semT σ e).bind notT := by
  simp only [semT]; cases semT σ e <;> rfl

theorem semT_inv (σ : TEnv) (e : PExp) : semT σ (.inv e) = (semT σ e).bind invT := by
  simp only [semT]; cases semT σ e <;> rfl

theorem semT_boolop (σ : TEnv) (isAnd : Bool) (vs : List PExp) :
    semT σ (.boolop isAnd vs) = (semTList σ vs).bind (boolopT isAnd) := by
  simp only [semT]; cases semTList σ vs <;> rfl

theorem semT_ite (σ : TEnv) (c a b : PExp) :
    semT σ (.ite c a b) = (semT σ c).bind fun cv => (semT σ a).bind fun x => (semT σ b).bind fun y => iteT cv x y := by
  simp only [semT]; cases semT σ c <;> cases semT σ a <;> cases semT σ b <;> rfl

theorem semT_cmp (σ : TEnv) (op : String) (l r : PExp) :
    semT σ (.cmp op l r) = (semT σ l).bind fun x => (semT σ r).bind fun y => cmpT op x y := by
  simp only [semT]; cases semT σ l <;> cases semT σ r <;> rfl

theorem semT_bin (σ : TEnv) (op : String) (l r : PExp) :
    semT σ (.bin op l r) = (semT σ l).bind fun x =>
      if op == "lshift" || op == "rshift" then shiftT op r x else (semT σ r).bind fun y => arithT op x y := by
  simp only [semT]
  cases semT σ l with
  | none => rfl
  | some x =>
    by_cases h : (op == "lshift" || op == "rshift") = true
    · cases x <;> simp only [Option.bind_some, if_pos h]
      · cases semT σ r with
        | none => rfl
        | some y => cases y <;> first | rfl | exact congrArg (Option.map SVal.toT) (boolBin_shift h _ _)
      · cases r <;> rfl
      · rfl
      · rfl
    · cases x <;> simp only [Option.bind_some, if_neg h] <;> cases semT σ r with
        | none => rfl
        | some y => cases y <;> rfl

theorem semT_tuple (σ : TEnv) (es : List PExp) : semT σ (.tuple es) = (semTList σ es).map .tuple := by
  simp only [semT]; cases semTList σ es <;> rfl

theorem semTList_cons (σ : TEnv) (e : PExp) (es : List PExp) :
    semTList σ (e :: es) = (semT σ e).bind fun x => (semTList σ es).map (x :: ·) := by
  simp only [semTList]; cases semT σ e <;> cases semTList σ es <;> rfl

def semWT (σ : SEnv) (e : PExp) : Option TVal := (semW σ e).map SVal.toT
def semWTList (σ : SEnv) (es : List PExp) : Option (List TVal) := (semWList σ es).map (List.map SVal.toT)

theorem semWT_not (σ : SEnv) (e : PExp) : semWT σ (.not e) = (semWT σ e).bind notT := by
  simp only [semWT, semW]; rcases semW σ e with _ | _ | _ <;> rfl

theorem semWT_inv (σ : SEnv) (e : PExp) : semWT σ (.inv e) = (semWT σ e).bind invT := by
  simp only [semWT, semW]; rcases semW σ e with _ | _ | _ <;> rfl

theorem semWT_ite (σ : SEnv) (c a b : PExp) :
    semWT σ (.ite c a b) = (semWT σ c).bind fun cv => (semWT σ a).bind fun x => (semWT σ b).bind fun y => iteT cv x y := by
  simp only [semWT, semW]
  rcases semW σ c with _ | _ | _ <;> rcases semW σ a with _ | _ | _ <;> rcases semW σ b with _ | _ | _ <;> rfl

theorem semWT_cmp (σ : SEnv) (op : String) (l r : PExp) :
    semWT σ (.cmp op l r) = (semWT σ l).bind fun x => (semWT σ r).bind fun y => cmpT op x y := by
  simp only [semWT, semW]
  rcases semW σ l with _ | _ | _ <;> rcases semW σ r with _ | _ | _ <;>
    first | rfl | exact Option.map_map _ _ _

theorem semWT_boolop (σ : SEnv) (isAnd : Bool) (vs : List PExp) :
    semWT σ (.boolop isAnd vs) = (semWTList σ vs).bind (boolopT isAnd) := by
  simp only [semWT, semWTList, semW]
  cases semWList σ vs with
  | none => rfl
  | some xs =>
    simp only [Option.map_some, Option.bind_some, boolopT, boolFoldT_toT, Option.map_map]
    rfl

theorem semWT_bin (σ : SEnv) (op : String) (l r : PExp) :
    semWT σ (.bin op l r) = (semWT σ l).bind fun x =>
      if op == "lshift" || op == "rshift" then shiftT op r x else (semWT σ r).bind fun y => arithT op x y := by
  simp only [semWT, semW]
  rcases semW σ l with _ | _ | _
  · rfl
  · by_cases h : (op == "lshift" || op == "rshift") = true
    · simp only [Option.map_some, Option.bind_some, if_pos h]
      rcases semW σ r with _ | _ | _ <;> first | rfl | exact congrArg (Option.map SVal.toT) (boolBin_shift h _ _)
    · simp only [Option.map_some, Option.bind_some, if_neg h]
      rcases semW σ r with _ | _ | _ <;> rfl
  · by_cases h : (op == "lshift" || op == "rshift") = true
    · simp only [Option.map_some, Option.bind_some, if_pos h]
      cases r <;> try rfl
      simp only [SVal.toT, shiftT]
      split
      · rfl
      · split <;> rfl
    · simp only [Option.map_some, Option.bind_some, if_neg h]
      rcases semW σ r with _ | _ | _ <;> rfl

theorem semWTList_cons (σ : SEnv) (e : PExp) (es : List PExp) :
    semWTList σ (e :: es) = (semWT σ e).bind fun x => (semWTList σ es).map (x :: ·) := by
  simp only [semWTList, semWT, semWList]; cases semW σ e <;> cases semWList σ es <;> rfl

def EnvLe (σ : SEnv) (σT : TEnv) : Prop := ∀ n sv, σ n = some sv → σT n = some sv.toT

mutual
theorem semT_le (σ : SEnv) (σT : TEnv) (hle : EnvLe σ σT) : ∀ e : PExp, OLe (semWT σ e) (semT σT e)
  | .name n => fun v h => by
    obtain ⟨sv, hs, rfl⟩ := Option.map_eq_some_iff.mp h
    simpa only [semT] using hle n sv (by simpa only [semW] using hs)
  | .cbool b => OLe.rfl
  | .cint c => by simp only [semWT, semW, semT]; cases constWidth c <;> exact OLe.rfl
  | .cchar _ => fun _ h => nomatch h
  | .tuple _ => fun _ h => nomatch h
  | .unsupported _ => fun _ h => nomatch h
  | .subs n p => fun v h => by
    simp only [semWT, semW, Option.map_eq_some_iff] at h
    obtain ⟨sv, h, rfl⟩ := h
    split at h
    · rename_i w x i hn
      rw [semT_subs, hle n _ hn]
      split at h
      · rename_i hi
        cases h
        simp [SVal.toT, TVal.index, hi]
      · cases h
    · cases h
  | .not e => by rw [semWT_not, semT_not]; exact (semT_le σ σT hle e).bind fun _ => OLe.rfl
  | .inv e => by rw [semWT_inv, semT_inv]; exact (semT_le σ σT hle e).bind fun _ => OLe.rfl
  | .boolop isAnd vs => by
    rw [semWT_boolop, semT_boolop]; exact (semTList_le σ σT hle vs).bind fun _ => OLe.rfl
  | .ite c a b => by
    rw [semWT_ite, semT_ite]
    exact (semT_le σ σT hle c).bind fun _ => (semT_le σ σT hle a).bind fun _ => (semT_le σ σT hle b).bind fun _ => OLe.rfl
  | .cmp op l r => by
    rw [semWT_cmp, semT_cmp]
    exact (semT_le σ σT hle l).bind fun _ => (semT_le σ σT hle r).bind fun _ => OLe.rfl
  | .bin op l r => by
    rw [semWT_bin, semT_bin]
    refine (semT_le σ σT hle l).bind fun _ => ?_
    split
    · exact OLe.rfl
    · exact (semT_le σ σT hle r).bind fun _ => OLe.rfl
theorem semTList_le (σ : SEnv) (σT : TEnv) (hle : EnvLe σ σT) : ∀ es : List PExp, OLe (semWTList σ es) (semTList σT es)
  | [] => OLe.rfl
  | e :: es => by
    rw [semWTList_cons, semTList_cons]
    exact (semT_le σ σT hle e).bind fun _ => (semTList_le σ σT hle es).map _
end

theorem semBodyT_assign (ret : Ty) (σ : TEnv) (t : String) (e : PExp) (ss : List Stmt) :
    semBodyT ret σ (.assign t e :: ss) = (semT σ e).bind fun v => semBodyT ret (σ.set t v) ss := by
  simp only [semBodyT]; cases semT σ e <;> rfl

theorem semBodyT_ret (ret : Ty) (σ : TEnv) (e : PExp) (ss : List Stmt) :
    semBodyT ret σ (.ret e :: ss) = (semT σ e).bind (coerceRetT ret) := by
  simp only [semBodyT]; cases semT σ e <;> rfl

/-! The typing rules of the library, as far as the statement level needs them: results are `bool`, keep the type of an
operand, take the wider of two `Qint` types, or are one of `Qint2 … Qint16`.  `TyClosed g`: the predicate `g` on types
is kept by these rules; `tyGood` is (widths `≥ 2`), and so is "not `Qint[1]`". -/

theorem mulWidth_ge (s : Nat) : 2 ≤ mulWidth s := by
  unfold mulWidth
  repeat' split
  all_goals omega

theorem constWidth_ge (v : Int) (w : Nat) (h : constWidth v = some w) : 2 ≤ w := by
  have hmem := List.mem_of_find?_eq_some h
  simp only [constWidths, List.mem_cons, List.mem_nil_iff, or_false] at hmem
  omega

theorem boolBin_ty {op : String} {a b : Bool} {sv : SVal} (h : boolBin op a b = some sv) : ∃ c, sv = .bool c := by
  unfold boolBin at h
  split at h <;> cases h <;> exact ⟨_, rfl⟩

theorem intBin_ty {op : String} {wl wr x y : Nat} {sv : SVal} (h : intBin op wl wr x y = some sv) :
    ∃ w z, sv = .int w z ∧ (w = max wl wr ∨ 2 ≤ w) := by
  unfold intBin at h
  split at h
  case h_4 => split at h <;> cases h; exact ⟨_, _, rfl, .inl rfl⟩
  case h_3 => cases h; exact ⟨_, _, rfl, .inr (mulWidth_ge _)⟩
  all_goals cases h
  all_goals exact ⟨_, _, rfl, .inl rfl⟩

structure TyClosed (g : Ty → Prop) : Prop where
  bool : g .bool
  qchar : g .qchar
  max : ∀ a b, g (.qint a) → g (.qint b) → g (.qint (max a b))
  ge2 : ∀ w, 2 ≤ w → g (.qint w)

theorem tyClosed_good : TyClosed (tyGood · = true) where
  bool := rfl
  qchar := rfl
  max a b ha hb := by simp only [tyGood, decide_eq_true_eq] at ha hb ⊢; omega
  ge2 w h := by simpa only [tyGood, decide_eq_true_eq] using h

theorem tyClosed_width : TyClosed (· ≠ .qint 1) where
  bool := nofun
  qchar := nofun
  max a b ha hb := by simp only [ne_eq, Ty.qint.injEq] at ha hb ⊢; omega
  ge2 w h := by simp only [ne_eq, Ty.qint.injEq]; omega

theorem invT_ty {x v : TVal} (h : invT x = some v) : v.ty = x.ty := by
  cases x <;> cases h
  rfl

theorem shiftT_ty {op : String} {r : PExp} {x v : TVal} (h : shiftT op r x = some v) : v.ty = x.ty := by
  cases x <;> simp only [shiftT, reduceCtorEq] at h
  split at h
  · split at h
    · cases h
    · split at h <;> cases h <;> rfl
  · cases h

section
variable {g : Ty → Prop} (hg : TyClosed g)
include hg

theorem notT_ty (x : TVal) : OAll (g ·.ty) (notT x) := by
  intro v h
  cases x <;> cases h
  exact hg.bool

theorem boolopT_ty (isAnd : Bool) (xs : List TVal) : OAll (g ·.ty) (boolopT isAnd xs) := by
  intro v h
  obtain ⟨b, _, rfl⟩ := Option.map_eq_some_iff.mp h
  exact hg.bool

theorem iteT_ty {c x y : TVal} (hx : g x.ty) (hy : g y.ty) : OAll (g ·.ty) (iteT c x y) := by
  intro v h
  cases c <;> cases x <;> cases y <;> simp only [iteT, Option.some.injEq, reduceCtorEq] at h
  · rw [← h]; exact hg.bool
  · rw [← h]; exact hg.max _ _ hx hy
  · rw [← h]; exact hg.qchar
  · split at h <;> cases h
    split
    · exact hx
    · exact hy

theorem cmpT_ty (op : String) (x y : TVal) : OAll (g ·.ty) (cmpT op x y) := by
  intro v h
  have hb : ∀ {o : Option Bool}, o.map TVal.bool = some v → g v.ty := by
    intro o ho
    obtain ⟨b, _, rfl⟩ := Option.map_eq_some_iff.mp ho
    exact hg.bool
  cases x <;> cases y <;> simp only [cmpT, reduceCtorEq] at h
  · exact hb h
  · exact hb h
  · exact hb h
  · exact hb h
  · split at h
    · split at h <;> cases h <;> exact hg.bool
    · cases h

theorem arithT_ty {op : String} {x y : TVal} (hx : g x.ty) (hy : g y.ty) : OAll (g ·.ty) (arithT op x y) := by
  intro v h
  cases x <;> cases y <;> simp only [arithT, reduceCtorEq] at h
  · obtain ⟨sv, hsv, rfl⟩ := Option.map_eq_some_iff.mp h
    obtain ⟨c, rfl⟩ := boolBin_ty hsv
    exact hg.bool
  · obtain ⟨sv, hsv, rfl⟩ := Option.map_eq_some_iff.mp h
    obtain ⟨w, z, rfl, hw | hw⟩ := intBin_ty hsv
    · rw [hw]; exact hg.max _ _ hx hy
    · exact hg.ge2 w hw

end

end QV.Sem
