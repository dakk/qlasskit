import QV.Proofs.CompilerSem2b
namespace QV.Compiler
open QV

variable {Kn : String → Prop} {kv : String → Bool} {scope : List String} {ρ : Env} {σ0 : FState} {wo : Bool}
variable {Q : FState → Nat → Prop} {W : Nat → Prop} {K : BExp → Prop} {Mk : Nat → Prop}

theorem argsSemK_nil : ArgsSemK Kn kv ρ σ0 wo [] := by
  intro rs s s' h hp _
  unfold compileArgs at h
  obtain ⟨rfl, rfl⟩ := run_pure_ok.mp h
  exact ⟨hp, SemK.refl _, rfl, fun q hq => absurd hq List.not_mem_nil, fun _ q hq => absurd hq List.not_mem_nil⟩

theorem argsSemK_cons {a : BExp} {as : List BExp} (iha : ExprSemK Kn kv scope ρ σ0 wo a)
    (ihs : ArgsSemK Kn kv ρ σ0 wo as)
    (hdis : ∀ x ∈ compKeys a, ∀ y ∈ compKeysList as, (x == y) = false) :
    ArgsSemK Kn kv ρ σ0 wo (a :: as) := by
  intro rs s s' h hp hcache
  unfold compileArgs at h
  obtain ⟨q1, s1, h1, h2⟩ := run_bind_ok.mp h
  obtain ⟨rs', s2, h3, h4⟩ := run_bind_ok.mp h2
  obtain ⟨rfl, rfl⟩ := run_pure_ok.mp h4
  obtain ⟨hp1, sem1, hv1, _⟩ := iha none none h1 hp
    (fun p hp' c hc => hcache p hp' c (List.mem_append_left _ hc)) (fun _ hd0 => nomatch hd0)
    (fun _ hy => nomatch hy) (fun _ => ⟨rfl, rfl⟩)
  obtain ⟨hres1, hnav1, hval1, hanc1⟩ := hv1 rfl
  obtain ⟨hp2, sem2, hvals, hb, hancs⟩ := ihs h3 hp1 (cache_step hcache sem1.keys (fun _ h => h) hdis)
  refine ⟨hp2, sem1.seq sem2 (fun _ h => h.elim (fun h => nomatch h) id) ?_ (fun _ h => ⟨h.1, h.2.1⟩) (fun _ h => h),
    ?_, ?_, ?_⟩
  · rintro c (h' | h')
    · exact List.mem_append_left _ h'
    · exact List.mem_append_right _ h'
  · simp only [List.map_cons, hvals]
    rw [sem2.frame q1 (fun h' => h') (Or.inl hnav1), hval1]
  · intro q hq
    rcases List.mem_cons.mp hq with rfl | hq
    · exact ⟨hres1.next sem2, fun h' => hnav1 (sem2.avail q h')⟩
    · exact ⟨(hb q hq).1.weaken sem1, (hb q hq).2⟩
  · intro hall q hq
    rcases List.mem_cons.mp hq with rfl | hq
    · exact sem2.akeep q (hanc1 (hall a List.mem_cons_self))
    · exact hancs (fun a' ha' => hall a' (List.mem_cons_of_mem _ ha')) q hq

theorem exprSemK_and {args : List BExp} (ih : ArgsSemK Kn kv ρ σ0 wo args) :
    ExprSemK Kn kv scope ρ σ0 wo (.and args) := by
  intro dest sym a s s' h hp hcache hd _ _
  rw [compileExpr_and] at h
  obtain ⟨erets, s2, hargs, h2⟩ := run_bind_ok.mp (cachedM_miss h (fun p hp' => hcache p hp' _ List.mem_cons_self))
  obtain ⟨hp2, sem1, hvals, hb, _⟩ := ih hargs hp (fun p hp' c hc => hcache p hp' c (List.mem_cons_of_mem _ hc))
  obtain ⟨d, s3, hdest, h3⟩ := run_bind_ok.mp h2
  have D := dest_semK hp2 hd sem1 hb hdest
  rw [if_neg (by simpa using D.notArg), argQubits_of_notMem D.notArg] at h3
  obtain ⟨u1, t, hmcx, k1⟩ := run_bind_ok.mp h3
  obtain ⟨hpt, am, semg, tgg⟩ := mcx_own (wo := wo)
    (Q := fun f c => c ∈ t.qc.marked ∨ (c ∈ sortNat erets.eraseDups ∧ f c = cur σ0 s3 c)) hmcx D.pre D.priv
    (fun c hc => D.args c (mem_sortDedup.mp hc)) (fun _ c hc => Or.inr ⟨hc, rfl⟩)
  refine node_fin hp hd hp2 sem1 (hW1 := fun _ h => h) (hK1 := fun c hc => List.mem_cons_of_mem _ hc)
    (hself := List.mem_cons_self) (hMk1 := fun _ h => h) (hb := hb) (hes := fun c hc => mem_sortDedup.mp hc) D hpt
    (semg := semg.mono (hw := fun _ _ h => h) (hk := fun _ h => h) (hm := fun _ h => h.elim))
    (hv := ?_) (htd := fun _ => tgg) k1
  rw [am.cur_eq rfl σ0, all_sortDedup, D.vals, all_of_map hvals]
  rfl

/-- a qubit marked *before* the gates that target it are emitted (the ancillas of the or-chain): the relation
of the gates, extended backwards over the `mark_ancilla` -/
theorem SemK.after_mark {w : Nat} {u : Unit} {s1 s2 s3 : CState} (hmk : (markAncilla w).run s1 = .ok (u, s2))
    (sem : SemK Kn σ0 wo Q W K Mk s2 s3) (ht : wo = false → Tgt s3 w) :
    SemK Kn σ0 wo Q W K (fun m => Mk m ∨ m = w) s1 s3 := by
  obtain ⟨M, rfl, hM⟩ := markAncilla_eff hmk
  refine ⟨sem.nq, sem.avail, sem.frame, sem.keys, fun m hm => ?_,
    fun m hm => sem.mkeep m ((hM m).mpr (Or.inl hm)), sem.akeep, sem.qkeep, sem.qnew, sem.kkeep, sem.seg, sem.fkeep⟩
  rcases sem.marks m hm with h' | h'
  · rcases (hM m).mp h' with h'' | ⟨rfl, hw, _⟩
    · exact Or.inl h''
    · exact Or.inr ⟨Or.inr rfl, sem.akeep _ hw, ht⟩
  · exact Or.inr ⟨Or.inl h'.1, h'.2⟩

theorem orGate_semK {acc i d : Nat} {u : Unit} {s s' : CState}
    (h : StateT.run (do cx acc d; cx i d; mcx [acc, i] d : M Unit) s = .ok (u, s'))
    (hp : PreK Kn kv σ0 s) (hpd : PrivK Kn s d) (hacc : acc ≠ d) (hi : i ≠ d)
    (hna : ¬ Avail s acc) (hni : ¬ Avail s i)
    (hq : wo = false → ∀ f : FState, f acc = cur σ0 s acc → f i = cur σ0 s i → Q f acc ∧ Q f i) :
    PreK Kn kv σ0 s' ∧ SemK Kn σ0 wo Q (· = d) NoK NoQ s s' ∧ Tgt s' d ∧
      cur σ0 s' d = Bool.xor (cur σ0 s d) (cur σ0 s acc || cur σ0 s i) := by
  obtain ⟨u1, s1, hc1, k1⟩ := run_bind_ok.mp h
  obtain ⟨u2, s2, hc2, hm⟩ := run_bind_ok.mp k1
  obtain ⟨hp1, a1, sg1, _⟩ := cx_own (wo := wo) (Q := Q) hc1 hp hpd hna (fun hwo => (hq hwo _ rfl rfl).1)
  have e1 : ∀ q, q ≠ d → cur σ0 s1 q = cur σ0 s q := a1.cur_ne rfl σ0
  obtain ⟨hp2, a2, sg2, _⟩ := cx_own (wo := wo) (Q := Q) hc2 hp1 (hpd.next sg1) (fun h' => hni (sg1.avail i h'))
    (fun hwo => (hq hwo _ (e1 acc hacc) (e1 i hi)).2)
  have e2 : ∀ q, q ≠ d → cur σ0 s2 q = cur σ0 s q := fun q hq => by rw [a2.cur_ne rfl σ0 q hq, e1 q hq]
  have sg12 := sg1.trans' sg2
  have hpair : ∀ {P : Nat → Prop}, P acc → P i → ∀ c ∈ [acc, i], P c := fun ha hi c hc => by
    have : c = acc ∨ c = i := by simpa using hc
    rcases this with rfl | rfl
    · exact ha
    · exact hi
  obtain ⟨hp3, a3, sg3, tg⟩ := mcx_own (wo := wo) (Q := Q) hm hp2 (hpd.next sg12)
    (hpair (fun h' => hna (sg12.avail acc h')) (fun h' => hni (sg12.avail i h')))
    (fun hwo => hpair (hq hwo _ (e2 acc hacc) (e2 i hi)).1 (hq hwo _ (e2 acc hacc) (e2 i hi)).2)
  refine ⟨hp3, (sg12.trans' sg3).mono (hw := fun _ _ h' => h'.elim (·.elim id id) id)
    (hk := fun _ h' => h'.elim (·.elim id id) id) (hm := fun _ h' => h'.elim (·.elim id id) id), tg, ?_⟩
  rw [(orGate_emit h).cur σ0]
  exact (runF_orGates hacc hi _).2

theorem orChain_mkeep {dest : Nat} : ∀ (rest : List Nat) (acc : Nat) {u : Unit} {s s' : CState},
    (orChain dest acc rest).run s = .ok (u, s') → ∀ m ∈ s.qc.marked, m ∈ s'.qc.marked := by
  intro rest
  induction rest with
  | nil =>
    intro acc u s s' h m hm
    unfold orChain at h
    obtain ⟨_, rfl⟩ := run_pure_ok.mp h
    exact hm
  | cons i rest ih =>
    intro acc u s s' h m hm
    cases rest with
    | nil =>
      unfold orChain at h
      obtain ⟨u1, s1, hc1, k1⟩ := run_bind_ok.mp h
      obtain ⟨u2, s2, hc3, k2⟩ := run_bind_ok.mp k1
      rw [(mcx_run k2).marked, (cx_run hc3).marked, (cx_run hc1).marked]; exact hm
    | cons j rest =>
      unfold orChain at h
      obtain ⟨d, s1, hfa, k1⟩ := run_bind_ok.mp h
      obtain ⟨u2, s2, hmk, k2⟩ := run_bind_ok.mp k1
      obtain ⟨u3, s3, hc1, k3⟩ := run_bind_ok.mp k2
      obtain ⟨u4, s4, hc2, k4⟩ := run_bind_ok.mp k3
      obtain ⟨u5, s5, hc3, k5⟩ := run_bind_ok.mp k4
      have h1 : s1.qc.marked = s.qc.marked := by
        obtain ⟨_, _, _, _, _, e, _⟩ := getFreeAncilla_eff hfa; rw [e]
      obtain ⟨M, e2, hM⟩ := markAncilla_eff hmk
      exact ih d k5 m (by
        rw [(mcx_run hc3).marked, (cx_run hc2).marked, (cx_run hc1).marked, e2]
        exact (hM m).mpr (Or.inl (by rw [h1]; exact hm)))

/-- the or-chain (`compile_or` with more than two distinct argument qubits): every intermediate or goes to an ancilla
taken from the scratch space (zero) and marked; `dest ^= acc | rest…`; no argument qubit is written -/
theorem orChain_semK {Q : FState → Nat → Prop} {dest : Nat} :
    ∀ (rest : List Nat) (acc : Nat) {u : Unit} {s s' : CState},
    (orChain dest acc rest).run s = .ok (u, s') → rest ≠ [] → PreK Kn kv σ0 s → PrivK Kn s dest →
    acc ≠ dest → ¬ Avail s acc → (∀ i ∈ rest, ¬ Avail s i ∧ i ≠ dest) →
    (wo = false → ∀ (f : FState) (c : Nat), c ∈ s'.qc.marked → Q f c) →
    (wo = false → acc ∈ s.qc.marked ∨ ∀ f : FState, f acc = cur σ0 s acc → Q f acc) →
    (wo = false → ∀ c ∈ rest, ∀ f : FState, f c = cur σ0 s c → Q f c) →
    PreK Kn kv σ0 s' ∧
    SemK Kn σ0 wo Q (· = dest) NoK (fun m => Avail s m ∧ ¬ Avail s' m ∧ m ≠ dest) s s' ∧
    cur σ0 s' dest = Bool.xor (cur σ0 s dest) (cur σ0 s acc || rest.any (cur σ0 s)) ∧ Tgt s' dest ∧
    (∀ q, Tgt s q → Tgt s' q) := by
  intro rest
  induction rest with
  | nil => exact fun _ _ _ _ _ hne => absurd rfl hne
  | cons i rest ih =>
    intro acc u s s' h _ hp hpd hacc hna hr hQm hQa hQr
    cases rest with
    | nil =>
      have hmk := orChain_mkeep [i] acc h
      unfold orChain at h
      obtain ⟨hni, hi⟩ := hr i List.mem_cons_self
      obtain ⟨hp', sem, tg, hv⟩ := orGate_semK (wo := wo) (Q := Q) h hp hpd hacc hi hna hni
        (fun hwo f hfa hfi => ⟨(hQa hwo).elim (fun hm => hQm hwo f acc (hmk acc hm)) (fun h' => h' f hfa),
          hQr hwo i List.mem_cons_self f hfi⟩)
      refine ⟨hp', sem.mono (fun _ _ h' => h') (fun _ h' => h') (fun _ h' => h'.elim), ?_, tg,
        fun q hq => hq.of_sem sem⟩
      rw [hv]; simp
    | cons j rest =>
      have hmkAll := orChain_mkeep (i :: j :: rest) acc h
      unfold orChain at h
      -- a new ancilla `d`, marked at once
      obtain ⟨d, s1, hfa, k1⟩ := run_bind_ok.mp h
      obtain ⟨hp1, semf, hcf, hava, hnava, hanca⟩ := getFreeAncilla_semK (wo := wo) (Q := Q) hfa hp
      obtain ⟨u2, s2, hmk, k2⟩ := run_bind_ok.mp k1
      obtain ⟨hp2, semm, hcm, mmark, manc, _⟩ := markAll_semK (wo := true) (Q := Q)
        (markAll_single d ▸ hmk) hp1 (fun hwo => nomatch hwo)
      have hnav2 : ∀ q, ¬ Avail s q → ¬ Avail s2 q := fun q hq h' => hq (semf.avail q (semm.avail q h'))
      have hcur2 : cur σ0 s2 = cur σ0 s := hcm.trans hcf
      have hpd2 : PrivK Kn s2 d :=
        ⟨fun h' => hnava (semm.avail d h'), fun n hk hq' => (hp2.tbl n d hk hq').2.1 (by rw [manc]; exact hanca)⟩
      -- `d ^= acc | i`
      have k2' : StateT.run (do
          (do cx acc d; cx i d; mcx [acc, i] d : M Unit)
          orChain dest d (j :: rest) : M Unit) s2 = .ok (u, s') := by
        simpa only [bind_assoc] using k2
      obtain ⟨u3, s3, hgate, k3⟩ := run_bind_ok.mp k2'
      obtain ⟨hni, hi⟩ := hr i List.mem_cons_self
      obtain ⟨hp3, semg, tg3, hv3⟩ :=
        orGate_semK (wo := wo) (Q := Q) hgate hp2 hpd2 (fun e => hna (e ▸ hava)) (fun e => hni (e ▸ hava))
          (hnav2 acc hna) (hnav2 i hni)
          (fun hwo f hfa hfi => ⟨(hQa hwo).elim (fun hm => hQm hwo f acc (hmkAll acc hm))
              (fun h' => h' f (by rw [hfa, hcur2])),
            hQr hwo i List.mem_cons_self f (by rw [hfi, hcur2])⟩)
      have sem03 := semf.trans' (SemK.after_mark hmk semg (fun _ => tg3))
      have hfr3 : ∀ q, ¬ Avail s q → cur σ0 s3 q = cur σ0 s q := fun q hq =>
        sem03.frame q (fun h' => h'.elim id (fun e => hq (e ▸ hava))) (Or.inl hq)
      have hrest : ∀ x ∈ j :: rest, ¬ Avail s x ∧ x ≠ dest := fun x hx => hr x (List.mem_cons_of_mem _ hx)
      have hdd : d ≠ dest := fun e => hpd.1 (e ▸ hava)
      -- `dest ^= d | j | rest…`
      obtain ⟨hp', semr, hvr, tgr, _⟩ := ih d k3 (List.cons_ne_nil _ _) hp3
        (hpd.next sem03) hdd (fun h' => hnava (semm.avail d (semg.avail d h')))
        (fun x hx => ⟨fun h' => (hrest x hx).1 (sem03.avail x h'), (hrest x hx).2⟩)
        hQm (fun _ => Or.inl (semg.mkeep d (mmark d List.mem_cons_self hanca
          (by rw [semf.kkeep]; exact hp.notKept hava))))
        (fun hwo c hc f hf => hQr hwo c (List.mem_cons_of_mem _ hc) f (by rw [hf, hfr3 c (hrest c hc).1]))
      have tot := sem03.trans' semr
      have hnav' : ¬ Avail s' d := fun h' => hnava (semm.avail d (semg.avail d (semr.avail d h')))
      refine ⟨hp', tot.mono ?_ (fun _ h' => h'.elim (·.elim id id) id) ?_, ?_, tgr, fun q hq => hq.of_sem tot⟩
      · rintro q hq ((h' | rfl) | h')
        · exact h'.elim
        · exact hq.elim (absurd hava) (absurd · hnav')
        · exact h'
      · rintro m ((h' | (h' | rfl)) | h')
        · exact h'.elim
        · exact h'.elim
        · exact ⟨hava, hnav', hdd⟩
        · exact ⟨sem03.avail m h'.1, h'.2⟩
      · rw [hvr, hfr3 dest hpd.1, hv3, hcur2, hp.zero d hava,
          any_congr_mem (fun x hx => hfr3 x (hrest x hx).1)]
        simp only [List.any_cons, Bool.or_assoc, Bool.false_xor]

theorem orWide_semK {d : Nat} {erets es : List Nat} {u : Unit} {s s' : CState}
    (h : (orWide d erets es).run s = .ok (u, s')) (hlen : 2 < es.length) (hd : d ∉ es)
    (hp : PreK Kn kv σ0 s) (hpd : PrivK Kn s d) (hes : ∀ c ∈ es, ¬ Avail s c)
    (hQm : wo = false → ∀ (f : FState) (c : Nat), c ∈ s'.qc.marked → Q f c)
    (hQe : wo = false → ∀ c ∈ es, ∀ f : FState, f c = cur σ0 s c → Q f c) :
    PreK Kn kv σ0 s' ∧
    SemK Kn σ0 wo Q (· = d) NoK (fun m => Avail s m ∧ ¬ Avail s' m ∧ m ≠ d) s s' ∧
    cur σ0 s' d = Bool.xor (cur σ0 s d) (es.any (cur σ0 s)) ∧ Tgt s' d := by
  obtain ⟨a, rest, hrest, hmem, h⟩ := orWide_run h hlen
  have hin : ∀ i ∈ a :: rest, ¬ Avail s i ∧ i ≠ d := fun i hi =>
    ⟨hes i ((hmem i).mp hi), fun e => hd (e ▸ (hmem i).mp hi)⟩
  obtain ⟨hp', sem, hv, tg, _⟩ := orChain_semK (wo := wo) (Q := Q) rest a h hrest hp hpd
    (hin a List.mem_cons_self).2 (hin a List.mem_cons_self).1 (fun i hi => hin i (List.mem_cons_of_mem _ hi))
    hQm (fun hwo => Or.inr (hQe hwo a ((hmem a).mp List.mem_cons_self)))
    (fun hwo c hc => hQe hwo c ((hmem c).mp (List.mem_cons_of_mem _ hc)))
  refine ⟨hp', sem, ?_, tg⟩
  rw [hv, ← List.any_cons (f := cur σ0 s), any_of_mem_iff (cur σ0 s) hmem]

theorem orChain_sem2 {Q : FState → Nat → Prop} {dest : Nat} :
    ∀ (rest : List Nat) (acc : Nat) {u : Unit} {s s' : CState},
    (orChain dest acc rest).run s = .ok (u, s') → rest ≠ [] → Pre2 scope ρ σ0 s → Priv scope s dest →
    acc ≠ dest → ¬ Avail s acc → (∀ i ∈ rest, ¬ Avail s i ∧ i ≠ dest) →
    (wo = false → ∀ (f : FState) (c : Nat), c ∈ s'.qc.marked → Q f c) →
    (wo = false → acc ∈ s.qc.marked ∨ ∀ f : FState, f acc = cur σ0 s acc → Q f acc) →
    (wo = false → ∀ c ∈ rest, ∀ f : FState, f c = cur σ0 s c → Q f c) →
    Pre2 scope ρ σ0 s' ∧
    Sem2 scope σ0 wo Q (· = dest) NoK (fun m => Avail s m ∧ ¬ Avail s' m ∧ m ≠ dest) s s' ∧
    cur σ0 s' dest = Bool.xor (cur σ0 s dest) (cur σ0 s acc || rest.any (cur σ0 s)) ∧ Tgt s' dest ∧
    (∀ q, Tgt s q → Tgt s' q) := by
  intro rest acc u s s' h hne hp hpd h1 h2 h3 h4 h5 h6
  obtain ⟨hp', sem, r⟩ := orChain_semK rest acc h hne hp.toK hpd h1 h2 h3 h4 h5 h6
  exact ⟨hp.ofK hp' sem, .ofK sem, r⟩

end QV.Compiler
