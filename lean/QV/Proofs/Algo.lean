import QV.Proofs.Hadamard
import QV.Model.Algo
import QV.Proofs.Types
import QV.Proofs.Circuit
/-!
A gate list of X/CX/CCX/MCX gates on distinct wires is a bijection of basis states whose inverse is the reversed
list, so it acts on amplitudes by running the reversed list on the basis state (`run_oracle`; also what the Grover
proofs use of a compiled oracle; `Amp.step g b` unfolds to `stepClassical b g`).  The `m` non-input qubits are called
`mid` (`rest` in `dj_amp`).  `pyEqZero_qint`, for `C16.dj_decode_partial`, is what needs `Proofs/Types`.
-/
namespace QV.Amp
open QV.Algo
open QV.Grover (hM)

/-- X/CX/CCX/MCX with distinct wires (what `QCircuit.append` admits), or a barrier -/
def wfGate (g : AGate) : Bool := (g.cls.isMCXLike && decide g.wires.Nodup) || g.cls.isNop

def wfOracle (gs : List AGate) : Bool := gs.all wfGate

theorem wfGate_iff {g : AGate} :
    wfGate g = true ↔ (g.cls.isMCXLike = true ∧ g.wires.Nodup) ∨ g.cls.isNop = true := by
  simp only [wfGate, Bool.or_eq_true, Bool.and_eq_true, decide_eq_true_eq]

theorem wfOracle_nodup {gs : List AGate} (h : wfOracle gs = true) :
    ∀ g ∈ gs, g.cls.isMCXLike = true → g.wires.Nodup := by
  intro g hg hm
  rcases wfGate_iff.mp (List.all_eq_true.mp h g hg) with h | h
  · exact h.2
  · rw [GClass.not_isMCXLike_of_isNop h] at hm; cases hm

/-- the fact behind the compiler's uncomputation (`runClassical_reverse_left` / `_right` of `Proofs/Circuit.lean`) -/
theorem back_fwd (gs : List AGate) (h : wfOracle gs = true) (s : BState) :
    runClassical gs.reverse (runClassical gs s) = s :=
  runClassical_reverse_left gs (wfOracle_nodup h) s

theorem fwd_back (gs : List AGate) (h : wfOracle gs = true) (s : BState) :
    runClassical gs (runClassical gs.reverse s) = s :=
  runClassical_reverse_right gs (wfOracle_nodup h) s

theorem applyGate_wf (g : AGate) (h : wfGate g = true) (ψ : State) :
    applyGate g ψ = fun b => ψ (step g b) := by
  funext b
  unfold applyGate step
  by_cases hm : g.cls.isMCXLike = true
  · simp [hm]
  · simp only [hm]
    rcases wfGate_iff.mp h with h | h
    · exact absurd h.1 hm
    · cases hc : g.cls <;> simp [hc, GClass.isNop] at h ⊢

theorem run_oracle (gs : List AGate) (h : wfOracle gs = true) (ψ : State) (b : BState) :
    run gs ψ b = ψ (runClassical gs.reverse b) :=
  foldl_precomp_classical applyGate gs
    (fun g hg ψ b => congrFun (applyGate_wf g (List.all_eq_true.mp h g hg) ψ) b) ψ b

theorem split2 (n m : Nat) (t : List Bool) (h : t.length = n + m) :
    ∃ x r, t = x ++ r ∧ x.length = n ∧ r.length = m :=
  ⟨t.take n, t.drop n, (List.take_append_drop n t).symm, by rw [List.length_take]; omega,
    by rw [List.length_drop]; omega⟩

theorem run_append (a b : List AGate) (ψ : State) : run (a ++ b) ψ = run b (run a ψ) := by
  simp [run, List.foldl_append]

theorem run_cons (g : AGate) (gs : List AGate) (ψ : State) : run (g :: gs) ψ = run gs (applyGate g ψ) := rfl

theorem run_nil (ψ : State) : run [] ψ = ψ := rfl

theorem applyGate_barrier (l : String) (ψ : State) : applyGate (barrier l) ψ = ψ := rfl

theorem applyGate_gH (i : Nat) (ψ : State) : applyGate (gH i) ψ = applyH i ψ := rfl
theorem applyGate_gZ (i : Nat) (ψ : State) : applyGate (gZ i) ψ = applyZ i ψ := rfl
theorem applyGate_gX (i : Nat) (ψ : State) : applyGate (gX i) ψ = fun b => ψ (BState.flip b i) := by
  funext b
  simp [applyGate, gX, GClass.isMCXLike, AGate.applyClassical]

theorem applyH_eq_app1 (i : Nat) (ψ : State) (s : BState) (h : i < s.length) :
    applyH i ψ s = app1 hM i ψ s := by
  unfold applyH app1 hM
  rw [if_pos h, Bool.and_false, Bool.and_true]
  show _ = 1 * _ + _
  rw [Int.one_mul]

theorem run_hLayer (n : Nat) (ψ : State) (s : BState) (hs : n ≤ s.length) :
    run (hLayer n) ψ s = layerM hM n ψ s := by
  rw [hLayer, List.map_eq_flatMap]
  exact foldl_layer applyGate (fun i => [gH i]) hM (fun i ψ s h => applyH_eq_app1 i ψ s h) n ψ s hs

theorem run_hLayer_sum (n : Nat) (ψ : State) (y r : List Bool) (hy : y.length = n) :
    run (hLayer n) ψ (y ++ r) = sumBits n (fun x => sgn (dot x y) * ψ (x ++ r)) := by
  rw [run_hLayer n ψ _ (by rw [List.length_append, hy]; omega), layerM_sum hM n ψ y r hy]
  simp only [kron_hM]

def embed (m k : Nat) (r : Bool) : List Bool := (zeros m).set k r

theorem initState_set (x : List Bool) (nq q : Nat) (y : Bool) (hq : x.length ≤ q) :
    (Compiler.initState x nq).set q y = x ++ embed (nq - x.length) (q - x.length) y := by
  unfold Compiler.initState embed zeros
  rw [List.set_append_right _ _ hq]

theorem allFalse_eq_zeros (l : List Bool) (h : allFalse l = true) : l = zeros l.length :=
  (all_not_iff l).mp h

theorem allFalse_zeros (m : Nat) : allFalse (zeros m) = true := by
  simp [allFalse, zeros]

theorem ket0_eq (l : List Bool) : ket0 l = if allFalse l then 1 else 0 := rfl

theorem ket0_zeros (m : Nat) : ket0 (zeros m) = 1 := by simp [ket0, zeros]

theorem rest_eq_embed (rest : List Bool) (m k : Nat) (hl : rest.length = m) (hk : k < m)
    (h : allFalse (rest.set k false) = true) : rest = embed m k (rest.getD k false) := by
  have hz := allFalse_eq_zeros _ h
  simp only [List.length_set, hl] at hz
  have hk' : k < rest.length := by omega
  unfold embed
  rw [← hz, List.set_set]
  simp [List.getD_eq_getElem?_getD, hk']

theorem embed_length (m k : Nat) (r : Bool) : (embed m k r).length = m := by simp [embed, zeros]

theorem embed_set_false (m k : Nat) (r : Bool) : (embed m k r).set k false = zeros m := by
  unfold embed
  rw [List.set_set]
  apply List.ext_getElem?
  intro j
  simp only [zeros, List.getElem?_set, List.getElem?_replicate, List.length_replicate]
  split <;> simp_all

theorem embed_getD (m k : Nat) (r : Bool) (hk : k < m) : (embed m k r).getD k false = r := by
  simp [embed, zeros, List.getD_eq_getElem?_getD, hk]

theorem embed_false (m k : Nat) : embed m k false = zeros m := by
  have := embed_set_false m k false
  unfold embed at this ⊢
  rwa [List.set_set] at this

theorem embed_inj {m k : Nat} (hk : k < m) {a b : Bool} (h : embed m k a = embed m k b) : a = b := by
  have := congrArg (fun l => l.getD k false) h
  rwa [embed_getD m k _ hk, embed_getD m k _ hk] at this

theorem flip_append_right (x rest : List Bool) (k : Nat) :
    BState.flip (x ++ rest) (x.length + k) = x ++ BState.flip rest k := by
  induction x with
  | nil => simp [BState.flip]
  | cons a x ih =>
    have e : (a :: x).length + k = (x.length + k) + 1 := by simp only [List.length_cons]; omega
    simp only [BState.flip] at ih ⊢
    rw [e, List.cons_append, List.modify_succ_cons, ih]
    rfl

theorem ket0_set_true (l : List Bool) (k : Nat) (hk : k < l.length) : ket0 (l.set k true) = 0 := by
  have : (l.set k true).all (fun x => !x) = false := by
    rw [List.all_eq_false]
    refine ⟨true, ?_, by simp⟩
    exact List.mem_iff_getElem.mpr ⟨k, by simpa using hk, by simp⟩
  simp [ket0, this]

theorem getD_append_right' (x rest : List Bool) (k : Nat) :
    (x ++ rest).getD (x.length + k) false = rest.getD k false := by
  rw [List.getD_eq_getElem?_getD, List.getD_eq_getElem?_getD,
    List.getElem?_append_right (Nat.le_add_right _ _), Nat.add_sub_cancel_left]

theorem first_layer (n : Nat) (x r : List Bool) (h : x.length = n) :
    run (hLayer n) ket0 (x ++ r) = ket0 r := by
  rw [run_hLayer_sum n ket0 x r h, sum_ket0]

/-- `ψ` lives on the clean basis states `x ++ embed m k r` (`m` further qubits of which number `k` holds `r` and the
others `0`) and has amplitude `A x r` there.  Before the Deutsch-Jozsa oracle `A x r = (-1)^r` (`|x⟩ ⊗ |0…0⟩ ⊗ |−⟩`
on qubit `n + k`, `dj_prep`); in Grover's iteration `A` is the reduced state (`Grover.ClassUniform`). -/
def CleanWave (n m k : Nat) (A : List Bool → Bool → Int) (ψ : State) : Prop :=
  ∀ x mid : List Bool, x.length = n → mid.length = m →
    ψ (x ++ mid) = if allFalse (mid.set k false) then A x (mid.getD k false) else 0

theorem dj_prep (n m k : Nat) (hk : k < m) :
    CleanWave n m k (fun _ r => sgn r) (run ([barrier "s"] ++ hLayer n ++ [gX (n+k), gH (n+k)]) ket0) := by
  intro x rest hx hr
  subst hx
  rw [run_append, run_append]
  simp only [run_cons, run_nil, applyGate_barrier, applyGate_gX, applyGate_gH]
  unfold applyH
  have hlen : x.length + k < (x ++ rest).length := by simp [hr, hk]
  have hk' : k < rest.length := by omega
  have hnl : ¬ (x.length + k < x.length) := by omega
  simp only [hlen, if_true, List.set_append, hnl, if_false, Nat.add_sub_cancel_left]
  rw [flip_append_right, flip_append_right, flip_set, flip_set,
    first_layer _ x _ rfl, first_layer _ x _ rfl]
  rw [getD_append_right']
  simp only [Bool.not_false, Bool.not_true, ket0_set_true rest k hk', ket0_eq]
  split <;> simp

/-- the Bernstein-Vazirani circuit is the Deutsch-Jozsa circuit -/
theorem hz_eq_xh (q : Nat) (ψ : State) :
    applyZ q (applyH q ψ) = applyH q (fun b => ψ (BState.flip b q)) := by
  funext b
  unfold applyZ applyH
  by_cases h : q < b.length
  · rw [if_pos h, if_pos h]
    show _ = ψ (BState.flip (b.set q false) q) + _ * ψ (BState.flip (b.set q true) q)
    rw [flip_set, flip_set]
    cases b.getD q false <;> simp only [sgn, Bool.false_eq_true, if_false, if_true, Bool.not_false,
      Bool.not_true] <;> ring
  · rw [if_neg h, if_neg h, Int.mul_zero]

theorem run_bvGates (n q : Nat) (gs : List AGate) (ψ : State) :
    run (bvGates n q gs) ψ = run (djGates n q gs) ψ := by
  simp only [bvGates, djGates, run_append, run_cons, run_nil, applyGate_gH, applyGate_gZ,
    applyGate_gX, hz_eq_xh]

/-- a clean xor-oracle for `f`: on classical basis states, with every non-input qubit but the
result qubit at `0`, the gate list maps `x, r ↦ x, r ⊕ f x` and returns the others to `0` -/
def XorOracle (gs : List AGate) (n m k : Nat) (f : List Bool → Bool) : Prop :=
  wfOracle gs = true ∧
  ∀ (x : List Bool) (r : Bool), x.length = n →
    runClassical gs (x ++ embed m k r) = x ++ embed m k (Bool.xor r (f x))

theorem run_xorOracle (gs : List AGate) (n m k : Nat) (f : List Bool → Bool)
    (hO : XorOracle gs n m k f) (hk : k < m)
    (A : List Bool → Bool → Int) (ψ : State) (hψ : CleanWave n m k A ψ) :
    CleanWave n m k (fun x r => A x (xor r (f x))) (run gs ψ) := by
  obtain ⟨hwf, hact⟩ := hO
  intro x mid hx hmid
  rw [run_oracle gs hwf]
  by_cases hA : allFalse (mid.set k false) = true
  · rw [if_pos hA]
    have hrest := rest_eq_embed mid m k hmid hk hA
    generalize mid.getD k false = r at hrest
    -- `x ++ embed r` is the image of the clean state `x ++ embed (r ⊕ f x)`, since `(r ⊕ f x) ⊕ f x = r`
    have h1 := hact x (xor r (f x)) hx
    rw [Bool.xor_assoc, Bool.xor_self, Bool.xor_false, ← hrest] at h1
    rw [← h1, back_fwd gs hwf, hψ x _ hx (embed_length m k _), embed_set_false, allFalse_zeros,
      embed_getD m k _ hk, if_pos rfl]
  · rw [if_neg hA]
    obtain ⟨x', mid', hb, hx', hm'⟩ := split2 n m (runClassical gs.reverse (x ++ mid))
      (by rw [runClassical_length, List.length_append, hx, hmid])
    rw [hb, hψ x' mid' hx' hm']
    refine if_neg (fun hB => hA ?_)
    -- a clean preimage would have a clean image
    have h1 := hact x' (mid'.getD k false) hx'
    rw [← rest_eq_embed mid' m k hm' hk hB, ← hb, fwd_back gs hwf] at h1
    rw [(List.append_inj h1 (by rw [hx, hx'])).2, embed_set_false, allFalse_zeros]

theorem dj_amp (gs : List AGate) (n m k : Nat) (f : List Bool → Bool)
    (hO : XorOracle gs n m k f) (hk : k < m)
    (y rest : List Bool) (hy : y.length = n) (hr : rest.length = m) :
    run (djGates n (n + k) gs) ket0 (y ++ rest) =
      if allFalse (rest.set k false) then
        sgn (rest.getD k false) * sumBits n (fun x => sgn (dot x y) * sgn (f x))
      else 0 := by
  unfold djGates
  rw [run_append, run_append, run_append, run_append, run_hLayer_sum n _ y rest hy]
  simp only [run_cons, run_nil, applyGate_barrier]
  rw [sumBits_congr n _ (fun x => sgn (dot x y) *
      (if allFalse (rest.set k false) then sgn (rest.getD k false) * sgn (f x) else 0))
    (fun x hx => by
      simp only [run_xorOracle gs n m k f hO hk _ _ (dj_prep n m k hk) x rest hx hr, sgn_xor])]
  by_cases hA : allFalse (rest.set k false) = true
  · simp only [hA, if_true]
    rw [← sumBits_smul]
    apply sumBits_congr; intro x _; ring
  · simp only [hA, Bool.false_eq_true, if_false, Int.mul_zero]
    exact sumBits_zero n

/-- Simon's black box on classical basis states: with all non-input qubits at `0` the gate
list maps `x ↦ x, F x` (`F x` = everything the circuit leaves on the other `m` qubits:
result register and ancillas) -/
def FunOracle (gs : List AGate) (n m : Nat) (F : List Bool → List Bool) : Prop :=
  wfOracle gs = true ∧
  ∀ x : List Bool, x.length = n → (F x).length = m ∧ runClassical gs (x ++ zeros m) = x ++ F x

def Period (n : Nat) (F : List Bool → List Bool) (s : List Bool) : Prop :=
  s.length = n ∧ s ≠ zeros n ∧
  ∀ x x' : List Bool, x.length = n → x'.length = n → (F x = F x' ↔ (x' = x ∨ x' = xorBits x s))

theorem simon_oracle_state (gs : List AGate) (n m : Nat) (F : List Bool → List Bool)
    (hO : FunOracle gs n m F) (x z : List Bool) (hx : x.length = n) (hz : z.length = m) :
    run gs (run (hLayer n) ket0) (x ++ z) = if z = F x then 1 else 0 := by
  rw [run_oracle gs hO.1]
  by_cases hA : z = F x
  · simp only [hA, if_true]
    rw [← (hO.2 x hx).2, back_fwd gs hO.1, first_layer n x _ hx, ket0_zeros]
  · simp only [hA, if_false]
    obtain ⟨x', r', hb, hx', hr'⟩ := split2 n m (runClassical gs.reverse (x ++ z))
      (by rw [runClassical_length, List.length_append, hx, hz])
    rw [hb, first_layer n x' _ hx', ket0_eq]
    by_cases hB : allFalse r' = true
    · exfalso
      have hr0 := allFalse_eq_zeros r' hB
      rw [hr'] at hr0
      have h1 := (hO.2 x' hx').2
      rw [← hr0, ← hb, fwd_back gs hO.1] at h1
      have h2 := List.append_inj h1 (by rw [hx, hx'])
      apply hA
      rw [h2.2, h2.1]
    · simp [hB]

theorem simon_amp (gs : List AGate) (n m : Nat) (F : List Bool → List Bool)
    (hO : FunOracle gs n m F) (y z : List Bool) (hy : y.length = n) (hz : z.length = m) :
    run (simonGates n gs) ket0 (y ++ z) =
      sumBits n (fun x => sgn (dot x y) * (if z = F x then 1 else 0)) := by
  unfold simonGates
  rw [run_append, run_append, run_append, run_append, run_append, run_hLayer_sum n _ y z hy]
  simp only [run_cons, run_nil, applyGate_barrier]
  apply sumBits_congr
  intro x hx
  rw [simon_oracle_state gs n m F hO x z hx hz]

theorem simon_amp_image (gs : List AGate) (n m : Nat) (F : List Bool → List Bool) (s : List Bool)
    (hO : FunOracle gs n m F) (hP : Period n F s) (y x0 : List Bool) (hy : y.length = n)
    (hx0 : x0.length = n) :
    run (simonGates n gs) ket0 (y ++ F x0) = sgn (dot x0 y) * (1 + sgn (dot s y)) := by
  obtain ⟨hs, hs0, hper⟩ := hP
  rw [simon_amp gs n m F hO y (F x0) hy (hO.2 x0 hx0).1]
  have hxl : (xorBits x0 s).length = n := by rw [xorBits_length x0 s (by rw [hx0, hs]), hx0]
  -- `F x0 = F x` only for `x = x0` and `x = x0 ⊕ s` (`Period`): the sum has two terms
  rw [sumBits_congr n _ (fun x => if x = x0 ∨ x = xorBits x0 s then sgn (dot x y) else 0)
    (fun x hx => by
      by_cases h : F x0 = F x
      · have := (hper x0 x hx0 hx).mp h
        simp [h, this]
      · have : ¬ (x = x0 ∨ x = xorBits x0 s) := fun e => h ((hper x0 x hx0 hx).mpr e)
        simp [h, this])]
  rw [sumBits_pair n x0 (xorBits x0 s) _ hx0 hxl
    (fun e => xorBits_ne_self x0 s (by rw [hx0, hs]) (by rw [hs]; exact hs0) e.symm)]
  rw [dot_xorBits_left x0 s y (by rw [hx0, hs]), sgn_xor]
  ring

theorem simon_amp_nonimage (gs : List AGate) (n m : Nat) (F : List Bool → List Bool)
    (hO : FunOracle gs n m F) (y z : List Bool) (hy : y.length = n) (hz : z.length = m)
    (hni : ∀ x : List Bool, x.length = n → F x ≠ z) :
    run (simonGates n gs) ket0 (y ++ z) = 0 := by
  rw [simon_amp gs n m F hO y z hy hz]
  rw [sumBits_congr n _ (fun _ => 0) (fun x hx => by
    have : ¬ z = F x := fun e => hni x hx e.symm
    simp [this])]
  exact sumBits_zero n

open QV.Types in
theorem pyEqZero_qint (w : Nat) (y : List Bool) (hy : y.length = w) (hw : 0 < w) :
    pyEqZero (interpret (.qint w) y) = some (decide (y = zeros w)) := by
  have hne : y ≠ [] := by intro e; subst e; simp at hy; omega
  have hlt : valLE y < 2 ^ w := hy ▸ valLE_lt y
  simp only [interpret, qintFromBool_eq hne, optVal, pyEqZero, Nat.mod_eq_of_lt hlt]
  have : valLE y = 0 ↔ y = zeros w := hy ▸ valLE_eq_zero_iff y
  by_cases h : valLE y = 0
  · have h' := this.mp h
    rw [h]; simp [h']
  · have h' : ¬ y = zeros w := fun e => h (this.mpr e)
    simp [h, h']

end QV.Amp
