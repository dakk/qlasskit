import QV.Proofs.FrontStmtNamesT
namespace QV.Sem
open QV.Arith QV.Front

mutual
theorem TVal.eq_of_beq : ∀ a b : TVal, a.ty = b.ty → a.beq b = true → a = b
  | .bool x, b, ht, h => by
    cases b <;> first | (simp only [TVal.beq, beq_iff_eq] at h; rw [h]) | simp [TVal.ty] at ht
  | .int w x, b, ht, h => by
    cases b with
    | int w' y =>
      simp only [TVal.ty, Ty.qint.injEq] at ht
      simp only [TVal.beq, beq_iff_eq] at h
      rw [ht, h]
    | _ => simp [TVal.ty] at ht
  | .char x, b, ht, h => by
    cases b <;> first | (simp only [TVal.beq, beq_iff_eq] at h; rw [h]) | simp [TVal.ty] at ht
  | .tuple xs, b, ht, h => by
    cases b with
    | tuple ys =>
      simp only [TVal.ty, Ty.tuple.injEq] at ht
      simp only [TVal.beq] at h
      rw [TVal.eq_of_beqList xs ys ht h]
    | _ => simp [TVal.ty] at ht
theorem TVal.eq_of_beqList : ∀ a b : List TVal, TVal.tyList a = TVal.tyList b →
    TVal.beqList a b = true → a = b
  | [], [], _, _ => rfl
  | x :: xs, y :: ys, ht, h => by
    simp only [TVal.tyList, List.cons.injEq] at ht
    simp only [TVal.beqList, Bool.and_eq_true] at h
    rw [TVal.eq_of_beq x y ht.1 h.1, TVal.eq_of_beqList xs ys ht.2 h.2]
  | [], _ :: _, ht, _ => by simp [TVal.tyList] at ht
  | _ :: _, [], ht, _ => by simp [TVal.tyList] at ht
end

theorem decode_of_bits (ρ : QV.Env) (base : String) (sv : TVal) (hwf : sv.wf = true)
    (hbits : (Ty.names base sv.ty).map ρ = sv.bits) : decodeT ρ base sv.ty = sv := by
  apply TVal.eq_of_beq _ _ (decodeT_ty ρ _ _)
  rw [TVal.beq_iff_bits _ _ (decodeT_ty ρ _ _) (decodeT_wf ρ _ _) hwf, decodeT_bits, hbits]

mutual
/-- `_nest_as_type` consumes the first bits of the list and gives them the nesting whose
`decompose_to_symbols` names are `translate_argument`'s -/
theorem nestAs_spec : ∀ (t : Ty) (bits : List BExp) (v : Val) (rest : List BExp) (base : String),
    nestAs t bits = some (v, rest) → bits = v.flatten ++ rest ∧ (v.decompose base).map (·.1) = Ty.names base t
  | .bool, [], v, rest, base, h => by simp [nestAs] at h
  | .bool, b :: bs, v, rest, base, h => by
    simp only [nestAs, Option.some.injEq, Prod.mk.injEq] at h
    obtain ⟨rfl, rfl⟩ := h
    simp [Val.flatten, Val.decompose, names_bool]
  | .qint w, bs, v, rest, base, h => by
    simp only [nestAs] at h
    split at h
    · cases h
    · rename_i hlen
      simp only [Option.some.injEq, Prod.mk.injEq] at h
      obtain ⟨rfl, rfl⟩ := h
      refine ⟨by rw [flatten_ofBits, List.take_append_drop], ?_⟩
      rw [decompose_ofBits, defsOf_names0, names_qint, List.length_take]
      congr 2; omega
  | .qchar, bs, v, rest, base, h => by
    simp only [nestAs] at h
    split at h
    · cases h
    · rename_i hlen
      simp only [Option.some.injEq, Prod.mk.injEq] at h
      obtain ⟨rfl, rfl⟩ := h
      refine ⟨by rw [flatten_ofBits, List.take_append_drop], ?_⟩
      rw [decompose_ofBits, defsOf_names0, names_qchar, List.length_take]
      congr 2; omega
  | .tuple ts, bs, v, rest, base, h => by
    simp only [nestAs, Option.map_eq_some_iff] at h
    obtain ⟨⟨vs, r⟩, h1, h2⟩ := h
    simp only [Prod.mk.injEq] at h2
    obtain ⟨rfl, rfl⟩ := h2
    obtain ⟨i1, i2⟩ := nestAsList_spec ts bs vs r base 0 h1
    exact ⟨by rw [Val.flatten]; exact i1, by rw [Val.decompose, Ty.names]; exact i2⟩
theorem nestAsList_spec : ∀ (ts : List Ty) (bits : List BExp) (vs : List Val) (rest : List BExp)
    (base : String) (i : Nat), nestAsList ts bits = some (vs, rest) →
    bits = Val.flattenList vs ++ rest ∧ (Val.decomposeList base i vs).map (·.1) = Ty.namesList base i ts
  | [], bs, vs, rest, base, i, h => by
    simp only [nestAsList, Option.some.injEq, Prod.mk.injEq] at h
    obtain ⟨rfl, rfl⟩ := h
    simp [Val.flattenList, Val.decomposeList, Ty.namesList]
  | t :: ts, bs, vs, rest, base, i, h => by
    simp only [nestAsList] at h
    split at h
    · cases h
    · rename_i v r hv
      simp only [Option.map_eq_some_iff] at h
      obtain ⟨⟨vs', r'⟩, h1, h2⟩ := h
      simp only [Prod.mk.injEq] at h2
      obtain ⟨rfl, rfl⟩ := h2
      obtain ⟨i1, i2⟩ := nestAs_spec t bs v r (bitName base i) hv
      obtain ⟨j1, j2⟩ := nestAsList_spec ts r vs' r' base (i + 1) h1
      refine ⟨by rw [i1, j1, Val.flattenList, List.append_assoc], ?_⟩
      rw [decomposeList_cons, namesList_cons, List.map_append, i2, j2]
end

theorem den_renest {ρ : QV.Env} {ts : List Ty} {v v' : Val} {sv : TVal} {rest : List BExp}
    (hd : DenT ρ (.tuple ts) v sv) (hn : nestAs (.tuple ts) v.flatten = some (v', rest)) (base : String) :
    DenT ρ (.tuple ts) v' sv ∧ (v'.decompose base).map (·.1) = Ty.names base (.tuple ts) ∧
      v'.flatten = v.flatten := by
  obtain ⟨h1, h2⟩ := nestAs_spec _ _ _ _ base hn
  suffices h : DenT ρ (.tuple ts) v' sv ∧ v'.flatten = v.flatten from ⟨h.1, h2, h.2⟩
  have hl1 : v'.flatten.length = (Ty.tuple ts).bits := by
    rw [← decompose_snd v' base, List.length_map, ← List.length_map (f := (·.1)), h2, names_length]
  have hl2 := den_flatten_length hd
  have hr : rest = [] := by
    have := congrArg List.length h1
    rw [List.length_append, hl1, hl2] at this
    exact List.length_eq_zero_iff.mp (by omega)
  rw [hr, List.append_nil] at h1
  have hb := den_bits hd
  rw [h1] at hb
  simp only [nestAs, Option.map_eq_some_iff] at hn
  obtain ⟨⟨vs, r⟩, _, h3⟩ := hn
  simp only [Prod.mk.injEq] at h3
  obtain ⟨rfl, _⟩ := h3
  cases sv with
  | tuple svs =>
    have hty := den_ty hd
    simp only [TVal.ty, Ty.tuple.injEq] at hty
    have hwf := den_wf hd
    exact ⟨DenT.mk_tup _ _ _ hty (by simpa [TVal.wf] using hwf) (by simpa [Val.flatten, TVal.bits] using hb),
      h1.symm⟩
  | bool _ => cases hd
  | int _ _ => cases hd
  | char _ => cases hd

/-- invariant of the statement translator: every variable that can be looked up has the bit names of its type,
a type `tr` can read a name of (`NameOK`) and a dot-free name, and its value in `σ` is what its symbols say
under `ρ` -/
structure EnvInvT (ρ : QV.Env) (env : Front.Env) (σ : TEnv) : Prop where
  bind : EnvOKN ρ env σ
  good : ∀ n b, env.find n = some b → goodName n = true

/-- `ρ'` differs from `ρ` only on the symbols below `t` (nothing to do with `Agree` / `AgreeT` of the exact semantics) -/
def AgreeOffT (t : String) (ρ ρ' : QV.Env) : Prop := ∀ s, ¬ Sub t s → ρ' s = ρ s

theorem AgreeOffT.refl (t : String) (ρ : QV.Env) : AgreeOffT t ρ ρ := fun _ _ => rfl

theorem bindOKN_transfer {ρ ρ' : QV.Env} {σ σ' : TEnv} {b : Binding} {t : String} (hb : BindOKN ρ σ b)
    (hg : goodName b.name = true) (hgt : goodName t = true) (hne : b.name ≠ t)
    (ha : AgreeOffT t ρ ρ') (hσ : σ' b.name = σ b.name) : BindOKN ρ' σ' b := by
  obtain ⟨h1, h2, h3⟩ := hb
  exact ⟨h1, h2, by
    rw [hσ, h3, decodeT_congr ρ ρ' b.ty b.name fun s hs => ha s (sub_disjoint hg hgt hne (names_sub b.ty b.name s hs))]⟩

/-- `σ` with the variable `t` re-read from its symbols under `ρ''` -/
def rebaseT (t : String) (env : Front.Env) (σ : TEnv) (ρ'' : QV.Env) : TEnv := fun n =>
  if n = t then (match env.find t with | some b => some (decodeT ρ'' t b.ty) | none => σ t) else σ n

theorem envInvT_rebase {ρ ρ'' : QV.Env} {env : Front.Env} {σ : TEnv} (hinv : EnvInvT ρ env σ) {t : String}
    (hgt : goodName t = true) (ha : AgreeOffT t ρ ρ'') : EnvInvT ρ'' env (rebaseT t env σ ρ'') := by
  refine ⟨?_, hinv.good⟩
  intro n b hf
  have hname := find_name hf
  by_cases hn : n = t
  · subst hn
    obtain ⟨h1, h2, _⟩ := hinv.bind n b hf
    exact ⟨h1, h2, by rw [hname]; simp [rebaseT, hf]⟩
  · have hne : b.name ≠ t := by rw [hname]; exact hn
    exact bindOKN_transfer (hinv.bind n b hf) (by rw [hname]; exact hinv.good n b hf) hgt hne ha
      (by simp [rebaseT, hne])

/-- the value of an expression that does not mention `t` denotes the same whatever the symbols below `t` hold: soundness,
applied under `ρ` and again under `ρ''` with `t` re-read from its symbols (`rebaseT`), gives the same `semT` value twice -/
theorem tr_indepT {ρ : QV.Env} {env : Front.Env} {σ : TEnv} (hinv : EnvInvT ρ env σ) {t : String}
    (hgt : goodName t = true) {e : PExp} (hfrag : inFragT e = true) (hself : mentions t e = false)
    (hw : wellT σ e = true)
    {s s' : St} {ty : Ty} {v : Val} (htr : (tr Quirks.none env e).run s = .ok ((ty, v), s')) :
    ∃ sv, semT σ e = some sv ∧ ∀ ρ'', AgreeOffT t ρ ρ'' → DenT ρ'' ty v sv := by
  obtain ⟨sv, hs, hd⟩ := soundT_all ρ env σ hinv.bind e hfrag _ _ _ _ hw htr
  refine ⟨sv, hs, fun ρ'' ha => ?_⟩
  have hcg : ∀ n, n ≠ t → rebaseT t env σ ρ'' n = σ n := fun n hn => by simp [rebaseT, hn]
  have hw' : wellT (rebaseT t env σ ρ'') e = true := by
    rw [wellT_congr t _ σ hcg e hself]; exact hw
  obtain ⟨sv', hs', hd'⟩ := soundT_all ρ'' env _ (envInvT_rebase hinv hgt ha).bind e hfrag _ _ _ _ hw' htr
  have := semT_congr t (rebaseT t env σ ρ'') σ hcg e hself
  rw [this, hs] at hs'
  cases hs'
  exact hd'

theorem envInvT_bind {ρ ρ' : QV.Env} {env : Front.Env} {σ : TEnv} (hinv : EnvInvT ρ env σ) {t : String}
    (hgt : goodName t = true) (ha : AgreeOffT t ρ ρ') (nb : Binding) (sv : TVal)
    (hnew : BindOKN ρ' (σ.set t sv) nb) (env' : Front.Env)
    (hfind : ∀ n, env'.find n = if n = t then some nb else env.find n) :
    EnvInvT ρ' env' (σ.set t sv) := by
  refine ⟨?_, ?_⟩
  · intro n b hf
    rw [hfind] at hf
    by_cases hn : n = t
    · simp only [hn, if_true, Option.some.injEq] at hf
      subst hf; exact hnew
    · simp only [hn, if_false] at hf
      have hbn := find_name hf
      have hne : b.name ≠ t := by rw [hbn]; exact hn
      exact bindOKN_transfer (hinv.bind n b hf) (by rw [hbn]; exact hinv.good n b hf) hgt hne ha
        (by simp [TEnv.set, hne])
  · intro n b hf
    rw [hfind] at hf
    by_cases hn : n = t
    · rw [hn]; exact hgt
    · simp only [hn, if_false] at hf
      exact hinv.good n b hf

/-- a value that denotes the same under every assignment that differs from `ρ` only below `t` reads no symbol
of `t` at all -/
theorem lowBits_of_indepT {ρ : QV.Env} {t : String} {ty : Ty} {v : Val} {sv : TVal}
    (hind : ∀ ρ'', AgreeOffT t ρ ρ'' → DenT ρ'' ty v sv) : LowBits (ty.names t) ρ v.flatten := by
  intro i b hb ρ'' ha
  have h1 := den_bits (hind ρ'' fun s hs => ha s fun hm => hs (names_sub ty t s (List.mem_of_mem_take hm)))
  rw [← den_bits (hind ρ (AgreeOffT.refl t ρ))] at h1
  exact (List.map_inj_left.mp h1) b (List.mem_of_getElem? hb)

theorem bind_valueT {ρ : QV.Env} {env : Front.Env} {σ : TEnv} (hinv : EnvInvT ρ env σ) {t : String}
    (hgt : goodName t = true) {ty : Ty} {v : Val} {sv : TVal}
    (hd : DenT ρ ty v sv) (hlow : LowBits (ty.names t) ρ v.flatten) (hgood : NameOK ty)
    (hnames : (v.decompose t).map (·.1) = ty.names t) (env' : Front.Env)
    (hfind : ∀ n, env'.find n = if n = t then some ⟨t, ty, (v.decompose t).map (·.1)⟩ else env.find n) :
    EnvInvT (runDefs (v.decompose t) ρ) env' (σ.set t sv) := by
  have hty := den_ty hd
  have hmap := seq_eval ρ (v.decompose t) (by rw [hnames]; exact names_nodup ty t)
    (by rw [hnames, decompose_snd]; exact hlow)
  rw [hnames, decompose_snd, den_bits hd] at hmap
  have hag : AgreeOffT t ρ (runDefs (v.decompose t) ρ) := fun s hs => runDefs_frame _ ρ s fun hm => by
    rw [hnames] at hm
    exact hs (names_sub ty t s hm)
  apply envInvT_bind hinv hgt hag _ sv _ env' hfind
  refine ⟨hnames, hgood, ?_⟩
  simp only [TEnv.set, beq_self_eq_true, if_true, Option.some.injEq]
  have := decode_of_bits (runDefs (v.decompose t) ρ) t sv (den_wf hd) (by rw [hty]; exact hmap)
  rw [hty] at this
  exact this.symm

theorem names_of_den {ρ : QV.Env} {ty : Ty} {v : Val} {sv : TVal} (hd : DenT ρ ty v sv) (t : String)
    (hnt : ∀ ts, ty ≠ .tuple ts) : (v.decompose t).map (·.1) = ty.names t := by
  cases hd with
  | bool a => simp [Val.decompose, names_bool]
  | int bits => rw [decompose_ofBits, defsOf_names0, names_qint]
  | char bits h8 => rw [decompose_ofBits, defsOf_names0, names_qchar, h8]
  | tup vs svs _ _ => exact absurd rfl (hnt _)

/-- a statement of the widened fragment whose assignments may read their own target through the leaves of
if-expressions on other variables (`guardedRhs`) -/
def stmtOKTg : Stmt → Bool
  | .assign t e => goodName t && t != "_ret" && inFragT e && guardedRhs t e
  | .ret e => inFragT e && !mentions "_ret" e
  | .expr _ => true
  | .unsupported _ => false

theorem guardedRhs_of_not_mentions (t : String) (e : PExp) (h : mentions t e = false) : guardedRhs t e = true := by
  unfold guardedRhs
  split <;> simp_all

theorem stmtOKTg_of_stmtOKT (st : Stmt) (h : stmtOKT st = true) : stmtOKTg st = true := by
  cases st with
  | assign t e =>
    simp only [stmtOKT, Bool.and_eq_true, Bool.not_eq_true'] at h
    simp only [stmtOKTg, Bool.and_eq_true]
    exact ⟨h.1, guardedRhs_of_not_mentions t e h.2⟩
  | ret e => exact h
  | expr e => rfl
  | unsupported w => exact h

theorem tr_name_flat {ρ : QV.Env} {env : Front.Env} {σ : TEnv} (henv : EnvOKN ρ env σ) {n : String}
    {s s' : St} {ty : Ty} {v : Val} (h : (tr Quirks.none env (.name n)).run s = .ok ((ty, v), s')) :
    v.flatten = (ty.names n).map BExp.sym ∧ ∃ b, env.find n = some b := by
  rw [tr] at h
  cases hf : env.find n with
  | none =>
    rw [hf] at h
    exact (throw_inv h).elim
  | some b =>
    rw [hf] at h
    refine ⟨?_, b, rfl⟩
    obtain ⟨hbv, _, _⟩ := henv n b hf
    rw [find_name hf] at hbv
    simp only at h
    split at h
    · cases pure_inv h
      rw [hbv, ofBits_syms, flatten_ofBits]
    · split at h
      · rename_i s0 hs0
        cases pure_inv h
        rw [← hbv, hs0]
        rfl
      · exact (throw_inv h).elim

theorem low_of_guardedT {ρ : QV.Env} {env : Front.Env} {σ : TEnv} (hinv : EnvInvT ρ env σ) {t : String}
    (hgt : goodName t = true) (e : PExp) (hfrag : inFragT e = true) (hw : wellT σ e = true)
    (hg : guardedRhs t e = true) {s s' : St} {ty : Ty} {v : Val}
    (h : (tr Quirks.none env e).run s = .ok ((ty, v), s')) : LowBits (ty.names t) ρ v.flatten := by
  have indep : ∀ {e : PExp} {s s' : St} {ty : Ty} {v : Val}, inFragT e = true → wellT σ e = true →
      mentions t e = false → (tr Quirks.none env e).run s = .ok ((ty, v), s') →
      LowBits (ty.names t) ρ v.flatten := by
    intro e s s' ty v hfrag hw hm h
    obtain ⟨sv, _, hind⟩ := tr_indepT hinv hgt hfrag hm hw h
    exact lowBits_of_indepT hind
  fun_induction guardedRhs t e generalizing s s' ty v with
  | case1 g a b iha ihb =>
    simp only [Bool.or_eq_true, Bool.and_eq_true, bne_iff_ne, ne_eq, Bool.not_eq_true'] at hg
    rcases hg with ⟨⟨hgne, hga⟩, hgb⟩ | hm
    · simp only [inFragT, Bool.and_eq_true] at hfrag
      simp only [wellT, Bool.and_eq_true, Bool.not_eq_true', Bool.or_eq_false_iff, Bool.and_eq_false_iff] at hw
      obtain ⟨⟨⟨hwc, hwl⟩, hwr⟩, hmix1, hmix2⟩ := hw
      obtain ⟨cb, lt, lv, rt, rv, s0, s1, s2, h0, h1, h2, tv, ev, hco, hjoin⟩ := tr_ite_inv h
      rcases hjoin with ⟨_, x, y, _, _, rfl⟩ | ⟨hnb, ts, fs, zs, hx, hy, hz, rfl⟩
      · exact LowBits.single _ ρ _
      have hlx := iha hfrag.1.2 hwl hga h1
      have hly := ihb hfrag.2 hwr hgb h2
      obtain ⟨svl, hsl, hdl⟩ := soundT_all ρ env σ hinv.bind a hfrag.1.2 _ _ _ _ hwl h1
      obtain ⟨svr, hsr, hdr⟩ := soundT_all ρ env σ hinv.bind b hfrag.2 _ _ _ _ hwr h2
      -- the test is the symbol `g`, which is none of the symbols of `t`
      obtain ⟨hcf, bg, hbg⟩ := tr_name_flat hinv.bind h0
      have hcb : cb = .sym g := by simpa [Val.flatten, names_bool] using hcf
      have hc : ∀ ρ'', (∀ s, s ∉ ty.names t → ρ'' s = ρ s) → cb.eval ρ'' = cb.eval ρ := by
        intro ρ'' ha
        rw [hcb]
        simp only [BExp.eval]
        exact ha g fun hm => sub_disjoint (hinv.good g bg hbg) hgt hgne (sub_refl g) (names_sub ty t g hm)
      rw [hsl, hsr] at hmix1 hmix2
      rcases ite_branches hdl hdr hmix1 hmix2 hco with ⟨_, rfl, rfl, rfl, rfl⟩ |
          ⟨x, y, rfl, rfl, rfl, rfl, rfl, rfl, rfl, rfl, rfl⟩
      · subst hx; subst hy
        rw [Val.flatten, iteZip_flat ((den_flatten_length hdl).trans (den_flatten_length hdr).symm) hz]
        exact LowBits.zipWith_ite hc hlx hly
      · rw [flatten_ofBits, names_qint] at hlx hly
        rw [ite_bits hx hy hz]
        rw [names_qint] at hc ⊢
        change LowBits _ ρ (Val.ofBits _).flatten
        rw [flatten_ofBits]
        exact LowBits.zipWith_ite hc ((hlx.widen (Nat.le_refl _) (Nat.le_max_left _ _)).fill _)
          ((hly.widen (Nat.le_refl _) (Nat.le_max_right _ _)).fill _)
    · exact indep hfrag hw hm h
  | case2 n =>
    by_cases hn : n = t
    · subst hn
      rw [(tr_name_flat hinv.bind h).1]
      exact LowBits.syms ρ (names_nodup ty n)
    · exact indep hfrag hw (by simp [mentions, hn]) h
  | case3 e h1 h2 => exact indep hfrag hw (by simpa using hg) h

theorem assign_stepT {ρ : QV.Env} {env : Front.Env} {σ : TEnv} (hinv : EnvInvT ρ env σ) (ret : Ty)
    (t : String) (e : PExp) (hgt : goodName t = true) (hfrag : inFragT e = true)
    (hself : guardedRhs t e = true) (hw : wellT σ e = true) (hok : ∀ sv, semT σ e = some sv → NameOK sv.ty)
    {s s' : St} {defs : List (String × BExp)} {env' : Front.Env}
    (h : (trStmt Quirks.none ret env (.assign t e)).run s = .ok ((defs, env'), s')) :
    ∃ sv, semT σ e = some sv ∧ EnvInvT (runDefs defs ρ) env' (σ.set t sv) ∧
      (∀ n, n ≠ t → env'.find n = env.find n) := by
  rw [trStmt] at h
  obtain ⟨⟨ty, v⟩, s1, h1, h2⟩ := bind_inv h
  clear h
  obtain ⟨sv, hs, hd⟩ := soundT_all ρ env σ hinv.bind e hfrag _ _ _ _ hw h1
  have hlow := low_of_guardedT hinv hgt e hfrag hw hself h1
  have hgood : NameOK ty := den_ty hd ▸ hok sv hs
  -- a tuple value is re-nested, which changes neither its bits nor what it denotes
  have key : ∃ v' : Val, defs = v'.decompose t ∧ env' = env.bind ⟨t, ty, (v'.decompose t).map (·.1)⟩ ∧
      (v'.decompose t).map (·.1) = ty.names t ∧ DenT ρ ty v' sv ∧ v'.flatten = v.flatten := by
    have hd0 := hd
    cases hd with
    | bool a | int bits | char bits h8 =>
      simp only [run_pure_ok, Prod.mk.injEq] at h2
      obtain ⟨⟨rfl, rfl⟩, _⟩ := h2
      exact ⟨_, rfl, rfl, names_of_den hd0 t (by intro ts hh; cases hh), hd0, rfl⟩
    | tup vs svs hwf hbits =>
      have hd := hd0
      have hq : Quirks.none.tupleAssignFlat = false := rfl
      simp only [hq, Bool.not_false, if_true, run_ite_ok, run_bind_ok, run_event_ok] at h2
      rcases h2 with ⟨_, _, _, _, h3⟩ | ⟨hne, h3⟩
      · cases hn : nestAs (Ty.tuple (TVal.tyList svs)) (Val.list vs).flatten with
        | none =>
          rw [hn] at h3
          simp only [run_bind_ok, run_throw_ok, false_and, exists_false] at h3
        | some p =>
          obtain ⟨v', rest⟩ := p
          rw [hn] at h3
          simp only [run_pure_ok, Prod.mk.injEq] at h3
          obtain ⟨⟨rfl, rfl⟩, _⟩ := h3
          obtain ⟨i1, i2, i3⟩ := den_renest hd hn t
          exact ⟨v', rfl, rfl, i2, i1, i3⟩
      · simp only [run_pure_ok, Prod.mk.injEq] at h3
        obtain ⟨⟨rfl, rfl⟩, _⟩ := h3
        exact ⟨_, rfl, rfl, by simpa using hne, hd, rfl⟩
  obtain ⟨v', rfl, rfl, hnames, hd', hfl⟩ := key
  have hfind := fun n => find_bind env ⟨t, ty, (v'.decompose t).map (·.1)⟩ n
  refine ⟨sv, hs, bind_valueT hinv hgt hd' (hfl ▸ hlow) hgood hnames _ hfind, fun n hn => ?_⟩
  rw [hfind n]
  simp [hn]

theorem ret_stepT {ρ : QV.Env} {env : Front.Env} {σ : TEnv} (hinv : EnvInvT ρ env σ) (ret : Ty)
    (e : PExp) (hfrag : inFragT e = true)
    (hself : mentions "_ret" e = false) (hw : wellT σ e = true) (hwr : wellRet ret (semT σ e) = true)
    {s s' : St} {defs : List (String × BExp)} {env' : Front.Env}
    (h : (trStmt Quirks.none ret env (.ret e)).run s = .ok ((defs, env'), s')) :
    ∃ v sv, semT σ e = some v ∧ coerceRetT ret v = some sv ∧
      (ret.names "_ret").map (runDefs defs ρ) = sv.bits ∧ (env'.find "_ret").isSome = true := by
  obtain ⟨ty, v, s1, h1, v1, v2, hco, hnest, hnone, rfl, rfl⟩ := trStmt_ret_inv h
  obtain ⟨sv, hs, hind⟩ := tr_indepT hinv retName_good hfrag hself hw h1
  have hd := hind ρ (AgreeOffT.refl _ ρ)
  rw [hs] at hwr
  -- fill / crop of a `Qint`; every other value keeps its type
  have hcoerce : ∃ sv', coerceRetT ret sv = some sv' ∧
      ∀ ρ'', AgreeOffT "_ret" ρ ρ'' → DenT ρ'' ret v1 sv' := by
    rcases hco with ⟨rfl, rfl⟩ | ⟨a, b, bits, ha, hb, hbits, hcase⟩
    · refine ⟨sv, ?_, hind⟩
      cases hd with
      | bool a => rfl
      | int bits => simp [coerceRetT]
      | char bits h8 => rfl
      | tup vs svs _ _ => simp [coerceRetT, Ty.beqList_refl]
    · cases hd with
      | bool x => simp [Ty.size?] at ha
      | tup _ _ _ _ => simp [Ty.size?] at ha
      | char bits0 h8 =>
        cases ret with
        | bool => simp [Ty.size?] at hb
        | tuple _ => simp [Ty.size?] at hb
        | qint b' => simp [wellRet] at hwr
        | qchar =>
          simp only [Ty.size?, Option.some.injEq] at ha hb
          rcases hcase with ⟨h, _⟩ | ⟨h, _⟩ <;> omega
      | int bits0 =>
        cases ret with
        | bool => simp [Ty.size?] at hb
        | tuple _ => simp [Ty.size?] at hb
        | qchar => simp [wellRet] at hwr
        | qint b' =>
          simp only [Ty.size?, Option.some.injEq] at ha hb
          subst ha; subst hb
          rw [bitsOf_ofBits] at hbits
          cases hbits
          have hval : ∀ ρ'', AgreeOffT "_ret" ρ ρ'' → val ρ'' bits = val ρ bits := by
            intro ρ'' ha
            have h3 := den_bits (hind ρ'' ha)
            rw [flatten_ofBits, TVal.bits] at h3
            have h4 := congrArg valLE h3
            rw [valLE_toBitsLE, Nat.mod_eq_of_lt (val_lt ρ bits)] at h4
            exact h4
          rcases hcase with ⟨hlt, rfl⟩ | ⟨hgt, rfl⟩
          · exact ⟨.int b' (val ρ bits), by simp [coerceRetT, Nat.le_of_lt hlt], fun ρ'' ha =>
              DenT.mk_int _ _ _ (by rw [fill_length]; omega) (by rw [val_fill, hval ρ'' ha])⟩
          · have hnle : ¬ bits.length ≤ b' := by omega
            exact ⟨.int b' (val ρ bits % 2 ^ b'), by simp [coerceRetT, hnle], fun ρ'' ha =>
              DenT.mk_int _ _ _ (by rw [crop_length]; omega) (by rw [val_crop, hval ρ'' ha])⟩
  obtain ⟨sv', hco', hind1⟩ := hcoerce
  -- a tuple is re-nested, so that in every case the new symbols are the bit names of the declared type
  have hnested : (∀ ρ'', AgreeOffT "_ret" ρ ρ'' → DenT ρ'' ret v2 sv') ∧
      (v2.decompose "_ret").map (·.1) = ret.names "_ret" := by
    rcases hnest with ⟨hnt, rfl⟩ | ⟨ts, rest, rfl, hn⟩
    · exact ⟨hind1, names_of_den (hind1 ρ (AgreeOffT.refl _ ρ)) _ hnt⟩
    · exact ⟨fun ρ'' ha => (den_renest (hind1 ρ'' ha) hn "_ret").1,
        (den_renest (hind1 ρ (AgreeOffT.refl _ ρ)) hn "_ret").2.1⟩
  obtain ⟨hind2, hnames⟩ := hnested
  have hmap := seq_eval ρ (v2.decompose "_ret") (by rw [hnames]; exact names_nodup ret _)
    (by rw [hnames, decompose_snd]; exact lowBits_of_indepT hind2)
  rw [hnames, decompose_snd, den_bits (hind2 ρ (AgreeOffT.refl _ ρ))] at hmap
  refine ⟨sv, sv', hs, hco', hmap, ?_⟩
  rw [find_append_ret env _ _ hnone]
  simp

theorem stmtOKTg_target {t : String} {e : PExp} (h : stmtOKTg (.assign t e) = true) :
    goodName t = true ∧ t ≠ "_ret" := by
  simp only [stmtOKTg, Bool.and_eq_true, bne_iff_ne, ne_eq] at h
  exact h.1.1

/-- along the body, every assigned value has a type at which a name can be read -/
def nameOKBody : TEnv → List Stmt → Prop
  | σ, .assign t e :: ss => ∀ v, semT σ e = some v → NameOK v.ty ∧ nameOKBody (σ.set t v) ss
  | σ, .expr _ :: ss => nameOKBody σ ss
  | _, _ => True

/-- The statement level in one induction over the body: run in order, the emitted definitions give the `_ret` symbols
the bits of the value `semBodyT` returns.  `EnvInvT` travels along the statements; `nameOKBody` is what lets an
assignment's bits be read back through the names of its type. -/
theorem body_mainT (ret : Ty) :
    ∀ (ss : List Stmt) (ρ : QV.Env) (env : Front.Env) (σ : TEnv), EnvInvT ρ env σ →
      ss.all stmtOKTg = true → wellBody ret σ ss = true → nameOKBody σ ss → env.find "_ret" = none →
      ∀ (s s' : St) (defs : List (String × BExp)), (trBody Quirks.none ret env ss).run s = .ok (defs, s') →
      ∃ sv, semBodyT ret σ ss = some sv ∧ (ret.names "_ret").map (runDefs defs ρ) = sv.bits
  | [], ρ, env, σ, hinv, hok, hwb, hnb, hnone, s, s', defs, h => by
    rw [trBody] at h
    have hq : Quirks.none.noReturnAccepted = false := rfl
    rw [if_pos (by rw [hnone]; rfl)] at h
    simp only [run_bind_ok, run_ite_ok, run_throw_ok, run_pure_ok, hq, Bool.not_false, not_true_eq_false,
      false_and, and_false, exists_false, or_false] at h
  | st :: ss, ρ, env, σ, hinv, hok, hwb, hnb, hnone, s, s', defs, h => by
    rw [trBody] at h
    simp only [run_bind_ok, run_pure_ok] at h
    obtain ⟨⟨d1, env1⟩, s1, h1, rest, s2, h2, rfl, _⟩ := h
    simp only [List.all_cons, Bool.and_eq_true] at hok
    rw [runDefs_append]
    cases st with
    | assign t e =>
      simp only [stmtOKTg, Bool.and_eq_true, bne_iff_ne, ne_eq] at hok
      obtain ⟨⟨⟨⟨hgt, hne⟩, hfrag⟩, hself⟩, hrest⟩ := hok
      simp only [wellBody, Bool.and_eq_true] at hwb
      obtain ⟨sv, hs, hinv1, hfind⟩ :=
        assign_stepT hinv ret t e hgt hfrag hself hwb.1 (fun v hv => (hnb v hv).1) h1
      have hnone1 : env1.find "_ret" = none := by
        rw [hfind "_ret" (fun h => hne h.symm)]; exact hnone
      have hwb1 : wellBody ret (σ.set t sv) ss = true := by
        have := hwb.2
        rw [hs] at this
        exact this
      obtain ⟨r, hr1, hr2⟩ := body_mainT ret ss _ env1 _ hinv1 hrest hwb1 (hnb sv hs).2 hnone1 s1 s2 rest h2
      exact ⟨r, by simp only [semBodyT, hs, hr1], hr2⟩
    | ret e =>
      simp only [stmtOKTg, Bool.and_eq_true, Bool.not_eq_true'] at hok
      simp only [wellBody, Bool.and_eq_true] at hwb
      obtain ⟨v, sv, hs, hco, hbits, hsome1⟩ := ret_stepT hinv ret e hok.1.1 hok.1.2 hwb.1 hwb.2 h1
      refine ⟨sv, by simp only [semBodyT, hs, hco], ?_⟩
      rw [← hbits]
      apply List.map_congr_left
      intro x hx
      exact body_frame ret ss _ env1 (fun t e hm => stmtOKTg_target (List.all_eq_true.mp hok.2 _ hm)) hsome1 s1 s2 rest h2 x
        (names_sub ret "_ret" x hx)
    | expr e =>
      obtain ⟨rfl, rfl⟩ := expr_step h1
      rw [runDefs_nil]
      simp only [wellBody] at hwb
      obtain ⟨r, hr1, hr2⟩ := body_mainT ret ss ρ _ σ hinv hok.2 hwb hnb hnone s1 s2 rest h2
      exact ⟨r, by simp only [semBodyT, hr1], hr2⟩
    | unsupported w => simp [stmtOKTg] at hok

theorem envInvT_args (ρ : QV.Env) (args : List (String × Ty))
    (hargs : ∀ p ∈ args, NameOK p.2 ∧ goodName p.1 = true) :
    EnvInvT ρ (initEnv args) (argsEnvT args ρ) := by
  refine ⟨fun n b hf => ?_, fun n b hf => ?_⟩
  · obtain ⟨ty, hfa, hmem, rfl⟩ := initEnv_find hf
    exact ⟨rfl, (hargs _ hmem).1, by simp [argsEnvT, hfa]⟩
  · obtain ⟨ty, _, hmem, _⟩ := initEnv_find hf
    exact (hargs _ hmem).2

theorem goodEnv_set {σ : TEnv} (h : GoodEnv σ) (t : String) {v : TVal} (hv : tyGood v.ty = true) :
    GoodEnv (σ.set t v) := by
  intro n u hu
  by_cases hn : n = t
  · simp only [TEnv.set, hn, beq_self_eq_true, if_true, Option.some.injEq] at hu
    exact hu ▸ hv
  · simp only [TEnv.set, beq_iff_eq, hn, if_false] at hu
    exact h n u hu

theorem nameOKBody_of_good : ∀ (ss : List Stmt) (σ : TEnv), GoodEnv σ → ss.all stmtOKT = true → nameOKBody σ ss
  | [], _, _, _ => trivial
  | .assign t e :: ss, σ, hσ, hok => by
    simp only [List.all_cons, stmtOKT, Bool.and_eq_true] at hok
    intro v hv
    have hg := semT_good σ hσ e hok.1.1.2 v hv
    exact ⟨nameOK_of_good hg, nameOKBody_of_good ss _ (goodEnv_set hσ t hg) hok.2⟩
  | .ret _ :: _, _, _, _ => trivial
  | .expr _ :: ss, σ, hσ, hok => by
    simp only [List.all_cons, Bool.and_eq_true] at hok
    exact nameOKBody_of_good ss σ hσ hok.2
  | .unsupported _ :: _, _, _, _ => trivial

theorem goodEnv_args (ρ : QV.Env) (args : List (String × Ty)) (hargs : ∀ p ∈ args, tyGood p.2 = true) :
    GoodEnv (argsEnvT args ρ) := by
  intro n v hσ
  simp only [argsEnvT] at hσ
  cases hfa : args.find? (·.1 == n) with
  | none => simp [hfa] at hσ
  | some p =>
    obtain ⟨m, ty⟩ := p
    simp only [hfa, Option.some.injEq] at hσ
    rw [← hσ, decodeT_ty]
    exact hargs _ (List.mem_of_find?_eq_some hfa)

/-- the statement of `C01.C01_body_struct` -/
theorem translate_sound_struct (p : Prog) (consts : List (Bool × Bool)) (hp : structLine p = true)
    (defs : List (String × BExp)) (events : List String)
    (h : translate Quirks.none consts p = .ok (defs, events)) (ρ : QV.Env) (hw : wellProg p ρ = true) :
    ∃ sv, semProgT p ρ = some sv ∧ (p.ret.names "_ret").map (runDefs defs ρ) = sv.bits := by
  simp only [structLine, Bool.and_eq_true, List.all_eq_true, bne_iff_ne, ne_eq] at hp
  obtain ⟨⟨hargs, hret⟩, hbody⟩ := hp
  unfold translate at h
  simp only at h
  split at h
  · rename_i defs' st hrun
    simp only [Except.ok.injEq, Prod.mk.injEq] at h
    obtain ⟨rfl, _⟩ := h
    have hinv := envInvT_args ρ p.args (fun a ha => ⟨nameOK_of_good (hargs a ha).1.1, (hargs a ha).1.2⟩)
    have hnone := initEnv_no_ret p.args (fun a ha => (hargs a ha).2)
    have hall : p.body.all stmtOKT = true := by simpa [List.all_eq_true] using hbody
    exact body_mainT p.ret p.body ρ _ _ hinv
      (List.all_eq_true.mpr fun st hst => stmtOKTg_of_stmtOKT st (hbody st hst)) hw
      (nameOKBody_of_good _ _ (goodEnv_args ρ p.args fun a ha => (hargs a ha).1.1) hall) hnone _ _ _ hrun
  · cases h

end QV.Sem
