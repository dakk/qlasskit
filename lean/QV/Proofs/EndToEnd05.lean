import QV.Props.C02
import QV.Proofs.Codec
/-!
# From the compiler model to the codec round trip (C05 end to end)

`QV.C05.C05_statement` is about every gate list that computes a bit-level function `F` on a list of output qubits
(hypothesis `Computes`); by `QV.C02.C02_general_partial` every successful compilation of a definition list of
`inGeneralClass` is `C02.Correct`.  The two models write things differently:

| | compiler model (`QV.Compiler`, `QV.C02`) | codec model (`QV.Codec`, `QV.C05`) |
|---|---|---|
| bit names | strings (`"a.0"`, `"_ret.1"`) | structural `Name` (`⟨"a", [0]⟩`), printed by `Name.render` |
| `qubit_map` | `List (String × Nat)` read by `dictGet?` | `QMap` (`List (Name × Nat)` read by `dictGet`, + `numQubits`) |
| input state | `Compiler.initState x nq` | `x ++ List.replicate (nq - n) false` (= `Codec.initState nq (encode_input …)`, `C05.init_state_layout`) |
| what is computed | per return name: `∃ q, qmap[r] = q ∧ final[q] = ⟦r⟧` | the list `oq.map final = F x` |

No injectivity of `Name.render` is assumed: the class asks that the *printed* argument names are distinct.
-/
namespace QV.EndToEnd05
open QV.Types QV.Codec

/-- the `inputs` list of `InternalCompiler.compile`: printed names of `[b for a in args for b in a.bitvec]` -/
def inputBitNames (sig : List (String × QTy)) : List String :=
  (inputSymbols (translateArguments sig)).map Name.render

/-- the `ret` list of `InternalCompiler.compile`: printed names of `returns.bitvec` -/
def retBitNames (ret : QTy) : List String := (retArg ret).bitvec.map Name.render

/-- argument `i` = `inputs[i]`; definitions evaluated sequentially, unbound names read `false` -/
def bitFun (inputs : List String) (defs : List (String × BExp)) (rets : List String) :
    List Bool → List Bool :=
  fun x => rets.map fun r => envOf (Compiler.evalDefs defs (inputs.zip x)) r

/-- a string-keyed `qubit_map` seen as the codec model's `QMap` on the bit names `ns` (one entry per name of `ns`
that is a key) -/
def qmapView (ns : List Name) (nq : Nat) (qmap : List (String × Nat)) : QMap :=
  { numQubits := nq
    entries := ns.filterMap fun n => (Compiler.dictGet? qmap n.render).map fun q => (n, q) }

/-- the view of the final `qubit_map` of a compilation of `sig → ret` on the argument and return bit names.  Not
`Codec.compileMap` (the codec model's own replay of `add_qubit` / `map_qubit`): no theorem relates the two -/
def compiledMap (sig : List (String × QTy)) (ret : QTy) (s : Compiler.CState) : QMap :=
  qmapView (inputSymbols (translateArguments sig) ++ (retArg ret).bitvec) s.qc.numQubits s.qc.qmap

theorem qmapView_get (ns : List Name) (nq : Nat) (qmap : List (String × Nat)) (n : Name) :
    (qmapView ns nq qmap).get n = if n ∈ ns then Compiler.dictGet? qmap n.render else none := by
  unfold qmapView QMap.get
  simp only
  induction ns with
  | nil => simp [dictGet]
  | cons a r ih =>
    simp only [List.filterMap_cons]
    cases hq : Compiler.dictGet? qmap a.render with
    | none =>
      simp only [Option.map_none]
      rw [ih]
      by_cases hna : n = a
      · subst hna; simp [hq]
      · simp [hna]
    | some q =>
      simp only [Option.map_some, dictGet]
      by_cases hna : a = n
      · subst hna; simp [hq]
      · have hna' : ¬ n = a := fun h => hna h.symm
        simp [hna, hna', ih]

theorem qmapView_numQubits (ns : List Name) (nq : Nat) (qmap : List (String × Nat)) :
    (qmapView ns nq qmap).numQubits = nq := rfl

theorem qmapView_WF (ns : List Name) (nq : Nat) (qmap : List (String × Nat))
    (h : ∀ p ∈ qmap, p.2 < nq) : (qmapView ns nq qmap).WF := by
  intro e he
  simp only [qmapView, List.mem_filterMap, Option.map_eq_some_iff] at he
  obtain ⟨n, _, q, hq, rfl⟩ := he
  exact h _ (Compiler.dictGet?_mem hq)

theorem outputQubits_view (ns bv : List Name) (nq : Nat) (qmap : List (String × Nat))
    (hsub : ∀ n ∈ bv, n ∈ ns)
    (hkeys : ∀ n ∈ bv, ∃ q, Compiler.dictGet? qmap n.render = some q) :
    ∃ oq, outputQubits (qmapView ns nq qmap) bv = some oq ∧
      oq.map some = (bv.map Name.render).map (Compiler.dictGet? qmap) := by
  have hget : ∀ n ∈ bv, (qmapView ns nq qmap).get n = Compiler.dictGet? qmap n.render :=
    fun n hn => by rw [qmapView_get, if_pos (hsub n hn)]
  have hsome : (outputQubits (qmapView ns nq qmap) bv).isSome := by
    rw [outputQubits_some_iff]
    intro n hn
    obtain ⟨q, hq⟩ := hkeys n hn
    rw [hget n hn, hq]; rfl
  obtain ⟨oq, hoq⟩ := Option.isSome_iff_exists.mp hsome
  exact ⟨oq, hoq, by rw [← outputQubits_eq_some.mp hoq, List.map_map]; exact List.map_congr_left hget⟩

/-- `C02.Correct` ⇒ `C05.Computes` (unfolded; `Computes` is defined in `Props/C05.lean`) -/
theorem computes_of_correct {gates : List AGate} {nq : Nat} {qmap : List (String × Nat)}
    {inputs : List String} {defs : List (String × BExp)} (ns bv : List Name)
    (hsub : ∀ n ∈ bv, n ∈ ns)
    (hc : C02.Correct gates nq qmap inputs defs (bv.map Name.render)) :
    ∃ oq, outputQubits (qmapView ns nq qmap) bv = some oq ∧
      oq.map some = (bv.map Name.render).map (Compiler.dictGet? qmap) ∧
      ∀ x : List Bool, x.length = inputs.length →
        oq.map (fun q => (runClassical gates (x ++ List.replicate (nq - inputs.length) false)).getD q false)
          = bitFun inputs defs (bv.map Name.render) x := by
  have hkeys : ∀ n ∈ bv, ∃ q, Compiler.dictGet? qmap n.render = some q := by
    intro n hn
    obtain ⟨q, hq, _⟩ := hc (List.replicate inputs.length false) (by simp) n.render
      (List.mem_map.mpr ⟨n, hn, rfl⟩)
    exact ⟨q, hq⟩
  obtain ⟨oq, hoq, hmap⟩ := outputQubits_view ns bv nq qmap hsub hkeys
  refine ⟨oq, hoq, hmap, fun x hx => ?_⟩
  -- both sides, wrapped in `some`, are a `map` over the printed names; `Correct` speaks name by name
  apply (List.map_inj_right (f := some) fun _ _ => Option.some_inj.mp).mp
  have hcomm : ∀ g : Nat → Bool, (oq.map g).map some = (oq.map some).map (Option.map g) := fun g => by
    rw [List.map_map, List.map_map]; rfl
  rw [hcomm, hmap, bitFun]
  simp only [List.map_map]
  apply List.map_congr_left
  intro n hn
  obtain ⟨q, hq, hv⟩ := hc x hx n.render (List.mem_map.mpr ⟨n, hn, rfl⟩)
  -- `Compiler.initState x nq` pads by `nq - x.length`, the statement by `nq - inputs.length`: `← hx`, then `rfl`
  simp only [Function.comp, hq, Option.map_some, ← hv, ← hx]
  rfl

theorem inputBitNames_length (sig : List (String × QTy)) :
    (inputBitNames sig).length = sizeList (sig.map (·.2)) := by
  rw [inputBitNames, List.length_map, inputSymbols_length]

/-- every successful run of the compiler model on `inGeneralClass` (final uncomputation on or off, every
ancilla-choice sequence) gives, at the view `compiledMap` of the final `qubit_map`, the hypotheses `m.WF`,
`outputQubits m … = some oq`, `Computes gs m.numQubits n oq F` of `C05_statement` -/
theorem compile_computes (sig : List (String × QTy)) (ret : QTy) (defs : List (String × BExp))
    (unc : Bool) (choices : List Nat) (s : Compiler.CState)
    (hcls : Compiler.inGeneralClass (inputBitNames sig) defs (retBitNames ret) = true)
    (h : (Compiler.compile (inputBitNames sig) defs (some (retBitNames ret)) unc).run
        { choices := choices } = .ok ((), s)) :
    ∃ oq, outputQubits (compiledMap sig ret s) (retArg ret).bitvec = some oq ∧
      (compiledMap sig ret s).WF ∧
      oq.map some = (retBitNames ret).map (Compiler.dictGet? s.qc.qmap) ∧
      ∀ x : List Bool, x.length = sizeList (sig.map (·.2)) →
        oq.map (fun q => (runClassical s.qc.gates.toList
            (x ++ List.replicate ((compiledMap sig ret s).numQubits - sizeList (sig.map (·.2))) false)).getD q false)
          = bitFun (inputBitNames sig) defs (retBitNames ret) x := by
  have hc := C02.C02_general_partial _ defs _ unc choices s hcls h
  obtain ⟨oq, hoq, hmap, hcomp⟩ :=
    computes_of_correct (inputSymbols (translateArguments sig) ++ (retArg ret).bitvec) (retArg ret).bitvec
      (fun n hn => List.mem_append_right _ hn) hc
  refine ⟨oq, hoq, ?_, hmap, ?_⟩
  · exact qmapView_WF _ _ _ (C02.compile_bookkeeping _ defs _ unc choices s h).2.2.2.1
  · intro x hx
    have := hcomp x (by rw [inputBitNames_length]; exact hx)
    rw [inputBitNames_length] at this
    exact this

/-- when no definition re-binds an argument bit and the printed argument bit names are distinct and not reserved
(`C02.inputsFresh`, decidable), the `j`-th argument bit name – arguments in order, tuples depth-first – is mapped
to qubit `j` -/
theorem compile_inputs_on_qubits (sig : List (String × QTy)) (ret : QTy) (defs : List (String × BExp))
    (rets : Option (List String)) (unc : Bool) (choices : List Nat) (s : Compiler.CState)
    (hfresh : C02.inputsFresh (inputBitNames sig) defs = true)
    (h : (Compiler.compile (inputBitNames sig) defs rets unc).run { choices := choices } = .ok ((), s)) :
    sizeList (sig.map (·.2)) ≤ (compiledMap sig ret s).numQubits ∧
    ∀ (j : Nat) (hj : j < (inputSymbols (translateArguments sig)).length),
      (compiledMap sig ret s).get (inputSymbols (translateArguments sig))[j] = some j := by
  obtain ⟨hle, hpos⟩ := C02.compile_inputs_first _ defs rets unc choices s h hfresh
  refine ⟨by rw [← inputBitNames_length]; exact hle, ?_⟩
  intro j hj
  unfold compiledMap
  rw [qmapView_get, if_pos (List.mem_append_left _ (List.getElem_mem hj))]
  apply hpos j
  simp [inputBitNames, List.getElem?_eq_getElem hj]

end QV.EndToEnd05
