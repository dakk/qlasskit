import QV.Proofs.CompilerSem
/-!
# Cleanliness: gate-list lemmas

What the end of `compile` does to a gate list, without any compiler state.
-/
namespace QV.Compiler
open QV

/-- what `uncompute_all`'s loop replays -/
def replayP (keep alreadyFree : List Nat) (g : AGate) : Bool :=
  !(g.cls.isNop || keep.contains g.target || alreadyFree.contains g.target)

theorem uncomputeAll_exact {keep : List Nat} {u : Unit} {s s' : CState}
    (h : (uncomputeAll keep).run s = .ok (u, s')) :
    ∃ extra, s'.qc.gates.toList = s.qc.gates.toList ++ extra ∧
      extra.map gcore = ((s.qc.gates.toList.filter (replayP keep s.qc.free)).reverse).map gcore ∧
      s'.qc.qmap = s.qc.qmap ∧ s'.qc.numQubits = s.qc.numQubits := by
  obtain ⟨t, rp, _, rfl⟩ := uncomputeAll_run h
  obtain ⟨extra, e1, e2, _⟩ := rp.gates
  exact ⟨extra, e1, by rw [e2, List.filter_reverse]; rfl, rp.qmap, rp.nq⟩

theorem stepF_invol (g : AGate) (hm : g.cls.isMCXLike = true) (hnd : g.wires.Nodup) (hne : g.wires ≠ [])
    (f : FState) : stepF (stepF f g) g = f := by
  obtain ⟨cs, t, hw, _, _⟩ := wires_split hne
  have hstep : ∀ f', stepF f' g = applyF g f' := stepF_eq_applyF hm
  have hnt : t ∉ cs := by
    rw [hw] at hnd
    intro hmem
    exact (List.nodup_append.mp hnd).2.2 t hmem t (by simp) rfl
  rw [hstep, hstep]
  funext q
  by_cases hq : q = t
  · subst hq
    rw [applyF_eq g cs q hw, applyF_eq g cs q hw]
    have : cs.all (applyF g f) = cs.all f :=
      List.all_congr_mem (fun c hc => applyF_ne g cs q hw f c (fun e => hnt (e ▸ hc)))
    rw [this]
    cases f q <;> cases cs.all f <;> rfl
  · rw [applyF_ne g cs t hw _ q hq, applyF_ne g cs t hw _ q hq]

def GatesInv (l : List AGate) : Prop := ∀ g ∈ l, g.cls.isMCXLike = true ∧ g.wires.Nodup ∧ g.wires ≠ []

theorem mcx_not_barrier {c : GClass} (h : c.isMCXLike = true) : c ≠ GClass.Barrier := by
  rintro rfl; cases h

theorem _root_.QV.RI.filter_rev {l l' : List AGate} (h : RI l l') (P : AGate → Bool) (hl : GatesInv l) (f : FState) :
    runF (l'.filter P).reverse f = runF (l.filter P).reverse f := by
  induction h with
  | refl => rfl
  | pair a g b _ ih =>
    -- an equal pair passes the filter as a whole or not at all, and is an involution
    rw [ih (fun x hx => hl x (by simp only [List.mem_append, List.mem_cons] at hx ⊢; rcases hx with h | h <;> simp [h]))]
    simp only [List.filter_append, List.reverse_append, List.filter_cons]
    cases hP : P g with
    | false => simp
    | true =>
      obtain ⟨h1, h2, h3⟩ := hl g (by simp)
      simp only [↓reduceIte, List.reverse_cons, List.append_assoc, runF_append]
      congr 1
      exact (stepF_invol g h1 h2 h3 _).symm
  | pairB a g bar b hb _ _ => exact absurd hb (mcx_not_barrier (hl bar (by simp)).1)
  | pop a bar b hb _ _ => exact absurd hb (mcx_not_barrier (hl bar (by simp)).1)

theorem removeIdentities_filter_rev (P : AGate → Bool) (gs : List AGate) (h : GatesInv gs) (f : FState) :
    runF ((removeIdentitiesList gs).filter P).reverse f = runF (gs.filter P).reverse f :=
  (removeIdentitiesList_ri gs).filter_rev P h f

theorem runF_local (N : Nat) : ∀ (l : List AGate) (f f' : FState),
    (∀ g ∈ l, g.cls.isMCXLike = true ∧ g.wires ≠ [] ∧ ∀ w ∈ g.wires, w < N) →
    (∀ q, q < N → f q = f' q) →
    (∀ q, q < N → runF l f q = runF l f' q) ∧ (∀ q, N ≤ q → runF l f q = f q)
  | [], f, f', _, hff => ⟨hff, fun _ _ => rfl⟩
  | g :: l, f, f', hl, hff => by
    obtain ⟨hm, hne, hw⟩ := hl g List.mem_cons_self
    obtain ⟨cs, t, hws, _, _⟩ := wires_split hne
    have hstep : ∀ f'', stepF f'' g = applyF g f'' := stepF_eq_applyF hm
    have htN : t < N := hw t (by rw [hws]; simp)
    have hcsN : ∀ c ∈ cs, c < N := fun c hc => hw c (by rw [hws]; simp [hc])
    have hagree : ∀ q, q < N → stepF f g q = stepF f' g q := by
      intro q hq
      rw [hstep, hstep]
      by_cases hqt : q = t
      · subst hqt
        rw [applyF_eq g cs q hws, applyF_eq g cs q hws, hff q hq,
          List.all_congr_mem (fun c hc => hff c (hcsN c hc))]
      · rw [applyF_ne g cs t hws _ q hqt, applyF_ne g cs t hws _ q hqt, hff q hq]
    have hhigh : ∀ q, N ≤ q → stepF f g q = f q := by
      intro q hq
      rw [hstep, applyF_ne g cs t hws _ q (by omega)]
    obtain ⟨i1, i2⟩ := runF_local N l (stepF f g) (stepF f' g)
      (fun g' hg' => hl g' (List.mem_cons_of_mem _ hg')) hagree
    exact ⟨fun q hq => by rw [runF_cons, runF_cons]; exact i1 q hq,
      fun q hq => by rw [runF_cons, i2 q hq, hhigh q hq]⟩

theorem good_gatesInv {s : CState} (hg : Good s) : GatesInv s.qc.gates.toList := by
  intro g hgm
  have hgo := hg.gates_ok g hgm
  exact ⟨hgo.1, hgo.nodup, hgo.wires_ne_nil⟩

theorem runF_reverse_undo : ∀ (l : List AGate), GatesInv l → ∀ f : FState, runF l.reverse (runF l f) = f
  | [], _, _ => rfl
  | g :: l, h, f => by
    obtain ⟨h1, h2, h3⟩ := h g List.mem_cons_self
    rw [List.reverse_cons, runF_append]
    show stepF (runF l.reverse (runF l (stepF f g))) g = f
    rw [runF_reverse_undo l (fun x hx => h x (List.mem_cons_of_mem _ hx))]
    exact stepF_invol g h1 h2 h3 f

end QV.Compiler
