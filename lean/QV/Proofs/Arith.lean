import QV.Model.Arith
import QV.Proofs.Bits
import QV.Proofs.BExp
/-! Facts about bit lists alone are in `QV/Proofs/Bits.lean`; here a list of expressions is first evaluated (`evalBits`:
one lemma per list combinator the library is written with) and then read as a number. -/
namespace QV.Arith

def evalBits (ρ : Env) (l : List BExp) : List Bool := l.map (·.eval ρ)
/-- bit 0 first; the library theorems of `QV/Props/C01.lean` are stated with it -/
def val (ρ : Env) (l : List BExp) : Nat := valLE (evalBits ρ l)

@[simp] theorem evalBits_nil (ρ : Env) : evalBits ρ [] = [] := rfl
@[simp] theorem evalBits_cons (ρ : Env) (a : BExp) (l : List BExp) :
    evalBits ρ (a :: l) = a.eval ρ :: evalBits ρ l := rfl
@[simp] theorem evalBits_length (ρ : Env) (l : List BExp) : (evalBits ρ l).length = l.length :=
  List.length_map _
theorem evalBits_append (ρ : Env) (l r : List BExp) : evalBits ρ (l ++ r) = evalBits ρ l ++ evalBits ρ r :=
  List.map_append
theorem evalBits_replicate_ff (ρ : Env) (n : Nat) :
    evalBits ρ (List.replicate n .ff) = List.replicate n false :=
  List.map_replicate
theorem evalBits_take (ρ : Env) (n : Nat) (l : List BExp) : evalBits ρ (l.take n) = (evalBits ρ l).take n :=
  List.map_take
theorem evalBits_drop (ρ : Env) (n : Nat) (l : List BExp) : evalBits ρ (l.drop n) = (evalBits ρ l).drop n :=
  List.map_drop

theorem evalBits_zipWith (ρ : Env) {op : BExp → BExp → BExp} {f : Bool → Bool → Bool}
    (hop : ∀ a b, (op a b).eval ρ = f (a.eval ρ) (b.eval ρ)) (l r : List BExp) :
    evalBits ρ (List.zipWith op l r) = List.zipWith f (evalBits ρ l) (evalBits ρ r) := by
  unfold evalBits
  rw [List.map_zipWith, List.zipWith_map]
  exact congrArg (List.zipWith · l r) (funext fun a => funext (hop a))

theorem zipWith_cond {α} (c : Bool) (x y : List α) (h : x.length = y.length) :
    List.zipWith (fun a b => if c then a else b) x y = if c then x else y := by
  induction x generalizing y with
  | nil => cases y <;> simp_all
  | cons a as ih => cases y with
    | nil => simp at h
    | cons b bs => cases c <;> simp_all

theorem evalBits_zipWith_ite (ρ : Env) (c : BExp) (x y : List BExp) (h : x.length = y.length) :
    evalBits ρ (List.zipWith (BExp.ite c) x y) = if c.eval ρ then evalBits ρ x else evalBits ρ y := by
  rw [evalBits_zipWith ρ (f := fun a b => if c.eval ρ then a else b) (fun a b => by simp [BExp.eval]),
    zipWith_cond _ _ _ (by simpa using h)]

theorem val_zipWith_ite (ρ : Env) (c : BExp) (x y : List BExp) (h : x.length = y.length) :
    val ρ (List.zipWith (BExp.ite c) x y) = if c.eval ρ then val ρ x else val ρ y := by
  rw [val, evalBits_zipWith_ite ρ c x y h]; split <;> rfl

theorem val_nil (ρ : Env) : val ρ [] = 0 := rfl
theorem val_cons (ρ : Env) (a : BExp) (l : List BExp) :
    val ρ (a :: l) = bitN (a.eval ρ) + 2 * val ρ l := rfl

theorem val_lt (ρ : Env) (l : List BExp) : val ρ l < 2 ^ l.length := by
  have := valLE_lt (evalBits ρ l); rwa [evalBits_length] at this

theorem evalBits_eq_toBitsLE (ρ : Env) (l : List BExp) (w : Nat) (h : l.length = w) :
    evalBits ρ l = toBitsLE w (val ρ l) := by
  have := toBitsLE_valLE (evalBits ρ l)
  rw [evalBits_length, h] at this
  exact this.symm

theorem val_append (ρ : Env) (l r : List BExp) : val ρ (l ++ r) = val ρ l + 2 ^ l.length * val ρ r := by
  rw [val, evalBits_append, valLE_append, evalBits_length]; rfl

theorem val_replicate_ff (ρ : Env) (n : Nat) : val ρ (List.replicate n .ff) = 0 := by
  rw [val, evalBits_replicate_ff, valLE_replicate_false]

theorem val_split (ρ : Env) (l : List BExp) (n : Nat) :
    val ρ l = val ρ (l.take n) + 2 ^ (min n l.length) * val ρ (l.drop n) := by
  rw [← List.length_take, ← val_append, List.take_append_drop]

theorem fill_length (n : Nat) (l : List BExp) : (fill n l).length = max n l.length := by
  unfold fill; split
  · omega
  · rw [List.length_append, List.length_replicate]; omega

theorem fill_of_le {n : Nat} {l : List BExp} (h : n ≤ l.length) : fill n l = l := by
  unfold fill; rw [if_pos h]

theorem evalBits_fill (ρ : Env) (n : Nat) (l : List BExp) :
    evalBits ρ (fill n l) = evalBits ρ l ++ List.replicate (n - l.length) false := by
  unfold fill; split
  · next h => rw [Nat.sub_eq_zero_of_le h, List.replicate_zero, List.append_nil]
  · rw [evalBits_append, evalBits_replicate_ff]

theorem val_fill (ρ : Env) (n : Nat) (l : List BExp) : val ρ (fill n l) = val ρ l := by
  rw [val, evalBits_fill, valLE_append, valLE_replicate_false, Nat.mul_zero, Nat.add_zero]; rfl

theorem crop_length (n : Nat) (l : List BExp) : (crop n l).length = min n l.length := by
  unfold crop; split
  · omega
  · rw [List.length_take]

theorem evalBits_crop (ρ : Env) (n : Nat) (l : List BExp) : evalBits ρ (crop n l) = (evalBits ρ l).take n := by
  unfold crop; split
  · next h => rw [List.take_of_length_le (by rwa [evalBits_length])]
  · exact evalBits_take ρ n l

theorem val_crop (ρ : Env) (n : Nat) (l : List BExp) : val ρ (crop n l) = val ρ l % 2 ^ n := by
  rw [val, evalBits_crop, valLE_take]; rfl

theorem bitwiseNot_length (l : List BExp) : (bitwiseNot l).length = l.length := List.length_map _

theorem val_bitwiseNot (ρ : Env) (l : List BExp) : val ρ (bitwiseNot l) + val ρ l + 1 = 2 ^ l.length := by
  induction l with
  | nil => rfl
  | cons a as ih =>
    rw [bitwiseNot, List.map_cons, val_cons, val_cons, List.length_cons, Nat.pow_succ, BExp.eval]
    rw [bitwiseNot] at ih
    cases a.eval ρ <;> simp only [Bool.not_true, Bool.not_false, bitN_true, bitN_false] <;> omega

theorem val_shiftLeft (ρ : Env) (n : Nat) (l : List BExp) (i : Nat) :
    val ρ (shiftLeft n l i) = (val ρ l * 2 ^ i) % 2 ^ n := by
  rw [shiftLeft, val_crop, val_append, val_replicate_ff, List.length_replicate, Nat.zero_add, Nat.mul_comm]

theorem val_shiftRight (ρ : Env) (n : Nat) (l : List BExp) (i : Nat) :
    val ρ (shiftRight n l i) = val ρ l / 2 ^ i := by
  rw [shiftRight, val_fill, val, evalBits_drop, valLE_drop]; rfl

theorem shiftLeft_length (l : List BExp) (i : Nat) : (shiftLeft l.length l i).length = l.length := by
  unfold shiftLeft; rw [crop_length]; simp

theorem shiftRight_length (l : List BExp) (i : Nat) : (shiftRight l.length l i).length = l.length := by
  unfold shiftRight; rw [fill_length]; simp

theorem addLoop_length (c : BExp) (as bs : List BExp) :
    (addLoop c as bs).length = min as.length bs.length := by
  induction as generalizing c bs with
  | nil => simp [addLoop]
  | cons a as ih =>
    cases bs with
    | nil => simp [addLoop]
    | cons b bs => simp only [addLoop, List.length_cons, ih]; omega

theorem fullAdder_eval (ρ : Env) (c a b : BExp) :
    (fullAdder c a b).1.eval ρ = Bool.xor (a.eval ρ && b.eval ρ) ((Bool.xor (a.eval ρ) (b.eval ρ)) && c.eval ρ) ∧
    (fullAdder c a b).2.eval ρ = Bool.xor (Bool.xor (a.eval ρ) (b.eval ρ)) (c.eval ρ) := by
  simp [fullAdder, BExp.eval, evalAnd, evalXor]

theorem fullAdder_val (ρ : Env) (c a b : BExp) :
    bitN ((fullAdder c a b).2.eval ρ) + 2 * bitN ((fullAdder c a b).1.eval ρ)
      = bitN (a.eval ρ) + bitN (b.eval ρ) + bitN (c.eval ρ) := by
  rw [(fullAdder_eval ρ c a b).1, (fullAdder_eval ρ c a b).2]
  cases a.eval ρ <;> cases b.eval ρ <;> cases c.eval ρ <;> rfl

/-- the carry that the loop of `add` drops at the end -/
def carryOut : BExp → List BExp → List BExp → BExp
  | c, a :: as, b :: bs => carryOut (fullAdder c a b).1 as bs
  | c, _, _ => c

theorem addLoop_exact (ρ : Env) (c : BExp) (as bs : List BExp) (h : as.length = bs.length) :
    val ρ (addLoop c as bs) + 2 ^ as.length * bitN ((carryOut c as bs).eval ρ)
      = val ρ as + val ρ bs + bitN (c.eval ρ) := by
  induction as generalizing c bs with
  | nil => cases bs <;> simp_all [addLoop, carryOut, val_nil]
  | cons a as ih =>
    cases bs with
    | nil => simp at h
    | cons b bs =>
      have fa := fullAdder_val ρ c a b
      have := ih (fullAdder c a b).1 bs (by simpa using h)
      rw [addLoop, carryOut, List.length_cons, val_cons, val_cons, val_cons, Nat.pow_succ, Nat.mul_right_comm,
        Nat.mul_comm _ 2]
      omega

theorem addLoop_correct (ρ : Env) (c : BExp) (as bs : List BExp) (h : as.length = bs.length) :
    val ρ (addLoop c as bs) = (val ρ as + val ρ bs + bitN (c.eval ρ)) % 2 ^ as.length := by
  have hl := val_lt ρ (addLoop c as bs)
  rw [addLoop_length, ← h, Nat.min_self] at hl
  rw [← addLoop_exact ρ c as bs h, Nat.add_mul_mod_self_left, Nat.mod_eq_of_lt hl]

/-- the widening at the head of `add` / `bitwise_generic` is `fill` to the other operand's length -/
theorem widenL_eq (l r : List BExp) : widenL l r = fill r.length l := by
  unfold widenL fill; split <;> split <;> first | rfl | omega
theorem widenR_eq (l r : List BExp) : widenR l r = fill l.length r := by
  unfold widenR fill; split <;> split <;> first | rfl | omega

theorem widenL_length (l r : List BExp) : (widenL l r).length = max l.length r.length := by
  rw [widenL_eq, fill_length, Nat.max_comm]
theorem widenR_length (l r : List BExp) : (widenR l r).length = max l.length r.length := by
  rw [widenR_eq, fill_length]
theorem val_widenL (ρ : Env) (l r : List BExp) : val ρ (widenL l r) = val ρ l := by rw [widenL_eq, val_fill]
theorem val_widenR (ρ : Env) (l r : List BExp) : val ρ (widenR l r) = val ρ r := by rw [widenR_eq, val_fill]

theorem qAdd_length (l r : List BExp) : (qAdd l r).length = max l.length r.length := by
  rw [qAdd, addLoop_length, widenL_length, widenR_length, Nat.min_self]

theorem val_qAdd (ρ : Env) (l r : List BExp) :
    val ρ (qAdd l r) = (val ρ l + val ρ r) % 2 ^ (max l.length r.length) := by
  rw [qAdd, addLoop_correct ρ .ff _ _ (by rw [widenL_length, widenR_length]), val_widenL, val_widenR,
    widenL_length]
  rfl

theorem mod_add_mod_of_add {u v P : Nat} (h : u + v + 1 = 2 * P) : u % P + v % P + 1 = P := by
  have key : ∀ a b, a + b + 1 = 2 * P → a < P → a % P + b % P + 1 = P := by
    intro a b hab ha
    obtain ⟨w, rfl⟩ := Nat.exists_eq_add_of_le (show P ≤ b by omega)
    rw [Nat.mod_eq_of_lt ha, Nat.add_mod_left, Nat.mod_eq_of_lt (by omega)]
    omega
  rcases Nat.lt_or_ge u P with hu | hu
  · exact key u v h hu
  · have := key v u (by omega) (by omega)
    omega

theorem val_not_add_not (ρ : Env) (x y : List BExp) (h : y.length ≤ x.length) :
    val ρ (bitwiseNot (qAdd (bitwiseNot x) y)) = (val ρ x + 2 ^ x.length - val ρ y) % 2 ^ x.length ∧
    (bitwiseNot (qAdd (bitwiseNot x) y)).length = x.length := by
  have hlen : (qAdd (bitwiseNot x) y).length = x.length := by
    rw [qAdd_length, bitwiseNot_length]; exact Nat.max_eq_left h
  refine ⟨?_, by rw [bitwiseNot_length, hlen]⟩
  have hx := val_bitwiseNot ρ x
  have hs := val_bitwiseNot ρ (qAdd (bitwiseNot x) y)
  have ha := val_qAdd ρ (bitwiseNot x) y
  rw [bitwiseNot_length, Nat.max_eq_left h] at ha
  rw [hlen] at hs
  have hy := Nat.lt_of_lt_of_le (val_lt ρ y) (Nat.pow_le_pow_right (by decide) h)
  -- `~x + y` and `x + 2^|x| - y` add up to `2 * 2^|x| - 1`, and `~` takes a residue to its complement in `2^|x| - 1`
  have key := mod_add_mod_of_add (u := val ρ (bitwiseNot x) + val ρ y) (v := val ρ x + 2 ^ x.length - val ρ y)
    (P := 2 ^ x.length) (by omega)
  rw [← ha] at key
  omega

theorem qSub_spec (ρ : Env) (n : Nat) (l r : List BExp) :
    val ρ (qSub Quirks.none n l r)
      = (val ρ l + 2 ^ (max n (max l.length r.length)) - val ρ r) % 2 ^ (max n (max l.length r.length)) ∧
    (qSub Quirks.none n l r).length = max n (max l.length r.length) := by
  have hq : qSub Quirks.none n l r
      = bitwiseNot (qAdd (bitwiseNot (fill (fill n r).length (fill n l))) (fill n r)) := rfl
  have hl : (fill (fill n r).length (fill n l)).length = max n (max l.length r.length) := by
    rw [fill_length, fill_length, fill_length, Nat.max_assoc, Nat.max_left_comm r.length, ← Nat.max_assoc n n,
      Nat.max_self, Nat.max_comm r.length]
  have := val_not_add_not ρ (fill (fill n r).length (fill n l)) (fill n r)
    (by rw [fill_length (fill n r).length]; exact Nat.le_max_left _ _)
  rwa [← hq, hl, val_fill, val_fill, val_fill] at this

theorem andNotAll_eval (ρ : Env) (ex : BExp) (l : List BExp) :
    (andNotAll ex l).eval ρ = (ex.eval ρ && (evalBits ρ l).all (!·)) := by
  induction l generalizing ex with
  | nil => simp [andNotAll]
  | cons x xs ih => simp [andNotAll, ih, BExp.eval, evalAnd, Bool.and_assoc]

theorem orAll_eval (ρ : Env) (ex : BExp) (l : List BExp) :
    (orAll ex l).eval ρ = (ex.eval ρ || (evalBits ρ l).any id) := by
  induction l generalizing ex with
  | nil => simp [orAll]
  | cons x xs ih => simp [orAll, ih, BExp.eval, evalOr, Bool.or_assoc]

theorem bEq_eval (ρ : Env) (a b : BExp) : (bEq a b).eval ρ = (a.eval ρ == b.eval ρ) := by
  simp only [bEq, BExp.eval, evalXor]; cases a.eval ρ <;> cases b.eval ρ <;> rfl

theorem bNeq_eval (ρ : Env) (a b : BExp) : (bNeq a b).eval ρ = (a.eval ρ != b.eval ρ) := by
  simp only [bNeq, BExp.eval, evalXor]; cases a.eval ρ <;> cases b.eval ρ <;> rfl

theorem qEq_aux (ρ : Env) (l r : List BExp) (ex : BExp) :
    (andNotAll (andNotAll (eqLoop ex l r) (l.drop r.length)) (r.drop l.length)).eval ρ
      = (ex.eval ρ && eqB (evalBits ρ l) (evalBits ρ r)) := by
  induction l generalizing r ex with
  | nil => simp [eqLoop, andNotAll, andNotAll_eval, eqB]
  | cons a as ih =>
    cases r with
    | nil => simp [eqLoop, andNotAll, andNotAll_eval, eqB, BExp.eval, evalAnd, Bool.and_assoc]
    | cons b bs =>
      simp only [eqLoop, List.length_cons, List.drop_succ_cons, evalBits_cons, eqB]
      rw [ih]
      simp [BExp.eval, evalAnd, bEq_eval, Bool.and_assoc]

theorem qEq_eval (ρ : Env) (l r : List BExp) : (qEq l r).eval ρ = decide (val ρ l = val ρ r) := by
  rw [qEq, qEq_aux, eqB_spec]; exact Bool.true_and _

theorem qNeq_aux (ρ : Env) (l r : List BExp) (ex : BExp) :
    (orAll (orAll (neqLoop ex l r) (l.drop r.length)) (r.drop l.length)).eval ρ
      = (ex.eval ρ || !eqB (evalBits ρ l) (evalBits ρ r)) := by
  induction l generalizing r ex with
  | nil => simp [neqLoop, orAll, orAll_eval, eqB, any_id_eq_not_all]
  | cons a as ih =>
    cases r with
    | nil => simp [neqLoop, orAll, orAll_eval, eqB, any_id_eq_not_all, BExp.eval, evalOr, Bool.or_assoc]
    | cons b bs =>
      simp only [neqLoop, List.length_cons, List.drop_succ_cons, evalBits_cons, eqB]
      rw [ih]
      simp only [BExp.eval, evalOr, bNeq_eval, Bool.or_false]
      cases ex.eval ρ <;> cases a.eval ρ <;> cases b.eval ρ <;> simp

theorem qNeq_eval (ρ : Env) (l r : List BExp) : (qNeq l r).eval ρ = decide (val ρ l ≠ val ρ r) := by
  rw [qNeq, qNeq_aux, eqB_spec, decide_not]; exact Bool.false_or _

theorem gt_step (x y : Bool) (A B P : Nat) (hA : A < P) (hB : B < P) :
    decide (bitN x * P + A > bitN y * P + B) = ((x && !y) || ((x == y) && decide (A > B))) := by
  cases x <;> cases y <;> simp [bitN] <;> omega

theorem valBE_cons_gt (x y : Bool) (xs ys : List Bool) (h : xs.length = ys.length) :
    decide (valBE (x :: xs) > valBE (y :: ys))
      = ((x && !y) || ((x == y) && decide (valBE xs > valBE ys))) := by
  rw [valBE_cons, valBE_cons, h]
  exact gt_step x y _ _ _ (h ▸ valBE_lt xs) (valBE_lt ys)

/-- the loop with `ex` bound: `ex` (left greater on the bits seen) or all bits seen equal (`prev`) and the
rest of the left operand greater -/
theorem gtLoop_some (ρ : Env) (rest : List (BExp × BExp)) (e : BExp) (prev : List BExp) :
    (gtLoop (some e) prev rest).eval ρ =
      (e.eval ρ || ((prev.all (·.eval ρ)) &&
        decide (valBE (rest.map (fun p => p.1.eval ρ)) > valBE (rest.map (fun p => p.2.eval ρ))))) := by
  induction rest generalizing e prev with
  | nil => simp [gtLoop, valBE]
  | cons p rest ih =>
    rw [gtLoop, ih, List.map_cons, List.map_cons, valBE_cons_gt _ _ _ _ (by simp)]
    simp only [BExp.eval, evalOr, BExp.evalAnd_eq_all, List.all_append, List.all_cons, List.all_nil, bEq_eval,
      Bool.or_false, Bool.and_true, Bool.and_or_distrib_left, Bool.or_assoc, Bool.and_assoc]

theorem gtLoop_correct (ρ : Env) (ps : List (BExp × BExp)) :
    (gtLoop none [] ps).eval ρ =
      decide (valBE (ps.map (fun p => p.1.eval ρ)) > valBE (ps.map (fun p => p.2.eval ρ))) := by
  cases ps with
  | nil => simp [gtLoop, BExp.eval, valBE]
  | cons p rest =>
    rw [gtLoop, gtLoop_some, List.map_cons, List.map_cons, valBE_cons_gt _ _ _ _ (by simp)]
    simp [BExp.eval, evalAnd, bEq_eval]

theorem zip_map_fst {α β : Type} (l : List α) (r : List β) : (l.zip r).map Prod.fst = l.take r.length := by
  induction l generalizing r with
  | nil => simp
  | cons a as ih => cases r with
    | nil => simp
    | cons b bs => simp [ih]

theorem zip_map_snd {α β : Type} (l : List α) (r : List β) : (l.zip r).map Prod.snd = r.take l.length := by
  induction l generalizing r with
  | nil => simp
  | cons a as ih => cases r with
    | nil => simp
    | cons b bs => simp [ih]

theorem gtCore_eval (ρ : Env) (l r : List BExp) :
    (gtLoop none [] (l.zip r).reverse).eval ρ
      = decide (val ρ (l.take r.length) > val ρ (r.take l.length)) := by
  rw [gtLoop_correct, List.map_reverse, List.map_reverse, valBE_reverse, valBE_reverse, ← zip_map_fst l r,
    ← zip_map_snd l r, val, val, evalBits, evalBits, List.map_map, List.map_map]
  rfl

/-- comparing two numbers by their low parts below `P` when at most one of them has a high part -/
theorem gt_arith (A B P D E : Nat) (hA : A < P) (hB : B < P) (hDE : D = 0 ∨ E = 0) :
    (A + P * D > B + P * E) ↔ ((A > B ∨ D > 0) ∧ E = 0) := by
  rcases hDE with rfl | rfl
  · rcases Nat.eq_zero_or_pos E with rfl | hE
    · simp
    · have := Nat.le_mul_of_pos_right P hE; omega
  · rcases Nat.eq_zero_or_pos D with rfl | hD
    · simp
    · have := Nat.le_mul_of_pos_right P hD; omega

/-- `QintImp.gt` without the quirk, unfolded: the zip loop on the common low bits, then the surplus bits of
either operand (`orAll`: a surplus bit of the left operand set; `andNotAll`: no surplus bit of the right one set) -/
theorem qGt_none (l r : List BExp) : qGt Quirks.none l r
    = andNotAll (orAll (gtLoop none [] (l.zip r).reverse) (l.drop r.length)) (r.drop l.length) := rfl

theorem qGt_eval (ρ : Env) (l r : List BExp) :
    (qGt Quirks.none l r).eval ρ = decide (val ρ l > val ρ r) := by
  have hA := val_lt ρ (l.take r.length)
  have hB := val_lt ρ (r.take l.length)
  rw [List.length_take] at hA hB
  rw [Nat.min_comm] at hA
  have hDE : val ρ (l.drop r.length) = 0 ∨ val ρ (r.drop l.length) = 0 := by
    rcases Nat.le_total l.length r.length with h | h
    · left; rw [List.drop_eq_nil_of_le h]; rfl
    · right; rw [List.drop_eq_nil_of_le h]; rfl
  have key := gt_arith _ _ _ _ _ hA hB hDE
  rw [← val_split ρ r l.length, Nat.min_comm, ← val_split ρ l r.length] at key
  rw [qGt_none, andNotAll_eval, orAll_eval, gtCore_eval, any_id_eq_valLE, all_not_eq_valLE, ← Bool.decide_or,
    ← Bool.decide_and]
  exact decide_eq_decide.2 key.symm

theorem qGt_quirk_irrelevant (q : Quirks) (l r : List BExp) (h : r.length ≤ l.length) :
    qGt q l r = qGt Quirks.none l r := by
  unfold qGt
  rw [List.drop_eq_nil_of_le h]
  simp [orAll, andNotAll, Quirks.none]

theorem qGt_of_ok {q : Quirks} {l r : List BExp} (h : q = Quirks.none ∨ r.length ≤ l.length) :
    qGt q l r = qGt Quirks.none l r :=
  h.elim (fun e => e ▸ rfl) (qGt_quirk_irrelevant q l r)

theorem qLt_eval (ρ : Env) (l r : List BExp) :
    (qLt Quirks.none l r).eval ρ = decide (val ρ l < val ρ r) := by
  simp only [qLt, BExp.eval, evalAnd, qGt_eval, qEq_eval, Bool.and_true, ← decide_not, ← Bool.decide_and]
  exact decide_eq_decide.2 (by omega)

theorem qLte_eval (ρ : Env) (l r : List BExp) :
    (qLte Quirks.none l r).eval ρ = decide (val ρ l ≤ val ρ r) := by
  simp only [qLte, BExp.eval, qGt_eval, ← decide_not]
  exact decide_eq_decide.2 (by omega)

theorem qGte_eval (ρ : Env) (l r : List BExp) :
    (qGte Quirks.none l r).eval ρ = decide (val ρ l ≥ val ρ r) := by
  simp only [qGte, BExp.eval, qLt_eval, ← decide_not]
  exact decide_eq_decide.2 (by omega)

theorem bitwiseGeneric_length (op : BExp → BExp → BExp) (l r : List BExp) :
    (bitwiseGeneric op l r).length = max l.length r.length := by
  rw [bitwiseGeneric, List.length_zipWith, widenL_length, widenR_length, Nat.min_self]

theorem opXor_eval (ρ : Env) (a b : BExp) : (opXor a b).eval ρ = Bool.xor (a.eval ρ) (b.eval ρ) := by
  simp [opXor, BExp.eval, evalXor]
theorem opAnd_eval (ρ : Env) (a b : BExp) : (opAnd a b).eval ρ = (a.eval ρ && b.eval ρ) := by
  simp [opAnd, BExp.eval, evalAnd]
theorem opOr_eval (ρ : Env) (a b : BExp) : (opOr a b).eval ρ = (a.eval ρ || b.eval ρ) := by
  simp [opOr, BExp.eval, evalOr]

theorem litVal_eq_val (ρ : Env) (l : List BExp) (h : isConstBits l = true) : val ρ l = litVal l := by
  induction l with
  | nil => rfl
  | cons a as ih =>
    simp only [isConstBits, List.all_cons, Bool.and_eq_true] at h
    have ih' := ih (by simpa [isConstBits] using h.2)
    rw [val_cons, litVal, ih']
    cases a <;> simp_all [isLit, BExp.eval, bitN]

end QV.Arith
