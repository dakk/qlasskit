import QV.Model.SemT
import QV.Proofs.FrontTy
import QV.Proofs.Bits
namespace QV.Sem
open QV.Front

theorem tyList_eq_map (vs : List TVal) : TVal.tyList vs = vs.map TVal.ty := by
  induction vs with
  | nil => rfl
  | cons v vs ih => simp [TVal.tyList, ih]

theorem tyList_length (vs : List TVal) : (TVal.tyList vs).length = vs.length := by
  rw [tyList_eq_map]; simp

mutual
theorem TVal.bits_length : ∀ v : TVal, v.bits.length = v.ty.bits
  | .bool _ => rfl
  | .int w x => by simp [TVal.bits, TVal.ty, Ty.bits]
  | .char x => by simp [TVal.bits, TVal.ty, Ty.bits]
  | .tuple vs => by rw [TVal.bits, TVal.ty, Ty.bits]; exact TVal.bitsList_length vs
theorem TVal.bitsList_length : ∀ vs : List TVal, (TVal.bitsList vs).length = Ty.bitsList (TVal.tyList vs)
  | [] => rfl
  | v :: vs => by
    rw [TVal.bitsList, TVal.tyList, Ty.bitsList, List.length_append, TVal.bits_length v,
      TVal.bitsList_length vs]
end

mutual
theorem TVal.beq_iff_bits : ∀ a b : TVal, a.ty = b.ty → a.wf = true → b.wf = true →
    (a.beq b = true ↔ a.bits = b.bits)
  | .bool x, b, ht, _, _ => by
    cases b with
    | bool y => simp [TVal.beq, TVal.bits]
    | _ => simp [TVal.ty] at ht
  | .int w x, b, ht, ha, hb => by
    cases b with
    | int w' y =>
      simp only [TVal.ty, Ty.qint.injEq] at ht
      subst ht
      simp only [TVal.wf, decide_eq_true_eq] at ha hb
      simp only [TVal.beq, TVal.bits, beq_iff_eq]
      exact ⟨fun h => by rw [h], toBitsLE_inj ha hb⟩
    | _ => simp [TVal.ty] at ht
  | .char x, b, ht, ha, hb => by
    cases b with
    | char y =>
      simp only [TVal.wf, decide_eq_true_eq] at ha hb
      simp only [TVal.beq, TVal.bits, beq_iff_eq]
      exact ⟨fun h => by rw [h], toBitsLE_inj (w := 8) ha hb⟩
    | _ => simp [TVal.ty] at ht
  | .tuple xs, b, ht, ha, hb => by
    cases b with
    | tuple ys =>
      simp only [TVal.ty, Ty.tuple.injEq] at ht
      simp only [TVal.wf] at ha hb
      simp only [TVal.beq, TVal.bits]
      exact TVal.beqList_iff_bits xs ys ht ha hb
    | _ => simp [TVal.ty] at ht
theorem TVal.beqList_iff_bits : ∀ a b : List TVal, TVal.tyList a = TVal.tyList b →
    TVal.wfList a = true → TVal.wfList b = true →
    (TVal.beqList a b = true ↔ TVal.bitsList a = TVal.bitsList b)
  | [], [], _, _, _ => by simp [TVal.beqList, TVal.bitsList]
  | x :: xs, y :: ys, ht, ha, hb => by
    simp only [TVal.tyList, List.cons.injEq] at ht
    simp only [TVal.wfList, Bool.and_eq_true] at ha hb
    have h1 := TVal.beq_iff_bits x y ht.1 ha.1 hb.1
    have h2 := TVal.beqList_iff_bits xs ys ht.2 ha.2 hb.2
    simp only [TVal.beqList, TVal.bitsList, Bool.and_eq_true, h1, h2]
    have hl : x.bits.length = y.bits.length := by rw [TVal.bits_length, TVal.bits_length, ht.1]
    constructor
    · rintro ⟨e1, e2⟩; rw [e1, e2]
    · intro h
      exact List.append_inj h hl
  | [], _ :: _, ht, _, _ => by simp [TVal.tyList] at ht
  | _ :: _, [], ht, _, _ => by simp [TVal.tyList] at ht
end

mutual
theorem tyGood_bits_pos : ∀ t : Ty, tyGood t = true → 1 ≤ t.bits
  | .bool, _ => by simp [Ty.bits]
  | .qint w, h => by simp only [tyGood, decide_eq_true_eq] at h; simp only [Ty.bits]; omega
  | .qchar, _ => by simp [Ty.bits]
  | .tuple ts, h => by
    simp only [tyGood, Bool.and_eq_true, decide_eq_true_eq] at h
    have := tyGoodList_bits ts h.2
    rw [Ty.bits]; omega
theorem tyGoodList_bits : ∀ ts : List Ty, tyGoodList ts = true → ts.length ≤ Ty.bitsList ts
  | [], _ => by simp [Ty.bitsList]
  | t :: ts, h => by
    simp only [tyGoodList, Bool.and_eq_true] at h
    have h1 := tyGood_bits_pos t h.1
    have h2 := tyGoodList_bits ts h.2
    simp only [Ty.bitsList, List.length_cons]; omega
end

/-- a good type other than `bool` has at least two bits: a name of that type evaluates to a list -/
theorem tyGood_two_bits (t : Ty) (h : tyGood t = true) (hb : t ≠ .bool) : 2 ≤ t.bits := by
  cases t with
  | bool => exact absurd rfl hb
  | qint w => simp only [tyGood, decide_eq_true_eq] at h; simpa [Ty.bits] using h
  | qchar => simp [Ty.bits]
  | tuple ts =>
    simp only [tyGood, Bool.and_eq_true, decide_eq_true_eq] at h
    have := tyGoodList_bits ts h.2
    rw [Ty.bits]; omega

theorem decodeTList_cons (ρ : QV.Env) (base : String) (i : Nat) (t : Ty) (ts : List Ty) :
    decodeTList ρ base i (t :: ts) = decodeT ρ (bitName base i) t :: decodeTList ρ base (i + 1) ts := by
  simp only [decodeTList]
  rfl

mutual
theorem decodeT_ty (ρ : QV.Env) : ∀ (t : Ty) (base : String), (decodeT ρ base t).ty = t
  | .bool, _ => rfl
  | .qint _, _ => rfl
  | .qchar, _ => rfl
  | .tuple ts, base => by rw [decodeT, TVal.ty, decodeTList_ty ρ ts base 0]
theorem decodeTList_ty (ρ : QV.Env) : ∀ (ts : List Ty) (base : String) (i : Nat),
    TVal.tyList (decodeTList ρ base i ts) = ts
  | [], _, _ => rfl
  | t :: ts, base, i => by
    rw [decodeTList_cons, TVal.tyList, decodeT_ty ρ t, decodeTList_ty ρ ts]
end

mutual
theorem decodeT_wf (ρ : QV.Env) : ∀ (t : Ty) (base : String), (decodeT ρ base t).wf = true
  | .bool, _ => rfl
  | .qint w, base => by
    have := valLE_lt ((Ty.names base (.qint w)).map ρ)
    rw [List.length_map, names_length] at this
    simpa [decodeT, TVal.wf, Ty.bits] using this
  | .qchar, base => by
    have := valLE_lt ((Ty.names base .qchar).map ρ)
    rw [List.length_map, names_length] at this
    simpa [decodeT, TVal.wf, Ty.bits] using this
  | .tuple ts, base => by rw [decodeT, TVal.wf]; exact decodeTList_wf ρ ts base 0
theorem decodeTList_wf (ρ : QV.Env) : ∀ (ts : List Ty) (base : String) (i : Nat),
    TVal.wfList (decodeTList ρ base i ts) = true
  | [], _, _ => rfl
  | t :: ts, base, i => by
    rw [decodeTList_cons, TVal.wfList, decodeT_wf ρ t, decodeTList_wf ρ ts]; rfl
end

mutual
theorem decodeT_bits (ρ : QV.Env) : ∀ (t : Ty) (base : String),
    (decodeT ρ base t).bits = (Ty.names base t).map ρ
  | .bool, base => by simp [decodeT, TVal.bits, Ty.names]
  | .qint w, base => by
    rw [decodeT, TVal.bits]
    have := toBitsLE_valLE ((Ty.names base (.qint w)).map ρ)
    rw [List.length_map, names_length] at this
    exact this
  | .qchar, base => by
    rw [decodeT, TVal.bits]
    have := toBitsLE_valLE ((Ty.names base .qchar).map ρ)
    rw [List.length_map, names_length] at this
    exact this
  | .tuple ts, base => by rw [decodeT, TVal.bits, Ty.names]; exact decodeTList_bits ρ ts base 0
theorem decodeTList_bits (ρ : QV.Env) : ∀ (ts : List Ty) (base : String) (i : Nat),
    TVal.bitsList (decodeTList ρ base i ts) = (Ty.namesList base i ts).map ρ
  | [], _, _ => by simp [decodeTList, TVal.bitsList, Ty.namesList]
  | t :: ts, base, i => by
    rw [decodeTList_cons, TVal.bitsList, namesList_cons, List.map_append, decodeT_bits ρ t,
      decodeTList_bits ρ ts]
end

theorem decodeTList_get (ρ : QV.Env) (base : String) : ∀ (ts : List Ty) (k j : Nat),
    (decodeTList ρ base k ts)[j]? = (ts[j]?).map (decodeT ρ (bitName base (k + j)))
  | [], k, j => by simp [decodeTList]
  | t :: ts, k, 0 => by simp [decodeTList_cons]
  | t :: ts, k, j + 1 => by
    rw [decodeTList_cons, List.getElem?_cons_succ, List.getElem?_cons_succ, decodeTList_get ρ base ts (k + 1) j]
    congr 3
    omega

def SEnv.toT (σ : SEnv) : TEnv := fun n => (σ n).map SVal.toT

theorem boolFoldT_toT (isAnd : Bool) : ∀ xs : List SVal, boolFoldT isAnd (xs.map SVal.toT) = boolFold isAnd xs
  | [] => rfl
  | [x] => by cases x <;> rfl
  | x :: y :: ys => by
    have ih := boolFoldT_toT isAnd (y :: ys)
    cases x with
    | bool b =>
      simp only [List.map_cons, SVal.toT] at ih ⊢
      simp only [boolFoldT, boolFold, ih]
    | int w v =>
      simp only [List.map_cons, SVal.toT]
      simp only [boolFoldT, boolFold]

theorem isCharO_toT (o : Option SVal) : isCharO (o.map SVal.toT) = false := by
  rcases o with _ | _ | _ <;> rfl

theorem coerceRetT_of_toT (ret : Ty) (sv : SVal) : coerceRetT ret sv.toT = (coerceRet ret sv).map SVal.toT := by
  cases sv with
  | bool b => cases ret <;> rfl
  | int a x =>
    cases ret with
    | qint b => simp only [SVal.toT, coerceRetT, coerceRet]; split <;> rfl
    | bool => rfl
    | qchar => rfl
    | tuple _ => rfl

theorem toT_bits (sv : SVal) : sv.toT.bits = sv.bits := by cases sv <;> rfl

end QV.Sem
