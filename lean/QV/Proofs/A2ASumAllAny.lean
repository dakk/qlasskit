import QV.Proofs.A2AIndexChains
import QV.Proofs.A2AIndexSyntax
namespace QV.A2A
open QV.Front QV.Sem

/-- `a0 + (a1 + (… + ak))` -/
def sumE : SExp → List SExp → SExp
  | x, [] => x
  | x, y :: ys => .bin "Add" x (sumE y ys)

theorem sumChain_cons : ∀ (x : SExp) (xs : List SExp), sumChain (x :: xs) = .ok (sumE x xs)
  | x, [] => by simp [sumChain, sumE, pure, Except.pure]
  | x, y :: ys => by simp [sumChain, sumE, sumChain_cons y ys, bind, Except.bind, pure, Except.pure]

def sumP : PExp → List PExp → PExp
  | x, [] => x
  | x, y :: ys => .bin "add" x (sumP y ys)

theorem toP_sumE : ∀ (x : SExp) (xs : List SExp), toP (sumE x xs) = sumP (toP x) (toPs xs)
  | x, [] => by simp [sumE, sumP, toPs]
  | x, y :: ys => by simp [sumE, sumP, toPs, toP, binName, toP_sumE y ys]

theorem semW_add (σ : SEnv) (l r : PExp) (w a b : Nat) (hl : semW σ l = some (.int w a))
    (hr : semW σ r = some (.int w b)) : semW σ (.bin "add" l r) = some (.int w ((a + b) % 2 ^ w)) := by
  simp [semW, hl, hr, intBin]

theorem sumP_value (σ : SEnv) (w : Nat) : ∀ (es : List PExp) (vs : List Nat) (e : PExp) (v : Nat),
    semW σ e = some (.int w v) → v < 2 ^ w →
    List.Forall₂ (fun e v => semW σ e = some (.int w v) ∧ v < 2 ^ w) es vs →
    semW σ (sumP e es) = some (.int w ((v + vs.sum) % 2 ^ w))
  | [], vs, e, v, he, hv, h => by
    cases h
    simp [sumP, he, Nat.mod_eq_of_lt hv]
  | y :: ys, vs, e, v, he, hv, h => by
    cases h with
    | cons hy hys =>
      rename_i vy vys
      have ih := sumP_value σ w ys vys y vy hy.1 hy.2 hys
      simp only [sumP, semW_add σ e (sumP y ys) w v _ he ih, List.sum_cons]
      congr 2
      rw [Nat.add_mod_mod]

theorem semWList_bools (σ : SEnv) : ∀ (es : List PExp) (bs : List Bool),
    List.Forall₂ (fun e b => semW σ e = some (.bool b)) es bs → semWList σ es = some (bs.map .bool)
  | [], bs, h => by cases h; rfl
  | e :: es, bs, h => by
    cases h with
    | cons he hes =>
      simp [semWList, he, semWList_bools σ es _ hes]

theorem boolFold_bools (isAnd : Bool) : ∀ (b : Bool) (bs : List Bool),
    boolFold isAnd ((b :: bs).map .bool) = some (if isAnd then (b :: bs).all id else (b :: bs).any id)
  | b, [] => by cases isAnd <;> simp [boolFold]
  | b, c :: cs => by
    have ih := boolFold_bools isAnd c cs
    simp only [List.map_cons] at ih ⊢
    simp only [boolFold, ih, Option.map_some]
    cases isAnd <;> simp

theorem boolop_value (σ : SEnv) (isAnd : Bool) (e : PExp) (es : List PExp) (b : Bool) (bs : List Bool)
    (h : List.Forall₂ (fun e b => semW σ e = some (.bool b)) (e :: es) (b :: bs)) :
    semW σ (.boolop isAnd (e :: es)) = some (.bool (if isAnd then (b :: bs).all id else (b :: bs).any id)) := by
  rw [semW, semWList_bools σ _ _ h]
  simp only [boolFold_bools, Option.map_some]

theorem toPs_map (f : Nat → SExp) : ∀ l : List Nat, toPs (l.map f) = l.map fun a => toP (f a)
  | [] => rfl
  | a :: l => by simp [toPs, toPs_map f l]

theorem toPs_elems1 (L : String) (n : Nat) :
    toPs (elems1 L n) = (List.range n).map fun (a : Nat) => PExp.subs L [(a : Int)] := by
  unfold elems1
  rw [toPs_map]
  simp only [toP_access1]

theorem toPs_elems2 (L : String) (c m : Nat) :
    toPs (elems2 L c m) = (List.range m).map fun (b : Nat) => PExp.subs L [(c : Int), (b : Int)] := by
  unfold elems2
  rw [toPs_map]
  simp only [toP_access2]

end QV.A2A
