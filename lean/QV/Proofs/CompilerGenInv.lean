import QV.Proofs.CompilerSem2
/-!
# Semantic correctness of the compiler model on the general class: invariant, primitives, specifications

Cache hits (shared sub-expressions inside a statement and across statements) and re-binding of names are admitted.
The invariant `GI` describes a state `s` reached while the statement that started in state `s0` is compiled:

* the gates appended since `s0` (`Lof s0 s`) target qubits that were in the scratch space of `s0` and are in
  use now; their controls are in use;
* (`ben`) every control of every such gate had, when the gate was applied, the value it has now – which gives
  the hypothesis of `bennettF` with the current state as final state.  It is kept by a new gate because the
  target of a gate has not been read yet: a qubit that has been read is never written again;
* every qubit of the scratch space is zero; the qubit of a known name holds the name's value; every cache
  entry `e ↦ q` has `q` in use and holding the value of `e` (what makes a cache hit sound);
* marked qubits are in-use ancillas that are not kept and are the target of a gate of the statement; every
  ancilla is kept or was in the scratch space of `s0`.

Nothing here goes through `PreK` / `SemK`: their specifications assume that no key of the expression is cached.
`GIh` contains `PreK` at `kv := kval ρ` (`good`, `zero`, `names` – there `tbl` –, `knOK`, `freeNd`, `freeAnc`,
`keptNF`).  `Fr` has `SemK`'s `nq`, `avail`, `mkeep`, `akeep`, `kkeep`, `fkeep` and its frame (`val`), no set of
cache keys and no condition on controls (`ben` is part of the invariant), and `priv` / `pend` / `alloc` besides.
-/
namespace QV.Compiler
open QV

/-- `BExp.beqList_eq`; no user below -/
theorem gen_beqList_eq : ∀ a b : List BExp, BExp.beqList a b = true → a = b :=
  BExp.beqList_eq

def Lof (s0 s : CState) : List AGate := s.qc.gates.toList.drop s0.qc.gates.toList.length

/-- `x` may be written without breaking `GIh.ben` -/
def Unread (s0 s : CState) (x : Nat) : Prop := ∀ g ∈ Lof s0 s, x ∉ g.wires.dropLast

/-- the inline `uncompute` replays a gate on `q`; `Tgt` of `CompilerSem2a` asks for a gate of `gates_computed`,
of any statement -/
def TgtL (s0 s : CState) (q : Nat) : Prop := ∃ g ∈ Lof s0 s, g.target = q

theorem Lof_self (s : CState) : Lof s s = [] := by
  unfold Lof; simp

theorem Lof_congr {s0 s s' : CState} (h : s'.qc.gates = s.qc.gates) : Lof s0 s' = Lof s0 s := by
  unfold Lof; rw [h]

theorem Lof_append {s0 s s' : CState} {l : List AGate} (hp : s.qc.gates.toList = s0.qc.gates.toList ++ Lof s0 s)
    (h : s'.qc.gates.toList = s.qc.gates.toList ++ l) : Lof s0 s' = Lof s0 s ++ l := by
  unfold Lof
  rw [h, hp]
  simp

/-- `Kn`: the names whose qubits hold their value (`kval ρ`); `H`: qubits whose cache entries are not claimed
to be valid (a hole that `expqSet` closes) -/
structure GIh (Kn : String → Prop) (ρ : Env) (σ0 : FState) (s0 : CState) (H : Nat → Prop) (s : CState) : Prop where
  good : Good s
  gates : s.qc.gates.toList = s0.qc.gates.toList ++ Lof s0 s
  comp : s.qc.gatesComputed.toList = s0.qc.gatesComputed.toList ++ Lof s0 s
  tgt : ∀ g ∈ Lof s0 s, Avail s0 g.target ∧ ¬ Avail s g.target
  ctl : ∀ g ∈ Lof s0 s, ∀ c ∈ g.wires.dropLast, ¬ Avail s c
  ben : CtlOK (fun f c => f c = cur σ0 s c) (Lof s0 s) (cur σ0 s0)
  nq : s0.qc.numQubits ≤ s.qc.numQubits
  avail : ∀ q, Avail s q → Avail s0 q
  kept : s.qc.kept = s0.qc.kept
  zero : ∀ q, Avail s q → cur σ0 s q = false
  names : ∀ n q, Kn n → dictGet? s.qc.qmap n = some q →
    q ∉ s.qc.free ∧ q ∉ s.qc.anc ∧ cur σ0 s q = kval ρ n
  knOK : ∀ n, Kn n → ancLike n = false
  cache : ∀ p ∈ s.expq, ¬ H p.2 → ¬ Avail s p.2 ∧ cur σ0 s p.2 = p.1.eval ρ ∧
    (p.2 ∈ s.qc.anc → p.2 ∉ s.qc.kept → TgtL s0 s p.2)
  freeNd : s.qc.free.Nodup
  freeAnc : ∀ q ∈ s.qc.free, q ∈ s.qc.anc
  keptNF : ∀ k ∈ s.qc.kept, k ∉ s.qc.free
  marks : ∀ m ∈ s.qc.marked, m ∈ s.qc.anc ∧ m ∉ s.qc.kept ∧ ¬ Avail s m ∧ (¬ H m → TgtL s0 s m)
  ancOld : ∀ a ∈ s.qc.anc, a ∈ s.qc.kept ∨ Avail s0 a

/-- `GIh` without a hole: every cache entry is claimed -/
abbrev GI (Kn : String → Prop) (ρ : Env) (σ0 : FState) (s0 s : CState) : Prop :=
  GIh Kn ρ σ0 s0 (fun _ => False) s

/-- a qubit the caller may write: `PrivK` (in use, no known name's qubit), and taken from the scratch space of
`s0`, not cached, not read, not marked -/
structure PrivD (Kn : String → Prop) (s0 s : CState) (x : Nat) : Prop where
  nav : ¬ Avail s x
  av0 : Avail s0 x
  nn : ∀ n, Kn n → dictGet? s.qc.qmap n ≠ some x
  nc : ∀ p ∈ s.expq, p.2 ≠ x
  unread : Unread s0 s x
  nm : x ∉ s.qc.marked

abbrev NoN : Nat → Prop := fun _ => False

/-- `D` the qubits (in use in `s`) a piece of the compiler may write, `R` the in-use ancillas it may leave unmarked,
`C` the qubits it may read, mark or cache, `E` the new qubits it may allocate that are not ancillas -/
structure Fr (Kn : String → Prop) (σ0 : FState) (s0 s s' : CState) (D R C : Nat → Prop) (E : Nat → Prop := NoN) :
    Prop where
  nq : s.qc.numQubits ≤ s'.qc.numQubits
  avail : ∀ q, Avail s' q → Avail s q
  mkeep : ∀ m ∈ s.qc.marked, m ∈ s'.qc.marked
  akeep : ∀ a ∈ s.qc.anc, a ∈ s'.qc.anc
  anew : ∀ a ∈ s'.qc.anc, a ∈ s.qc.anc ∨ Avail s a
  tkeep : ∀ q, TgtL s0 s q → TgtL s0 s' q
  kkeep : s'.qc.kept = s.qc.kept
  val : ∀ q, ¬ Avail s q → ¬ D q → cur σ0 s' q = cur σ0 s q
  priv : ∀ x, PrivD Kn s0 s x → ¬ C x → PrivD Kn s0 s' x
  pend : ∀ a ∈ s'.qc.anc, a ∉ s'.qc.free → a ∉ s'.qc.kept → a ∉ s'.qc.marked →
    (a ∈ s.qc.anc ∧ a ∉ s.qc.free ∧ a ∉ s.qc.marked) ∨ R a
  alloc : ∀ q, s.qc.numQubits ≤ q → q < s'.qc.numQubits → q ∈ s'.qc.anc ∨ E q
  fkeep : ∀ q ∈ s'.qc.free, q ∈ s.qc.free

variable {Kn : String → Prop} {ρ : Env} {σ0 : FState} {s0 : CState}

theorem Fr.refl {D R C E : Nat → Prop} (s : CState) : Fr Kn σ0 s0 s s D R C E :=
  ⟨Nat.le_refl _, fun _ h => h, fun _ h => h, fun _ h => h, fun _ h => Or.inl h, fun _ h => h, rfl, fun _ _ _ => rfl, fun _ h _ => h,
    fun _ h1 h2 _ h4 => Or.inl ⟨h1, h2, h4⟩, fun q h1 h2 => absurd h2 (by omega), fun _ h => h⟩

theorem Fr.trans {D1 D2 R1 R2 C1 C2 E1 E2 : Nat → Prop} {s s1 s2 : CState}
    (h1 : Fr Kn σ0 s0 s s1 D1 R1 C1 E1) (h2 : Fr Kn σ0 s0 s1 s2 D2 R2 C2 E2) :
    Fr Kn σ0 s0 s s2 (fun q => D1 q ∨ D2 q) (fun q => R1 q ∨ R2 q) (fun q => C1 q ∨ C2 q)
      (fun q => E1 q ∨ E2 q) := by
  refine ⟨Nat.le_trans h1.nq h2.nq, fun q h => h1.avail q (h2.avail q h), fun m h => h2.mkeep m (h1.mkeep m h),
    fun a h => h2.akeep a (h1.akeep a h),
    fun a h => (h2.anew a h).elim (h1.anew a) (fun h' => Or.inr (h1.avail a h')),
    fun q h => h2.tkeep q (h1.tkeep q h), h2.kkeep.trans h1.kkeep, ?_,
    fun x h hc => h2.priv x (h1.priv x h (fun hh => hc (Or.inl hh))) (fun hh => hc (Or.inr hh)), ?_, ?_,
    fun q h => h1.fkeep q (h2.fkeep q h)⟩
  · intro q hq hd
    rw [h2.val q (fun h => hq (h1.avail q h)) (fun h => hd (Or.inr h)), h1.val q hq (fun h => hd (Or.inl h))]
  · intro a ha hf hk hm
    rcases h2.pend a ha hf hk hm with ⟨a1, a2, a3⟩ | h
    · rcases h1.pend a a1 a2 (by rw [← h2.kkeep]; exact hk) a3 with h | h
      · exact Or.inl h
      · exact Or.inr (Or.inl h)
    · exact Or.inr (Or.inr h)
  · intro q hq1 hq2
    by_cases hq : q < s1.qc.numQubits
    · rcases h1.alloc q hq1 hq with h | h
      · exact Or.inl (h2.akeep q h)
      · exact Or.inr (Or.inl h)
    · rcases h2.alloc q (by omega) hq2 with h | h
      · exact Or.inl h
      · exact Or.inr (Or.inr h)

/-- `D` and `C` only have to be covered on the qubits they are asked about -/
theorem Fr.mono {D D' R R' C C' E E' : Nat → Prop} {s s' : CState} (h : Fr Kn σ0 s0 s s' D R C E)
    (hd : ∀ q, ¬ Avail s q → D q → D' q)
    (hr : ∀ q, R q → q ∈ s'.qc.anc → q ∉ s'.qc.kept → q ∉ s'.qc.marked → R' q)
    (hc : ∀ x, PrivD Kn s0 s x → C x → C' x)
    (he : ∀ q, E q → E' q := by intro q h; simpa using h) :
    Fr Kn σ0 s0 s s' D' R' C' E' :=
  ⟨h.nq, h.avail, h.mkeep, h.akeep, h.anew, h.tkeep, h.kkeep, fun q hq hn => h.val q hq (fun hh => hn (hd q hq hh)),
    fun x hx hn => h.priv x hx (fun hh => hn (hc x hx hh)),
    fun a h1 h2 h3 h4 => (h.pend a h1 h2 h3 h4).imp id (fun hh => hr a hh h1 h3 h4),
    fun q h1 h2 => (h.alloc q h1 h2).imp id (he q), h.fkeep⟩

/-- the sets of the second step are judged from the START state `s`: it may write a qubit in use in `s` only
inside `D`, and may read, mark or cache a qubit private in `s` only inside `C`.  A set that is left out is empty. -/
theorem Fr.seq {D R C E D2 R2 C2 E2 : Nat → Prop} {s s1 s2 : CState}
    (h1 : Fr Kn σ0 s0 s s1 D R C E) (h2 : Fr Kn σ0 s0 s1 s2 D2 R2 C2 E2)
    (hd : ∀ q, ¬ Avail s q → D2 q → D q := by exact fun _ _ h => h.elim)
    (hr : ∀ q, R2 q → R q := by exact fun _ h => h.elim)
    (hc : ∀ x, PrivD Kn s0 s x → C2 x → C x := by exact fun _ _ h => h.elim)
    (he : ∀ q, E2 q → E q := by exact fun _ h => h.elim) : Fr Kn σ0 s0 s s2 D R C E :=
  (h1.trans h2).mono (fun q hq hh => hh.elim id (hd q hq)) (fun q hh _ _ _ => hh.elim id (hr q))
    (fun x hx hh => hh.elim id (hc x hx)) (fun q hh => hh.elim id (he q))

/-- an ancilla that has been marked, freed or kept meanwhile is no longer pending -/
theorem Fr.monoR {D R R' C E : Nat → Prop} {s s' : CState} (h : Fr Kn σ0 s0 s s' D R C E)
    (hr : ∀ q, R q → q ∈ s'.qc.anc → q ∉ s'.qc.kept → q ∉ s'.qc.marked → R' q) : Fr Kn σ0 s0 s s' D R' C E :=
  h.mono (fun _ _ hh => hh) hr (fun _ _ hh => hh) (fun _ hh => hh)

theorem TgtL.congr {s s' : CState} {q : Nat} (h : s'.qc.gates = s.qc.gates) (ht : TgtL s0 s q) : TgtL s0 s' q := by
  unfold TgtL; rw [Lof_congr h]; exact ht

theorem GIh.monoH {H H' : Nat → Prop} {s : CState} (gi : GIh Kn ρ σ0 s0 H s) (h : ∀ q, H q → H' q) :
    GIh Kn ρ σ0 s0 H' s :=
  { gi with
    cache := fun p hp hn => gi.cache p hp (fun hh => hn (h _ hh))
    marks := fun m hm => ⟨(gi.marks m hm).1, (gi.marks m hm).2.1, (gi.marks m hm).2.2.1,
      fun hn => (gi.marks m hm).2.2.2 (fun hh => hn (h _ hh))⟩ }

theorem GIh.monoKn {Kn' : String → Prop} {H : Nat → Prop} {s : CState} (gi : GIh Kn ρ σ0 s0 H s)
    (h : ∀ n, Kn' n → Kn n) : GIh Kn' ρ σ0 s0 H s :=
  { gi with names := fun n q hk hq => gi.names n q (h n hk) hq, knOK := fun n hk => gi.knOK n (h n hk) }

theorem GIh.close' {H : Nat → Prop} {s : CState} {t : Nat} (gi : GIh Kn ρ σ0 s0 (fun q => H q ∨ q = t) s)
    (hnc : ∀ p ∈ s.expq, p.2 ≠ t) (htg : TgtL s0 s t) : GIh Kn ρ σ0 s0 (fun q => H q ∧ q ≠ t) s :=
  { gi with
    cache := fun p hp hn => gi.cache p hp (fun hh => hh.elim (fun h1 => hn ⟨h1, hnc p hp⟩) (hnc p hp))
    marks := fun m hm => ⟨(gi.marks m hm).1, (gi.marks m hm).2.1, (gi.marks m hm).2.2.1, fun hn => by
      by_cases hmt : m = t
      · exact hmt ▸ htg
      · exact (gi.marks m hm).2.2.2 (fun hh => hh.elim (fun h1 => hn ⟨h1, hmt⟩) hmt)⟩ }

/-- gates `gs`, all on the target `t`: the cache entries on `t` are not claimed afterwards (hole).  No gate of the
piece targets a control of the piece, which is what `GIh.ben` asks of the added gates (`ctlOK_of_static`); the
earlier gates do not read `t`. -/
theorem emit_g {H Cs : Nat → Prop} {gs : List AGate} {t : Nat} {s s' : CState}
    (em : Emit gs s s') (gi : GIh Kn ρ σ0 s0 H s) (hne : gs ≠ [])
    (hgs : ∀ g ∈ gs, g.cls.isMCXLike = true ∧ ∃ cs, g.wires = cs ++ [t] ∧ ∀ c ∈ cs, ¬ Avail s c ∧ Cs c)
    (ht0 : Avail s0 t) (ht : ¬ Avail s t)
    (hur : Unread s0 s t) (hnn : ∀ n, Kn n → dictGet? s.qc.qmap n ≠ some t) :
    GIh Kn ρ σ0 s0 (fun q => H q ∨ q = t) s' ∧ Fr Kn σ0 s0 s s' (· = t) NoN Cs ∧ TgtL s0 s' t ∧
      Unread s0 s' t ∧ ∀ g ∈ gs, t ∉ g.wires.dropLast := by
  obtain ⟨new, hcore, hgates, hcomp⟩ := em.gates
  have hnd : ∀ g ∈ gs, t ∉ g.wires.dropLast := by
    intro g hg
    obtain ⟨_, cs, hw, _⟩ := hgs g hg
    have := (appendError_none (em.noerr g hg)).1
    rw [show (gt g.cls g.wires).wires = cs ++ [t] from hw] at this
    rw [hw, List.dropLast_concat]
    exact fun hm => (List.nodup_append.mp this).2.2 t hm t (by simp) rfl
  have hnew : ∀ g ∈ new, g.target = t ∧ t ∉ g.wires.dropLast ∧ ∀ c ∈ g.wires.dropLast, ¬ Avail s c ∧ Cs c := by
    intro g hg
    obtain ⟨g0, h0, _, hw⟩ := mem_of_map_gcore hcore hg
    obtain ⟨_, cs, hcs, hav⟩ := hgs g0 h0
    rw [← hw]
    refine ⟨AGate.target_concat (hw.symm.trans hcs), hnd g0 h0, ?_⟩
    rw [hcs, List.dropLast_concat]; exact hav
  have hg' : Good s' := em.good gi.good (fun g hg => by
    obtain ⟨hm, cs, hw, hav⟩ := hgs g hg
    refine ⟨hm, fun w hwm => ?_⟩
    rw [hw] at hwm
    rcases List.mem_append.mp hwm with hwm | hwm
    · exact notAvail_lt (hav w hwm).1
    · rw [List.mem_singleton.mp hwm]; exact notAvail_lt ht)
  have hL : Lof s0 s' = Lof s0 s ++ new := Lof_append gi.gates hgates
  have hav : ∀ q, Avail s' q ↔ Avail s q := Avail.congr em.free em.nq
  have hcur : cur σ0 s' = runF new (cur σ0 s) := cur_of_gates hgates
  have hcurne : ∀ q, q ≠ t → cur σ0 s' q = cur σ0 s q := fun q hq => by
    rw [hcur]; exact runF_of_target_ne new q (fun g hg e => hq ((hnew g hg).1 ▸ e.symm)) _
  have htk : ∀ q, TgtL s0 s q → TgtL s0 s' q := by
    rintro q ⟨g', hg1, hg2⟩
    exact ⟨g', by rw [hL]; exact List.mem_append_left _ hg1, hg2⟩
  have hur' : ∀ x, Unread s0 s x → ¬ Cs x → Unread s0 s' x := by
    intro x hx hxc g' hg'm
    rw [hL] at hg'm
    rcases List.mem_append.mp hg'm with hm | hm
    · exact hx g' hm
    · exact fun hc => hxc ((hnew g' hm).2.2 x hc).2
  have hurt : Unread s0 s' t := by
    intro g' hg'm
    rw [hL] at hg'm
    rcases List.mem_append.mp hg'm with hm | hm
    · exact hur g' hm
    · exact (hnew g' hm).2.1
  have hnn' : new ≠ [] := fun e => hne (List.map_eq_nil_iff.mp (by rw [← hcore, e]; rfl))
  obtain ⟨g1, hg1⟩ := List.exists_mem_of_ne_nil new hnn'
  refine ⟨⟨hg', by rw [hgates, gi.gates, hL, List.append_assoc], by rw [hcomp, gi.comp, hL, List.append_assoc],
    ?_, ?_, ?_, by rw [em.nq]; exact gi.nq, fun q hq => gi.avail q ((hav q).mp hq),
    em.kept.trans gi.kept, ?_, ?_, gi.knOK, ?_, by rw [em.free]; exact gi.freeNd,
    by rw [em.free, em.anc]; exact gi.freeAnc, by rw [em.free, em.kept]; exact gi.keptNF, ?_,
    by rw [em.anc, em.kept]; exact gi.ancOld⟩,
    ⟨Nat.le_of_eq em.nq.symm, fun q h => (hav q).mp h, fun m h => by rw [em.marked]; exact h,
      fun a h => by rw [em.anc]; exact h, fun a h => Or.inl (by rw [← em.anc]; exact h), htk, em.kept,
      fun q _ hq => hcurne q hq, ?_, ?_, ?_, ?_⟩,
    ⟨g1, by rw [hL]; exact List.mem_append_right _ hg1, (hnew g1 hg1).1⟩, hurt, hnd⟩
  · intro g' hg'm
    rw [hL] at hg'm
    rcases List.mem_append.mp hg'm with hm | hm
    · exact ⟨(gi.tgt g' hm).1, fun h' => (gi.tgt g' hm).2 ((hav _).mp h')⟩
    · rw [(hnew g' hm).1]; exact ⟨ht0, fun h' => ht ((hav _).mp h')⟩
  · intro g' hg'm c hcm
    rw [hL] at hg'm
    rcases List.mem_append.mp hg'm with hm | hm
    · exact fun h' => gi.ctl g' hm c hcm ((hav _).mp h')
    · exact fun h' => ((hnew g' hm).2.2 c hcm).1 ((hav _).mp h')
  · rw [hL, CtlOK.append, ← cur_of_gates gi.gates]
    constructor
    · refine CtlOK.mono' _ _ ?_ gi.ben
      intro g' hg'm c hcm f hq
      rw [hcurne c (fun e => hur g' hg'm (e ▸ hcm))]; exact hq
    · refine CtlOK.mono (fun f c hq => ?_) _ _ (ctlOK_of_static [] new (cur σ0 s) (fun g hg c hc => Or.inr ?_))
      · rw [hcur]; exact hq.resolve_left (by simp)
      · intro g' hg'm e
        exact (hnew g hg).2.1 ((AGate.target_of_getLast? e).symm.trans (hnew g' hg'm).1 ▸ hc)
  · intro q hq
    have hq' := (hav q).mp hq
    rw [hcurne q (fun e => ht (e ▸ hq'))]; exact gi.zero q hq'
  · intro n q hk hq
    rw [em.qmap] at hq
    obtain ⟨t1, t2, t3⟩ := gi.names n q hk hq
    refine ⟨by rw [em.free]; exact t1, by rw [em.anc]; exact t2, ?_⟩
    rw [hcurne q (fun e => hnn n hk (e ▸ hq))]; exact t3
  · intro p hp hn
    rw [em.expq] at hp
    obtain ⟨c1, c2, c3⟩ := gi.cache p hp (fun hh => hn (Or.inl hh))
    exact ⟨fun h' => c1 ((hav _).mp h'), by rw [hcurne _ (fun e => hn (Or.inr e))]; exact c2,
      fun h1 h2 => htk _ (c3 (by rw [← em.anc]; exact h1) (by rw [← em.kept]; exact h2))⟩
  · intro m hm
    rw [em.marked] at hm
    obtain ⟨m1, m2, m3, m4⟩ := gi.marks m hm
    exact ⟨by rw [em.anc]; exact m1, by rw [em.kept]; exact m2, fun h' => m3 ((hav _).mp h'),
      fun hn => htk _ (m4 (fun hh => hn (Or.inl hh)))⟩
  · intro x hx hxc
    exact ⟨fun h' => hx.nav ((hav x).mp h'), hx.av0, by rw [em.qmap]; exact hx.nn, by rw [em.expq]; exact hx.nc,
      hur' x hx.unread hxc, by rw [em.marked]; exact hx.nm⟩
  · intro a h1 h2 _ h4
    exact Or.inl ⟨by rw [← em.anc]; exact h1, by rw [← em.free]; exact h2, by rw [← em.marked]; exact h4⟩
  · intro q h1 h2; rw [em.nq] at h2; exact absurd h2 (by omega)
  · intro q h; rw [em.free] at h; exact h

theorem gate_g {H : Nat → Prop} {cls : GClass} {cs : List Nat} {t : Nat} {u : Unit} {s s' : CState}
    (h : (append cls (cs ++ [t])).run s = .ok (u, s')) (gi : GIh Kn ρ σ0 s0 H s)
    (hc : cls.isMCXLike = true) (hnop : cls.isNop = false)
    (hcs : ∀ c ∈ cs, ¬ Avail s c) (ht0 : Avail s0 t) (ht : ¬ Avail s t)
    (hur : Unread s0 s t) (hnn : ∀ n, Kn n → dictGet? s.qc.qmap n ≠ some t) :
    GIh Kn ρ σ0 s0 (fun q => H q ∨ q = t) s' ∧ Fr Kn σ0 s0 s s' (· = t) NoN (· ∈ cs) ∧ TgtL s0 s' t ∧
      Appended cls (cs ++ [t]) s s' ∧ t ∉ cs ∧ Unread s0 s' t := by
  obtain ⟨gi', fr, tg, ur, hn⟩ := emit_g (append_emit h hnop) gi (List.cons_ne_nil _ _)
    (List.forall_mem_singleton.mpr ⟨hc, cs, rfl, fun c hm => ⟨hcs c hm, hm⟩⟩) ht0 ht hur hnn
  exact ⟨gi', fr, tg, append_run h, by simpa using hn _ List.mem_cons_self, ur⟩

/-- `emit_g` on a target the caller owns: no cache entry sits on it, so the hole is closed again -/
theorem emitP {Cs : Nat → Prop} {gs : List AGate} {t : Nat} {s s' : CState}
    (em : Emit gs s s') (gi : GI Kn ρ σ0 s0 s) (hne : gs ≠ [])
    (hgs : ∀ g ∈ gs, g.cls.isMCXLike = true ∧ ∃ cs, g.wires = cs ++ [t] ∧ ∀ c ∈ cs, ¬ Avail s c ∧ Cs c)
    (pd : PrivD Kn s0 s t) :
    GI Kn ρ σ0 s0 s' ∧ Fr Kn σ0 s0 s s' (· = t) NoN Cs ∧ PrivD Kn s0 s' t ∧ TgtL s0 s' t ∧
      ∀ g ∈ gs, t ∉ g.wires.dropLast := by
  obtain ⟨gi', fr, tg, ur, hn⟩ := emit_g em gi hne hgs pd.av0 pd.nav pd.unread pd.nn
  exact ⟨(gi'.close' (by rw [em.expq]; exact pd.nc) tg).monoH (fun _ hh => hh.1), fr,
    ⟨fun h => pd.nav ((Avail.congr em.free em.nq t).mp h), pd.av0, by rw [em.qmap]; exact pd.nn,
      by rw [em.expq]; exact pd.nc, ur, by rw [em.marked]; exact pd.nm⟩, tg, hn⟩

theorem gateP {cls : GClass} {cs : List Nat} {t : Nat} {u : Unit} {s s' : CState}
    (h : (append cls (cs ++ [t])).run s = .ok (u, s')) (gi : GI Kn ρ σ0 s0 s)
    (hc : cls.isMCXLike = true) (hnop : cls.isNop = false)
    (hcs : ∀ c ∈ cs, ¬ Avail s c) (hp : PrivD Kn s0 s t) :
    GI Kn ρ σ0 s0 s' ∧ Fr Kn σ0 s0 s s' (· = t) NoN (· ∈ cs) ∧ PrivD Kn s0 s' t ∧ TgtL s0 s' t ∧
      Appended cls (cs ++ [t]) s s' ∧ t ∉ cs := by
  obtain ⟨gi', fr, pd, tg, hn⟩ := emitP (append_emit h hnop) gi (List.cons_ne_nil _ _)
    (List.forall_mem_singleton.mpr ⟨hc, cs, rfl, fun c hm => ⟨hcs c hm, hm⟩⟩) hp
  exact ⟨gi', fr, pd, tg, append_run h, by simpa using hn _ List.mem_cons_self⟩

theorem GIh.of_quiet {H H' : Nat → Prop} {s s' : CState} (gi : GIh Kn ρ σ0 s0 H s) (hg : Good s')
    (hgt : s'.qc.gates = s.qc.gates) (hgc : s'.qc.gatesComputed = s.qc.gatesComputed)
    (hn : s'.qc.numQubits = s.qc.numQubits) (hf : s'.qc.free = s.qc.free) (ha : s'.qc.anc = s.qc.anc)
    (hq : s'.qc.qmap = s.qc.qmap) (hk : s'.qc.kept = s.qc.kept)
    (hm : ∀ m ∈ s'.qc.marked, m ∈ s.qc.marked ∨
      (m ∈ s.qc.anc ∧ m ∉ s.qc.kept ∧ ¬ Avail s m ∧ (¬ H' m → TgtL s0 s m)))
    (hmH : ∀ m ∈ s.qc.marked, ¬ H' m → H m → TgtL s0 s m)
    (hc : ∀ p ∈ s'.expq, ¬ H' p.2 → ¬ Avail s p.2 ∧ cur σ0 s p.2 = p.1.eval ρ ∧
      (p.2 ∈ s.qc.anc → p.2 ∉ s.qc.kept → TgtL s0 s p.2)) :
    GIh Kn ρ σ0 s0 H' s' := by
  have hav : ∀ q, Avail s' q ↔ Avail s q := Avail.congr hf hn
  have hcur : cur σ0 s' = cur σ0 s := cur_congr hgt
  have hL : Lof s0 s' = Lof s0 s := Lof_congr hgt
  refine ⟨hg, by rw [hgt, hL]; exact gi.gates, by rw [hgc, hL]; exact gi.comp, ?_, ?_, ?_, by rw [hn]; exact gi.nq,
    fun q h => gi.avail q ((hav q).mp h), hk.trans gi.kept, fun q h => by rw [hcur]; exact gi.zero q ((hav q).mp h),
    ?_, gi.knOK, ?_, by rw [hf]; exact gi.freeNd, by rw [hf, ha]; exact gi.freeAnc,
    by rw [hf, hk]; exact gi.keptNF, ?_, by rw [ha, hk]; exact gi.ancOld⟩
  · intro g hg'; rw [hL] at hg'
    exact ⟨(gi.tgt g hg').1, fun h => (gi.tgt g hg').2 ((hav _).mp h)⟩
  · intro g hg' c hc'; rw [hL] at hg'
    exact fun h => gi.ctl g hg' c hc' ((hav _).mp h)
  · rw [hL, hcur]
    exact gi.ben
  · intro n q hkn hq'
    rw [hq] at hq'
    obtain ⟨t1, t2, t3⟩ := gi.names n q hkn hq'
    exact ⟨by rw [hf]; exact t1, by rw [ha]; exact t2, by rw [hcur]; exact t3⟩
  · intro p hp hn'
    obtain ⟨c1, c2, c3⟩ := hc p hp hn'
    exact ⟨fun h => c1 ((hav _).mp h), by rw [hcur]; exact c2,
      fun h1 h2 => by unfold TgtL; rw [hL]; exact c3 (by rw [← ha]; exact h1) (by rw [← hk]; exact h2)⟩
  · intro m hm'
    rcases hm m hm' with h | ⟨h1, h2, h3, h4⟩
    · obtain ⟨m1, m2, m3, m4⟩ := gi.marks m h
      refine ⟨by rw [ha]; exact m1, by rw [hk]; exact m2, fun h' => m3 ((hav _).mp h'), fun hn => ?_⟩
      unfold TgtL; rw [hL]
      by_cases hH : H m
      · exact hmH m h hn hH
      · exact m4 hH
    · exact ⟨by rw [ha]; exact h1, by rw [hk]; exact h2, fun h' => h3 ((hav _).mp h'),
        fun hn => by unfold TgtL; rw [hL]; exact h4 hn⟩

theorem Fr.of_quiet {C : Nat → Prop} {s s' : CState}
    (hgt : s'.qc.gates = s.qc.gates)
    (hn : s'.qc.numQubits = s.qc.numQubits) (hf : s'.qc.free = s.qc.free) (ha : s'.qc.anc = s.qc.anc)
    (hq : s'.qc.qmap = s.qc.qmap) (hk : s'.qc.kept = s.qc.kept)
    (hm : ∀ m ∈ s'.qc.marked, m ∈ s.qc.marked ∨ C m)
    (hmk : ∀ m ∈ s.qc.marked, m ∈ s'.qc.marked)
    (hc : ∀ p ∈ s'.expq, p ∈ s.expq ∨ C p.2) :
    Fr Kn σ0 s0 s s' NoN NoN C := by
  have hav : ∀ q, Avail s' q ↔ Avail s q := Avail.congr hf hn
  have hL : Lof s0 s' = Lof s0 s := Lof_congr hgt
  refine ⟨Nat.le_of_eq hn.symm, fun q h => (hav q).mp h, hmk, fun a h => by rw [ha]; exact h,
    fun a h => Or.inl (by rw [← ha]; exact h),
    fun q h => by unfold TgtL; rw [hL]; exact h, hk, fun q _ _ => by rw [cur_congr hgt], ?_, ?_,
    fun q h1 h2 => absurd h2 (by rw [hn]; omega), fun q h => by rw [hf] at h; exact h⟩
  · intro x hx hcx
    refine ⟨fun h => hx.nav ((hav x).mp h), hx.av0, by rw [hq]; exact hx.nn, ?_, by unfold Unread; rw [hL]; exact hx.unread,
      fun h => (hm x h).elim hx.nm hcx⟩
    intro p hp e
    rcases hc p hp with h | h
    · exact hx.nc p h e
    · exact hcx (e ▸ h)
  · intro a h1 h2 _ h4
    exact Or.inl ⟨by rw [← ha]; exact h1, by rw [← hf]; exact h2, fun h => h4 (hmk a h)⟩

theorem event_gi {H : Nat → Prop} {e : String} {u : Unit} {s s' : CState} (h : (event e).run s = .ok (u, s'))
    (gi : GIh Kn ρ σ0 s0 H s) : GIh Kn ρ σ0 s0 H s' ∧ Fr Kn σ0 s0 s s' NoN NoN NoN ∧ cur σ0 s' = cur σ0 s := by
  have := event_run h; subst this
  exact ⟨gi.of_quiet (gi.good.of_eq rfl rfl rfl rfl rfl rfl rfl rfl rfl) rfl rfl rfl rfl rfl rfl rfl
      (fun m hm => Or.inl hm) (fun _ _ hn hh => absurd hh hn) (fun p hp hn => gi.cache p hp hn),
    Fr.of_quiet rfl rfl rfl rfl rfl rfl (fun m hm => Or.inl hm) (fun m hm => hm) (fun p hp => Or.inl hp), rfl⟩

theorem markAll_gi {H : Nat → Prop} {ws : List Nat} {u : Unit} {s s' : CState}
    (h : (markAll ws).run s = .ok (u, s')) (gi : GIh Kn ρ σ0 s0 H s)
    (hws : ∀ w ∈ ws, ¬ Avail s w ∧ (w ∈ s.qc.anc → w ∉ s.qc.kept → ¬ H w → TgtL s0 s w)) :
    GIh Kn ρ σ0 s0 H s' ∧ Fr Kn σ0 s0 s s' NoN NoN (· ∈ ws) ∧ cur σ0 s' = cur σ0 s ∧
      (∀ m ∈ ws, m ∈ s.qc.anc → m ∉ s.qc.kept → m ∈ s'.qc.marked) ∧ s'.qc.anc = s.qc.anc ∧ s'.expq = s.expq ∧
      s'.qc.free = s.qc.free ∧ s'.qc.numQubits = s.qc.numQubits := by
  have hg : Good s' := (markAll_ok (B := fun _ => False) ws h gi.good).good
  obtain ⟨M, rfl, hM⟩ := markAll_eff ws h
  refine ⟨gi.of_quiet hg rfl rfl rfl rfl rfl rfl rfl ?_ (fun _ _ hn hh => absurd hh hn) (fun p hp hn => gi.cache p hp hn),
    Fr.of_quiet rfl rfl rfl rfl rfl rfl (fun m hm => ((hM m).mp hm).imp id (fun x => x.1))
      (fun m hm => (hM m).mpr (Or.inl hm)) (fun p hp => Or.inl hp), rfl,
    fun m hm ha hk => (hM m).mpr (Or.inr ⟨hm, ha, hk⟩), rfl, rfl, rfl, rfl⟩
  intro m hm
  rcases (hM m).mp hm with h' | ⟨h1, h2, h3⟩
  · exact Or.inl h'
  · exact Or.inr ⟨h2, h3, (hws m h1).1, (hws m h1).2 h2 h3⟩

theorem markAncilla_gi {H : Nat → Prop} {w : Nat} {u : Unit} {s s' : CState}
    (h : (markAncilla w).run s = .ok (u, s')) (gi : GIh Kn ρ σ0 s0 H s)
    (hw : ¬ Avail s w ∧ (w ∈ s.qc.anc → w ∉ s.qc.kept → ¬ H w → TgtL s0 s w)) :
    GIh Kn ρ σ0 s0 H s' ∧ Fr Kn σ0 s0 s s' NoN NoN (· = w) ∧ cur σ0 s' = cur σ0 s ∧
      (w ∈ s.qc.anc → w ∉ s.qc.kept → w ∈ s'.qc.marked) ∧ s'.qc.anc = s.qc.anc ∧ s'.expq = s.expq ∧
      s'.qc.free = s.qc.free ∧ s'.qc.numQubits = s.qc.numQubits := by
  obtain ⟨gi', fr, hc, hm, ha, he, hf, hn⟩ := markAll_gi (markAll_single w ▸ h) gi (List.forall_mem_singleton.mpr hw)
  exact ⟨gi', fr.mono (fun _ _ hh => hh) (fun _ hh _ _ _ => hh) (fun _ _ hh => by simpa using hh), hc,
    fun h1 h2 => hm w (by simp) h1 h2, ha, he, hf, hn⟩

theorem expqSet_gi {H : Nat → Prop} {e : BExp} {q : Nat} {u : Unit} {s s' : CState}
    (h : (expqSet e q).run s = .ok (u, s')) (gi : GIh Kn ρ σ0 s0 (fun x => H x ∨ x = q) s)
    (hq : ¬ Avail s q) (hv : cur σ0 s q = e.eval ρ) (ht : q ∈ s.qc.anc → q ∉ s.qc.kept → TgtL s0 s q) :
    GIh Kn ρ σ0 s0 H s' ∧ Fr Kn σ0 s0 s s' NoN NoN (· = q) ∧ cur σ0 s' = cur σ0 s ∧ s'.qc = s.qc := by
  obtain ⟨hqc, hk⟩ := expqSet_run h
  have hg : Good s' := (expqSet_ok (B := fun _ => False) h gi.good (notAvail_lt hq)).good
  have hcur : cur σ0 s' = cur σ0 s := by unfold cur; rw [hqc]
  refine ⟨gi.of_quiet hg (by rw [hqc]) (by rw [hqc]) (by rw [hqc]) (by rw [hqc]) (by rw [hqc]) (by rw [hqc])
      (by rw [hqc]) (fun m hm => Or.inl (by rw [← hqc]; exact hm)) ?_ ?_,
    Fr.of_quiet (by rw [hqc]) (by rw [hqc]) (by rw [hqc]) (by rw [hqc]) (by rw [hqc]) (by rw [hqc])
      (fun m hm => Or.inl (by rw [← hqc]; exact hm)) (fun m hm => by rw [hqc]; exact hm)
      (fun p hp => (hk p hp).elim (fun x => Or.inl x.1) (fun x => Or.inr (by rw [x]))), hcur, hqc⟩
  · intro m hm hn hh
    rcases hh with hh | hh
    · exact absurd hh hn
    · obtain ⟨m1, m2, _, _⟩ := gi.marks m hm
      exact hh ▸ ht (hh ▸ m1) (hh ▸ m2)
  · intro p hp hn
    rcases hk p hp with ⟨h1, h2⟩ | rfl
    · exact gi.cache p h1 (fun hh => hh.elim hn h2)
    · exact ⟨hq, hv, ht⟩

theorem Alloc.gi {a : Nat} {s s' : CState} (al : Alloc Kn s s' a) (gi : GI Kn ρ σ0 s0 s) :
    GI Kn ρ σ0 s0 s' ∧ Fr Kn σ0 s0 s s' NoN (· = a) NoN (fun q => q = a ∧ a ∉ s'.qc.anc) ∧
      PrivD Kn s0 s' a ∧ a ∉ s'.qc.kept := by
  have hcur : cur σ0 s' = cur σ0 s := cur_congr al.gates
  have hL : Lof s0 s' = Lof s0 s := Lof_congr al.gates
  have hqm : ∀ n q, Kn n → dictGet? s'.qc.qmap n = some q → dictGet? s.qc.qmap n = some q :=
    fun n q hk hq => al.qmap n hk ▸ hq
  have hakept : a ∉ s.qc.kept := by
    intro hk
    rcases al.was with h' | h'
    · exact gi.keptNF a hk h'
    · exact absurd (gi.good.kept_lt a hk) (by omega)
  have htk : ∀ q, TgtL s0 s q → TgtL s0 s' q := fun q h' => by unfold TgtL; rw [hL]; exact h'
  have hnc : ∀ p ∈ s.expq, p.2 ≠ a := fun p hp e => (gi.cache p hp (fun hh => hh)).1 (e ▸ al.was)
  refine ⟨⟨al.good, by rw [al.gates, hL]; exact gi.gates, by rw [al.comp, hL]; exact gi.comp, ?_, ?_, ?_,
      Nat.le_trans gi.nq al.nq, fun q h' => gi.avail q (al.avail q h'), al.kept.trans gi.kept,
      fun q h' => by rw [hcur]; exact gi.zero q (al.avail q h'), ?_, gi.knOK, ?_, al.freeNd, ?_, ?_, ?_, ?_⟩,
    ⟨al.nq, al.avail, fun m hm => by rw [al.marked]; exact hm, al.anck,
      fun x hx => (al.ancs x hx).imp id (fun (e : x = a) => e ▸ al.was), htk, al.kept, fun q _ _ => by rw [hcur], ?_, ?_,
      fun q h1 h2 => (Classical.em (a ∈ s'.qc.anc)).imp (fun h' => al.new q h1 h2 ▸ h') (fun h' => ⟨al.new q h1 h2, h'⟩),
      fun q h' => (al.free q h').1⟩,
    ⟨al.now, gi.avail a al.was, ?_, by rw [al.expq]; exact hnc, ?_, ?_⟩, by rw [al.kept]; exact hakept⟩
  · intro g hg; rw [hL] at hg
    exact ⟨(gi.tgt g hg).1, fun h' => (gi.tgt g hg).2 (al.avail _ h')⟩
  · intro g hg c hc; rw [hL] at hg
    exact fun h' => gi.ctl g hg c hc (al.avail _ h')
  · rw [hL, hcur]; exact gi.ben
  · intro n q hk hq
    obtain ⟨t1, t2, t3⟩ := gi.names n q hk (hqm n q hk hq)
    refine ⟨fun h' => t1 (al.free q h').1, fun h' => ?_, by rw [hcur]; exact t3⟩
    rcases al.ancs q h' with h'' | h''
    · exact t2 h''
    · -- the qubit of a known name is in use, `a` was in the scratch space
      exact gi.good.qmap_notAvail (hqm n q hk hq) t1 (h'' ▸ al.was)
  · intro p hp _
    rw [al.expq] at hp
    obtain ⟨c1, c2, c3⟩ := gi.cache p hp (fun hh => hh)
    refine ⟨fun h' => c1 (al.avail _ h'), by rw [hcur]; exact c2, fun h1 h2 => htk _ (c3 ?_ (by rw [← al.kept]; exact h2))⟩
    rcases al.ancs _ h1 with h'' | h''
    · exact h''
    · exact absurd (h'' ▸ al.was) c1
  · intro q hq
    exact al.anck q (gi.freeAnc q (al.free q hq).1)
  · intro k hk hf
    rw [al.kept] at hk
    exact gi.keptNF k hk (al.free k hf).1
  · intro m hm
    rw [al.marked] at hm
    obtain ⟨m1, m2, m3, m4⟩ := gi.marks m hm
    exact ⟨al.anck m m1, by rw [al.kept]; exact m2, fun h' => m3 (al.avail _ h'), fun hn => htk _ (m4 hn)⟩
  · intro x hx
    rw [al.kept]
    rcases al.ancs x hx with h' | h'
    · exact gi.ancOld x h'
    · exact Or.inr (h' ▸ gi.avail a al.was)
  · intro x hx _
    refine ⟨fun h' => hx.nav (al.avail x h'), hx.av0, fun n hk hq => hx.nn n hk (hqm n x hk hq),
      by rw [al.expq]; exact hx.nc, by unfold Unread; rw [hL]; exact hx.unread, by rw [al.marked]; exact hx.nm⟩
  · intro x h1 h2 _ h4
    rcases al.ancs x h1 with h' | h'
    · by_cases hxa : x = a
      · exact Or.inr hxa
      · exact Or.inl ⟨h', fun hf => h2 (al.freek x hf hxa), by rw [← al.marked]; exact h4⟩
    · exact Or.inr h'
  · intro n hk hq
    have hq0 := hqm n a hk hq
    exact gi.good.qmap_notAvail hq0 (gi.names n a hk hq0).1 al.was
  · intro g hg hc
    rw [hL] at hg
    exact gi.ctl g hg a hc al.was
  · rw [al.marked]
    exact fun hm => (gi.marks a hm).2.2.1 al.was

theorem getFreeAncilla_gi {a : Nat} {s s' : CState}
    (h : getFreeAncilla.run s = .ok (a, s')) (gi : GI Kn ρ σ0 s0 s) :
    GI Kn ρ σ0 s0 s' ∧ Fr Kn σ0 s0 s s' NoN (· = a) NoN ∧ cur σ0 s' = cur σ0 s ∧ Avail s a ∧
      PrivD Kn s0 s' a ∧ a ∈ s'.qc.anc ∧ a ∉ s'.qc.kept := by
  obtain ⟨al, ha⟩ := getFreeAncilla_alloc h gi.good gi.knOK gi.freeNd gi.freeAnc
  obtain ⟨g, fr, pd, hk⟩ := al.gi (ρ := ρ) (σ0 := σ0) gi
  exact ⟨g, fr.mono (fun _ _ hh => hh) (fun _ hh _ _ _ => hh) (fun _ _ hh => hh) (fun _ hh => hh.2 ha),
    cur_congr al.gates, al.was, pd, ha, hk⟩

/-! `ExprG` / `ArgsG` / `XorG` make NO hypothesis on the contents of the expression cache: step 3 of
`compile_expr` (the expression is cached) is a case like the others (`cacheHit_g`). -/

/-- the result `a` of a call without destination.  `miss` / `fresh` are what the in-place `Not` rests on: a compound
`e` that was not cached in `s` ends on a qubit from the scratch space of `s`, and such a qubit has been neither read
nor marked. -/
structure ResG (Kn : String → Prop) (ρ : Env) (σ0 : FState) (s0 s s' : CState) (e : BExp) (a : Nat) : Prop where
  nav : ¬ Avail s' a
  val : cur σ0 s' a = e.eval ρ
  tgt : a ∈ s'.qc.anc → a ∉ s'.qc.kept → TgtL s0 s' a
  fresh : Avail s a → Unread s0 s' a ∧ a ∉ s'.qc.marked
  miss : isLeaf e = false → (∀ p ∈ s.expq, (p.1 == e) = false) → Avail s a
  np : ∀ x, PrivD Kn s0 s x → a ≠ x
  leaf : isLeaf e = true → a ∉ s'.qc.anc

/-- the frame: only a destination is written, only the result may be left an unmarked ancilla in use, `E` bounds
the non-ancilla qubits allocated -/
abbrev PostG (Kn : String → Prop) (ρ : Env) (σ0 : FState) (s0 : CState) (E : Nat → Prop) (e : BExp)
    (dest : Option Nat) (s s' : CState) (a : Nat) : Prop :=
  GI Kn ρ σ0 s0 s' ∧ Fr Kn σ0 s0 s s' (fun q => dest = some q) (· = a) NoN E ∧
  (dest = none → ResG Kn ρ σ0 s0 s s' e a) ∧
  (∀ d, dest = some d → a = d ∧ cur σ0 s' d = Bool.xor (cur σ0 s d) (e.eval ρ) ∧ TgtL s0 s' d)

/-- a leaf gets no destination and no `sym`, for the reason given at `ExprSem` -/
def ExprG (Kn : String → Prop) (ρ : Env) (σ0 : FState) (s0 : CState) (e : BExp) : Prop :=
  ∀ (dest : Option Nat) (sym : Option String) {a : Nat} {s s' : CState},
    (compileExpr e dest sym).run s = .ok (a, s') → GI Kn ρ σ0 s0 s →
    (∀ d, dest = some d → PrivD Kn s0 s d) →
    (isLeaf e = true → dest = none ∧ sym = none) →
    (∀ x, sym = some x → selfNot x e = false) →
    PostG Kn ρ σ0 s0 (fun _ => hasConst e = true) e dest s s' a

def ArgsG (Kn : String → Prop) (ρ : Env) (σ0 : FState) (s0 : CState) (as : List BExp) : Prop :=
  ∀ {rs : List Nat} {s s' : CState}, (compileArgs as).run s = .ok (rs, s') → GI Kn ρ σ0 s0 s →
    GI Kn ρ σ0 s0 s' ∧ Fr Kn σ0 s0 s s' NoN (· ∈ rs) NoN (fun _ => hasConstList as = true) ∧
    rs.map (cur σ0 s') = as.map (BExp.eval ρ) ∧
    (∀ q ∈ rs, ¬ Avail s' q ∧ (q ∈ s'.qc.anc → q ∉ s'.qc.kept → TgtL s0 s' q) ∧
      ∀ x, PrivD Kn s0 s x → q ≠ x)

def XorG (Kn : String → Prop) (ρ : Env) (σ0 : FState) (s0 : CState) (as : List BExp) : Prop :=
  ∀ (d : Nat) {a : Nat} {s s' : CState}, (compileXorArgs as d).run s = .ok (a, s') → GI Kn ρ σ0 s0 s →
    PrivD Kn s0 s d →
    a = d ∧ GI Kn ρ σ0 s0 s' ∧ Fr Kn σ0 s0 s s' (· = d) (· = d) NoN (fun _ => hasConstList as = true) ∧
      cur σ0 s' d = Bool.xor (cur σ0 s d) (evalXor ρ as) ∧ (as ≠ [] → TgtL s0 s' d)

theorem GIh.name_nav {H : Nat → Prop} {s : CState} (gi : GIh Kn ρ σ0 s0 H s) {n : String} {q : Nat}
    (hk : Kn n) (hq : dictGet? s.qc.qmap n = some q) : ¬ Avail s q :=
  gi.good.qmap_notAvail hq (gi.names n q hk hq).1

theorem Unread.congr {s s' : CState} {x : Nat} (h : s'.qc.gates = s.qc.gates) (hu : Unread s0 s x) :
    Unread s0 s' x := by
  unfold Unread; rw [Lof_congr h]; exact hu

theorem cacheHit_g {E : Nat → Prop} {e : BExp} {q : Nat} {dest : Option Nat} {a : Nat} {s s' : CState}
    (h : (cacheHit q dest).run s = .ok (a, s')) (gi : GI Kn ρ σ0 s0 s)
    (hd : ∀ d, dest = some d → PrivD Kn s0 s d)
    (hp : ∃ p ∈ s.expq, (p.1 == e) = true ∧ p.2 = q) (hnl : isLeaf e = false) :
    PostG Kn ρ σ0 s0 E e dest s s' a := by
  obtain ⟨p, hpm, hpe, rfl⟩ := hp
  have hpe' : p.1 = e := BExp.eq_of_beq hpe
  obtain ⟨c1, c2, c3⟩ := gi.cache p hpm (fun hh => hh)
  unfold cacheHit at h
  obtain ⟨u, s1, hev, h1⟩ := run_bind_ok.mp h
  obtain ⟨gi1, fr1, hc1⟩ := event_gi hev gi
  have hs1 := event_run hev
  have hqc1 : s1.qc = s.qc := by rw [hs1]
  have hex1 : s1.expq = s.expq := by rw [hs1]
  have hav1 : ∀ x, Avail s1 x ↔ Avail s x := Avail.congr (by rw [hqc1]) (by rw [hqc1])
  cases dest with
  | none =>
    obtain ⟨rfl, rfl⟩ := run_pure_ok.mp h1
    refine ⟨gi1, fr1.mono (fun _ _ hh => hh.elim) (fun _ hh _ _ _ => hh.elim) (fun _ _ hh => hh) (fun _ hh => hh.elim),
      fun _ => ⟨fun hh => c1 ((hav1 _).mp hh), by rw [hc1, c2, hpe'],
        fun h1' h2' => fr1.tkeep _ (c3 (by rw [← hqc1]; exact h1') (by rw [← hqc1]; exact h2')),
        fun hh => absurd hh c1, fun _ hm => (by rw [hm p hpm] at hpe; cases hpe),
        fun x hx e' => hx.nc p hpm e', fun hl => (by rw [hnl] at hl; cases hl)⟩, fun d hd' => (by cases hd')⟩
  | some d =>
    have hdp := hd d rfl
    have hne : d ≠ p.2 := fun e' => hdp.nc p hpm e'.symm
    dsimp only at h1
    rw [if_pos (by simpa using hne)] at h1
    obtain ⟨u2, s2, hcx, h2⟩ := run_bind_ok.mp h1
    obtain ⟨rfl, rfl⟩ := run_pure_ok.mp h2
    obtain ⟨gi2, fr2, _, tg2, ha2, _⟩ := gateP (cs := [p.2]) (t := a) hcx gi1 rfl rfl
      (List.forall_mem_singleton.mpr (fun hh => c1 ((hav1 _).mp hh)))
      (fr1.priv a hdp (fun hh => hh))
    refine ⟨gi2, ((Fr.refl s).seq fr1).seq fr2 (hd := fun _ _ e => e ▸ rfl)
        (hc := fun x hx hh => hx.nc p hpm (List.mem_singleton.mp hh).symm),
      fun hn => (by cases hn), fun d' hd' => ?_⟩
    · cases hd'
      refine ⟨rfl, ?_, tg2⟩
      rw [ha2.cur_eq rfl σ0, hc1]
      simp only [List.all_cons, List.all_nil, Bool.and_true]
      rw [c2, hpe']

theorem expqGet?_hit {e : BExp} {q : Nat} {s s' : CState} (h : (expqGet? e).run s = .ok (some q, s')) :
    s' = s ∧ ∃ p ∈ s.expq, (p.1 == e) = true ∧ p.2 = q := by
  obtain ⟨rfl, hr⟩ := expqGet?_run h
  refine ⟨rfl, ?_⟩
  cases hf : s'.expq.find? (·.1 == e) with
  | none => rw [hf] at hr; cases hr
  | some p =>
    rw [hf] at hr
    exact ⟨p, List.mem_of_find?_eq_some hf, by simpa using List.find?_some hf, by simpa using hr.symm⟩

theorem expqGet?_none {e : BExp} {s s' : CState} (h : (expqGet? e).run s = .ok (none, s')) :
    s' = s ∧ ∀ p ∈ s.expq, (p.1 == e) = false := by
  obtain ⟨rfl, hr⟩ := expqGet?_run h
  refine ⟨rfl, fun p hp => ?_⟩
  cases hf : s'.expq.find? (·.1 == e) with
  | none =>
    have := List.find?_eq_none.mp hf p hp
    simpa using this
  | some p0 => rw [hf] at hr; cases hr

theorem cached_g {E : Nat → Prop} {e : BExp} {dest : Option Nat} {body : M Nat} {a : Nat} {s s' : CState}
    (h : (cachedM e dest body).run s = .ok (a, s')) (gi : GI Kn ρ σ0 s0 s)
    (hd : ∀ d, dest = some d → PrivD Kn s0 s d) (hnl : isLeaf e = false) :
    PostG Kn ρ σ0 s0 E e dest s s' a ∨ body.run s = .ok (a, s') := by
  obtain ⟨r, s1, hget, h1⟩ := run_bind_ok.mp h
  cases r with
  | some q =>
    obtain ⟨rfl, hp⟩ := expqGet?_hit hget
    exact Or.inl (cacheHit_g h1 gi hd hp hnl)
  | none =>
    obtain ⟨rfl, _⟩ := expqGet?_none hget
    exact Or.inr h1

theorem ResG.of_name {e : BExp} {n : String} {a : Nat} {s : CState} (gi : GI Kn ρ σ0 s0 s) (hk : Kn n)
    (hq : dictGet? s.qc.qmap n = some a) (hv : kval ρ n = e.eval ρ) (hl : isLeaf e = true) :
    ResG Kn ρ σ0 s0 s s e a :=
  have t := gi.names n a hk hq
  ⟨gi.name_nav hk hq, by rw [t.2.2, hv], fun h' => absurd h' t.2.1, fun h' => absurd h' (gi.name_nav hk hq),
    fun h' => (by rw [hl] at h'; cases h'), fun x hx e' => hx.nn n hk (e' ▸ hq), fun _ => t.2.1⟩

theorem exprG_sym (n : String) (hk : Kn n) (hkv : kval ρ n = ρ n) : ExprG Kn ρ σ0 s0 (.sym n) := by
  intro dest sym a s s' h gi _ hleaf _
  obtain ⟨rfl, rfl⟩ := hleaf rfl
  unfold compileExpr at h
  obtain ⟨rfl, hq⟩ := compileSymbol_none_run h
  exact ⟨gi, Fr.refl _, fun _ => .of_name gi hk hq hkv rfl, fun d hd => (by cases hd)⟩

theorem addQubit_gi {name : String} {a : Nat} {s s' : CState}
    (h : (addQubit name).run s = .ok (a, s')) (gi : GI Kn ρ σ0 s0 s) (hne : ∀ n, Kn n → n ≠ name) :
    GI Kn ρ σ0 s0 s' ∧ Fr Kn σ0 s0 s s' NoN NoN NoN (· = a) ∧ cur σ0 s' = cur σ0 s ∧
      PrivD Kn s0 s' a ∧ Avail s a ∧ dictGet? s'.qc.qmap name = some a ∧ a ∉ s'.qc.anc ∧ a ∉ s'.qc.free := by
  have hg' : Good s' := (addQubit_ok (B := fun _ => True) h gi.good (Or.inl trivial)).1.good
  obtain ⟨ha, hs'⟩ := addQubit_run h
  have hgt : s'.qc.gates = s.qc.gates := by rw [hs']
  have hn : s'.qc.numQubits = s.qc.numQubits + 1 := by rw [hs']
  have hf : s'.qc.free = s.qc.free := by rw [hs']
  have hanc : s'.qc.anc = s.qc.anc := by rw [hs']
  have hqm0 : s'.qc.qmap = dictSet s.qc.qmap name s.qc.numQubits := by rw [hs']
  have hna : a ∉ s'.qc.anc := by
    rw [hanc, ha]; exact fun h' => absurd (gi.good.anc_lt _ h') (Nat.lt_irrefl _)
  have hnf : a ∉ s.qc.free := by
    rw [ha]; exact fun h' => absurd (gi.good.free_lt _ h') (Nat.lt_irrefl _)
  have al : Alloc Kn s s' a := by
    refine ⟨hg', by rw [hs'], hgt, by rw [hs'], by rw [hs'], by rw [hs'], Or.inr (by rw [ha]; exact Nat.le_refl _),
      ?_, ?_, by omega, fun x hx => Or.inl (by rw [← hanc]; exact hx), fun x hx => by rw [hanc]; exact hx,
      fun x hx => ?_, fun x hx _ => by rw [hf]; exact hx, by rw [hf]; exact gi.freeNd, ?_,
      (addQubit_semK (Kn := Kn) (σ0 := σ0) (wo := true) (Q := fun _ _ => True) h (fun n _ hk _ => hne n hk)).2.1.qnew,
      fun q h1 h2 => by omega⟩
    · unfold Avail; rw [hf, hn]
      rintro (h' | h')
      · exact hnf h'
      · omega
    · intro q hq
      unfold Avail at hq ⊢
      rw [hf, hn] at hq
      exact hq.imp id (fun h' => by omega)
    · rw [hf] at hx
      exact ⟨hx, fun e => hnf (e ▸ hx)⟩
    · intro n hk
      rw [hqm0, dictGet?_dictSet_ne (hne n hk)]
  obtain ⟨g, fr, pd, _⟩ := al.gi (ρ := ρ) (σ0 := σ0) gi
  exact ⟨g, fr.mono (fun _ _ hh => hh) (fun _ hh h1 _ _ => absurd (hh ▸ h1) hna) (fun _ _ hh => hh)
      (fun _ hh => hh.1), cur_congr hgt, pd, al.was, by rw [hqm0, ha]; exact dictGet?_dictSet_self, hna,
    by rw [hf]; exact hnf⟩

theorem PrivD.monoKn {Kn' : String → Prop} {s : CState} {x : Nat} (h : PrivD Kn s0 s x) (hs : ∀ n, Kn' n → Kn n) :
    PrivD Kn' s0 s x :=
  ⟨h.nav, h.av0, fun n hk => h.nn n (hs n hk), h.nc, h.unread, h.nm⟩

theorem GIh.addName {H : Nat → Prop} {s : CState} {c : String} {a : Nat}
    (gi : GIh (fun n => Kn n ∧ n ≠ c) ρ σ0 s0 H s) (hok : ∀ n, Kn n → ancLike n = false)
    (hq : dictGet? s.qc.qmap c = some a) (hf : a ∉ s.qc.free) (hna : a ∉ s.qc.anc)
    (hv : cur σ0 s a = kval ρ c) : GIh Kn ρ σ0 s0 H s :=
  { gi with
    names := fun n q hk hq' => by
      by_cases hn : n = c
      · subst hn; rw [hq] at hq'; cases hq'; exact ⟨hf, hna, hv⟩
      · exact gi.names n q ⟨hk, hn⟩ hq'
    knOK := hok }

theorem Fr.addName {D R C E : Nat → Prop} {s s' : CState} {c : String} {a : Nat}
    (fr : Fr (fun n => Kn n ∧ n ≠ c) σ0 s0 s s' D R C E) (hq : dictGet? s'.qc.qmap c = some a)
    (hava : Avail s a) : Fr Kn σ0 s0 s s' D R C E :=
  ⟨fr.nq, fr.avail, fr.mkeep, fr.akeep, fr.anew, fr.tkeep, fr.kkeep, fr.val, fun x hx hc => by
    have hx' := fr.priv x (hx.monoKn (fun _ h => h.1)) hc
    refine ⟨hx'.nav, hx'.av0, fun n hk hq' => ?_, hx'.nc, hx'.unread, hx'.nm⟩
    by_cases hn : n = c
    · subst hn; rw [hq] at hq'; cases hq'; exact hx.nav hava
    · exact hx'.nn n ⟨hk, hn⟩ hq', fr.pend, fr.alloc, fr.fkeep⟩

/-- `ExprG` for a constant: the only qubit that may be allocated is the result (the constant's qubit, created on
first use) -/
def ExprGc (Kn : String → Prop) (ρ : Env) (σ0 : FState) (s0 : CState) (e : BExp) : Prop :=
  ∀ (dest : Option Nat) (sym : Option String) {a : Nat} {s s' : CState},
    (compileExpr e dest sym).run s = .ok (a, s') → GI Kn ρ σ0 s0 s →
    (∀ d, dest = some d → PrivD Kn s0 s d) →
    (isLeaf e = true → dest = none ∧ sym = none) →
    (∀ x, sym = some x → selfNot x e = false) →
    PostG Kn ρ σ0 s0 (· = a) e dest s s' a

theorem ExprGc.toG {e : BExp} (h : ExprGc Kn ρ σ0 s0 e) (hc : hasConst e = true) : ExprG Kn ρ σ0 s0 e := by
  intro dest sym a s s' hr gi hd hl hs
  obtain ⟨g, fr, r1, r2⟩ := h dest sym hr gi hd hl hs
  exact ⟨g, fr.mono (fun _ _ hh => hh) (fun _ hh _ _ _ => hh) (fun _ _ hh => hh) (fun _ _ => hc), r1, r2⟩

theorem exprGc_ff (hF : Kn "FALSE") : ExprGc Kn ρ σ0 s0 .ff := by
  intro dest sym a s s' h gi _ hleaf _
  obtain ⟨rfl, rfl⟩ := hleaf rfl
  unfold compileExpr constFalse at h
  obtain ⟨qc, s1, hq, h⟩ := run_bind_ok.mp h
  obtain ⟨rfl, rfl⟩ := getQC_run hq
  dsimp only at h
  split at h
  · next hnone =>
    have hnone' : dictGet? s1.qc.qmap "FALSE" = none := by simpa using hnone
    obtain ⟨u, s2, hd, hl⟩ := run_bind_ok.mp h
    obtain ⟨i, hadd⟩ := run_discard_ok.mp hd
    have gi' : GI (fun n => Kn n ∧ n ≠ "FALSE") ρ σ0 s0 s1 := gi.monoKn (fun n hn => hn.1)
    obtain ⟨gi2, fr2, hcur, hpr, hava, hqi, hna, hnf⟩ := addQubit_gi hadd gi' (fun n hn => hn.2)
    obtain ⟨rfl, hq', _⟩ := lookup_ok hl gi2.good
    have : a = i := by rw [hqi] at hq'; exact (Option.some.inj hq').symm
    subst this
    have hval : cur σ0 s' a = false := by rw [hcur]; exact gi.zero a hava
    exact ⟨gi2.addName gi.knOK hqi hnf hna (hval.trans kval_FALSE.symm), (fr2.addName hqi hava).mono
        (fun _ _ hh => hh.elim) (fun _ hh _ _ _ => hh.elim) (fun _ _ hh => hh) (fun _ hh => hh), fun _ =>
      ⟨hpr.nav, hval, fun h' => absurd h' hna, fun _ => ⟨hpr.unread, hpr.nm⟩, fun h' => (by cases h'),
        fun x hx e' => hx.nav (e' ▸ hava), fun _ => hna⟩, fun d hd' => (by cases hd')⟩
  · obtain ⟨rfl, hq', _⟩ := lookup_ok h gi.good
    exact ⟨gi, Fr.refl _, fun _ => .of_name gi hF hq' kval_FALSE rfl, fun d hd => (by cases hd)⟩

theorem exprGc_tt (hT : Kn "TRUE") : ExprGc Kn ρ σ0 s0 .tt := by
  intro dest sym a s s' h gi _ hleaf _
  obtain ⟨rfl, rfl⟩ := hleaf rfl
  unfold compileExpr constTrue at h
  obtain ⟨qc, s1, hq, h⟩ := run_bind_ok.mp h
  obtain ⟨rfl, rfl⟩ := getQC_run hq
  dsimp only at h
  split at h
  · next hnone =>
    have hnone' : dictGet? s1.qc.qmap "TRUE" = none := by simpa using hnone
    obtain ⟨u1, s3, hd, h2⟩ := run_bind_ok.mp h
    obtain ⟨i, hadd⟩ := run_discard_ok.mp hd
    have gi' : GI (fun n => Kn n ∧ n ≠ "TRUE") ρ σ0 s0 s1 := gi.monoKn (fun n hn => hn.1)
    obtain ⟨gi2, fr2, hcur, hpr, hava, hqi, hna, hnf⟩ := addQubit_gi hadd gi' (fun n hn => hn.2)
    obtain ⟨q, s4, hl1, h3⟩ := run_bind_ok.mp h2
    obtain ⟨rfl, hq1, hlt⟩ := lookup_ok hl1 gi2.good
    have : q = i := by rw [hqi] at hq1; exact (Option.some.inj hq1).symm
    subst this
    obtain ⟨u2, s5, hx, hl⟩ := run_bind_ok.mp h3
    obtain ⟨gi5', fr5, pd5, _, ha5, _⟩ := gateP (cs := []) (t := q) hx gi2 rfl rfl (fun _ hc => by cases hc) hpr
    obtain ⟨es5, hq5, _⟩ := lookup_ok hl gi5'.good
    subst es5
    have : a = q := by rw [ha5.qmap, hqi] at hq5; exact (Option.some.inj hq5).symm
    subst this
    have hval : cur σ0 s' a = true := by
      rw [ha5.cur_eq rfl σ0, hcur, gi.zero a hava]; rfl
    have hnav' : ¬ Avail s' a := fun h' => hpr.nav (fr5.avail a h')
    have fr : Fr _ σ0 s0 s1 s' NoN (· = a) NoN (· = a) := ((Fr.refl s1).seq fr2 (he := fun _ h => h)).seq fr5
      (hd := fun x hx' e => hx' (e ▸ hava)) (hc := fun _ _ h => nomatch h)
    exact ⟨gi5'.addName gi.knOK hq5 (by rw [ha5.free]; exact hnf) (by rw [ha5.anc]; exact hna)
        (hval.trans kval_TRUE.symm), (fr.addName hq5 hava).mono
        (fun _ _ hh => hh.elim) (fun _ hh _ _ _ => hh) (fun _ _ hh => hh) (fun _ hh => hh), fun _ =>
      ⟨hnav', hval, fun h' => absurd h' (by rw [ha5.anc]; exact hna),
        fun _ => ⟨pd5.unread, pd5.nm⟩,
        fun h' => (by cases h'), fun x hx' e' => hx'.nav (e' ▸ hava), fun _ => (by rw [ha5.anc]; exact hna)⟩,
      fun d hd' => (by cases hd')⟩
  · obtain ⟨rfl, hq', _⟩ := lookup_ok h gi.good
    exact ⟨gi, Fr.refl _, fun _ => .of_name gi hT hq' kval_TRUE rfl, fun d hd => (by cases hd)⟩

end QV.Compiler
