import QV.Proofs.SemAgreeT
import QV.Proofs.SemTForms
import QV.Proofs.SemXTForms
namespace QV.Sem
open QV.Front

theorem low_bit (a : Int) {i j : Nat} (hi : i < j) :
    (a / (2 : Int) ^ i) % 2 = ((a % (2 : Int) ^ j) / (2 : Int) ^ i) % 2 := by
  have hj : (2 : Int) ^ j = (2 : Int) ^ i * (2 * (2 : Int) ^ (j - i - 1)) := by
    rw [← Int.pow_succ', ← Int.pow_add]
    congr 1; omega
  have hne : (2 : Int) ^ i ≠ 0 := Int.ne_of_gt (pow2_pos_int i)
  obtain ⟨m, q, hm, ha⟩ : ∃ m q, m = a % (2 : Int) ^ j ∧ a = m + (2 : Int) ^ j * q :=
    ⟨_, _, rfl, (Int.emod_add_mul_ediv a _).symm⟩
  rw [← hm, ha, hj]
  have : m + (2 : Int) ^ i * (2 * (2 : Int) ^ (j - i - 1)) * q
      = m + (2 : Int) ^ i * (2 * ((2 : Int) ^ (j - i - 1) * q)) := by
    simp only [Int.mul_assoc]
  rw [this, Int.add_mul_ediv_left _ _ hne, Int.add_mul_emod_self_left]

theorem testBit_cast (y i : Nat) : y.testBit i = decide (((y : Int) / (2 : Int) ^ i) % 2 = 1) := by
  rw [Nat.testBit_eq_decide_div_mod_eq]
  congr 1
  rw [eq_iff_iff]
  norm_cast

/-- bit `i` of the fixed-width value is python's bit `i` of the exact value when the values agree on more
than `i` low bits -/
theorem bit_cong {x : Int} {y i j : Nat} (h : (y : Int) % 2 ^ j = x % 2 ^ j) (hi : i < j) :
    y.testBit i = decide ((x / (2 : Int) ^ i) % 2 = 1) := by
  rw [testBit_cast, low_bit (y : Int) hi, low_bit x hi, h]

theorem notT_agree {xv : XT} {sv : TVal} (h : AgreeT xv sv) : ORel AgreeT (notXT xv) (notT sv) := by
  intro q r hx hw
  cases sv with
  | bool b =>
    obtain ⟨a, k, rfl, hab⟩ := agreeT_bool_inv h
    simp only [notT, Option.some.injEq] at hw
    simp only [notXT, Option.some.injEq] at hx
    subst hw; subst hx
    simp only [AgreeT, Agree]
    exact fun hk => by rw [hab hk]
  | int _ _ => simp [notT] at hw
  | char _ => simp [notT] at hw
  | tuple _ => simp [notT] at hw

theorem invT_agree {xv : XT} {sv : TVal} (h : AgreeT xv sv) : ORel AgreeT (invXT xv) (invT sv) := by
  intro q r hx hw
  cases sv with
  | int w' y =>
    obtain ⟨x, k, rfl, ih⟩ := agreeT_int_inv h
    simp only [invT, Option.some.injEq] at hw
    simp only [invXT, Option.some.injEq] at hx
    subst hw; subst hx
    simp only [AgreeT]
    have hy := ih.2.1
    apply mkInt_agree _ _ _ _ (by omega)
    intro j hj hwi
    have hc := agree_cong ih hwi
    have e1 : ((2 ^ w' - 1 - y : Nat) : Int) = (2 : Int) ^ w' - 1 - y := by
      rw [Int.natCast_sub (by omega), Int.natCast_sub (Nat.pow_pos (by decide)), cast_pow2]
      rfl
    rw [e1]
    have e2 : ((2 : Int) ^ w' - 1 - y) % 2 ^ j = ((0 : Int) - 1 - y) % 2 ^ j := by
      have : (2 : Int) ^ w' - 1 - y = (0 - 1 - y) + 2 ^ w' := by omega
      rw [this, Int.add_emod, Int.emod_eq_zero_of_dvd (pow_dvd_pow 2 hj), Int.add_zero,
        Int.emod_emod_of_dvd _ (Int.dvd_refl _)]
    rw [e2]
    have e3 : -x - 1 = (0 : Int) - 1 - x := by omega
    rw [e3]
    exact cong_sub rfl hc
  | bool _ => simp [invT] at hw
  | char _ => simp [invT] at hw
  | tuple _ => simp [invT] at hw

theorem index_agree : ∀ (path : List Int) (xv : XT) (sv : TVal), AgreeT xv sv →
    ORel AgreeT (xv.index path) (sv.index path)
  | [], xv, sv, h => fun q r hx hw => by
    simp only [TVal.index, Option.some.injEq] at hw
    simp only [XT.index, Option.some.injEq] at hx
    subst hw; subst hx; exact h
  | i :: is, xv, .tuple vs, h => fun q r hx hw => by
    obtain ⟨xs, rfl, hl⟩ := agreeT_tuple_inv h
    simp only [TVal.index] at hw
    simp only [XT.index] at hx
    split at hw
    · rename_i hi
      simp only [hi, if_true] at hx
      split at hw
      · rename_i v hv
        split at hx
        · rename_i x hxv
          exact index_agree is x v (agreeTList_get xs vs _ x v hl hxv hv) q r hx hw
        · cases hx
      · cases hw
    · cases hw
  | [i], xv, .int w y, h => fun q r hx hw => by
    obtain ⟨x, k, rfl, ih⟩ := agreeT_int_inv h
    simp only [TVal.index] at hw
    simp only [XT.index] at hx
    split at hw
    · rename_i hi
      simp only [hi, and_self, if_true, Option.some.injEq] at hx
      simp only [Option.some.injEq] at hw
      subst hw; subst hx
      simp only [AgreeT, Agree]
      intro hk
      cases k with
      | none =>
        rw [testBit_cast, ih.2.2.1 rfl]
      | some j =>
        simp only at hk
        split at hk
        · rename_i hij
          exact bit_cong (ih.2.2.2 j rfl).2 hij
        · cases hk
    · cases hw
  | i :: j :: js, xv, .int w y, h => fun q r hx hw => by simp [TVal.index] at hw
  | i :: is, xv, .bool _, h => fun q r hx hw => by simp [TVal.index] at hw
  | i :: is, xv, .char _, h => fun q r hx hw => by simp [TVal.index] at hw

/-- the claim of an if-expression: that of the chosen branch under an exact test, nothing otherwise -/
theorem sel_none {kc kx ky : Option Nat} {cb : Bool}
    (h : (match kc with | none => (if cb then kx else ky) | some _ => some 0) = none) :
    kc = none ∧ (if cb then kx else ky) = none := by
  cases kc with
  | none => exact ⟨rfl, h⟩
  | some _ => cases h

theorem iteT_agree {xc xa xb : XT} {sc sa sb : TVal} (hc : AgreeT xc sc) (ha : AgreeT xa sa) (hb : AgreeT xb sb) :
    ORel AgreeT (iteXT xc xa xb) (iteT sc sa sb) := by
  intro q r hx hw
  cases sc with
  | int _ _ => simp [iteT] at hw
  | char _ => simp [iteT] at hw
  | tuple _ => simp [iteT] at hw
  | bool cb' =>
  obtain ⟨cb, kc, rfl, hcb⟩ := agreeT_bool_inv hc
  cases sa with
  | bool a' =>
    obtain ⟨a0, ka, rfl, iha⟩ := agreeT_bool_inv ha
    cases sb <;> simp only [iteT, reduceCtorEq, Option.some.injEq] at hw
    obtain ⟨b0, kb, rfl, ihb⟩ := agreeT_bool_inv hb
    simp only [iteXT, Option.some.injEq] at hx
    subst hw; subst hx
    intro hk
    obtain ⟨rfl, hk⟩ := sel_none hk
    obtain rfl := hcb rfl
    cases cb' <;> [exact ihb hk; exact iha hk]
  | int wa ya =>
    obtain ⟨xa0, ka, rfl, iha⟩ := agreeT_int_inv ha
    cases sb <;> simp only [iteT, reduceCtorEq, Option.some.injEq] at hw
    rename_i wb yb
    obtain ⟨xb0, kb, rfl, ihb⟩ := agreeT_int_inv hb
    simp only [iteXT, Option.some.injEq] at hx
    subst hw; subst hx
    have wa' := iha.widen (Nat.le_max_left wa wb)
    have wb' := ihb.widen (Nat.le_max_right wa wb)
    cases kc with
    | some _ => exact agree_undet _ (by split <;> [exact wa'.2.1; exact wb'.2.1])
    | none =>
      obtain rfl := hcb rfl
      cases cb' <;> [exact wb'; exact wa']
  | char ca' =>
    obtain ⟨ca, ka, rfl, hca, iha⟩ := agreeT_char_inv ha
    cases sb <;> simp only [iteT, reduceCtorEq, Option.some.injEq] at hw
    obtain ⟨cb2, kb, rfl, hcb2, ihb⟩ := agreeT_char_inv hb
    simp only [iteXT, Option.some.injEq] at hx
    subst hw; subst hx
    refine ⟨by split <;> assumption, fun hk => ?_⟩
    obtain ⟨rfl, hk⟩ := sel_none hk
    obtain rfl := hcb rfl
    cases cb' <;> [exact ihb hk; exact iha hk]
  | tuple va =>
    obtain ⟨xas, rfl, iha⟩ := agreeT_tuple_inv ha
    cases sb <;> simp only [iteT, reduceCtorEq] at hw
    rename_i vb
    obtain ⟨xbs, rfl, ihb⟩ := agreeT_tuple_inv hb
    simp only [iteXT] at hx
    split at hw <;> simp only [Option.some.injEq, reduceCtorEq] at hw
    rename_i htw
    split at hx <;> simp only [Option.some.injEq, reduceCtorEq] at hx
    subst hw; subst hx
    cases kc with
    | none =>
      obtain rfl := hcb rfl
      cases cb' <;> [exact ihb; exact iha]
    | some _ =>
      obtain ⟨ta, wa⟩ := agreeTList_ty xas va iha
      obtain ⟨tb, wb⟩ := agreeTList_ty xbs vb ihb
      have htw := Ty.eq_of_beqList _ _ htw
      exact undetList_agree _ _ (by cases cb <;> cases cb' <;> simp [← ta, ← tb, htw]) (by cases cb' <;> simp [wa, wb])

theorem cmpEq_cast (op : String) (a b : Nat) : cmpEqInt op (a : Int) (b : Int) = cmpEqNat op a b := by
  unfold cmpEqInt cmpEqNat
  split <;> simp_all

/-- a bool computed from whole values on both sides: the results agree if the computations coincide whenever every
operand is exact -/
theorem mkBool_map_agree {o o' : Option Bool} {kk : Option Nat} (h : kk = none → o' = o) :
    ORel AgreeT (o.map fun b => .leaf (mkBool b kk)) (o'.map .bool) := by
  intro q r hx hw
  obtain ⟨b, hb, rfl⟩ := Option.map_eq_some_iff.mp hx
  obtain ⟨b', hb', rfl⟩ := Option.map_eq_some_iff.mp hw
  exact mkBool_agree _ _ _ fun hk => by rw [h hk, hb] at hb'; exact (Option.some.inj hb').symm

theorem cmpT_agree (op : String) {xl xr : XT} {sl sr : TVal} (hl : AgreeT xl sl) (hr : AgreeT xr sr) :
    ORel AgreeT (cmpXT op xl xr) (cmpT op sl sr) := by
  cases sl with
  | bool a' =>
    obtain ⟨a, kl, rfl, ihl⟩ := agreeT_bool_inv hl
    cases sr with
    | bool b' =>
      obtain ⟨b, kr, rfl, ihr⟩ := agreeT_bool_inv hr
      exact mkBool_map_agree fun hk => by obtain ⟨rfl, rfl⟩ := kmin_none hk; rw [ihl rfl, ihr rfl]
    | int _ _ => exact ORel.none_right
    | char _ => exact ORel.none_right
    | tuple _ => exact ORel.none_right
  | int wl yl =>
    obtain ⟨x, kl, rfl, ihl⟩ := agreeT_int_inv hl
    cases sr with
    | int wr yr =>
      obtain ⟨y, kr, rfl, ihr⟩ := agreeT_int_inv hr
      exact mkBool_map_agree fun hk => by
        obtain ⟨rfl, rfl⟩ := kmin_none hk; rw [← ihl.2.2.1 rfl, ← ihr.2.2.1 rfl, cmp_cast]
    | bool _ => exact ORel.none_right
    | char _ => exact ORel.none_right
    | tuple _ => exact ORel.none_right
  | char cl' =>
    obtain ⟨cl, kl, rfl, _, ihl⟩ := agreeT_char_inv hl
    cases sr with
    | char cr' =>
      obtain ⟨cr, kr, rfl, _, ihr⟩ := agreeT_char_inv hr
      exact mkBool_map_agree fun hk => by obtain ⟨rfl, rfl⟩ := kmin_none hk; rw [← ihl rfl, ← ihr rfl, cmpEq_cast]
    | int wr yr =>
      obtain ⟨y, kr, rfl, ihr⟩ := agreeT_int_inv hr
      exact mkBool_map_agree fun hk => by
        obtain ⟨rfl, rfl⟩ := kmin_none hk; rw [← ihl rfl, ← ihr.2.2.1 rfl, cmpEq_cast]
    | bool _ => exact ORel.none_right
    | tuple _ => exact ORel.none_right
  | tuple vl =>
    obtain ⟨xls, rfl, ihl⟩ := agreeT_tuple_inv hl
    cases sr with
    | tuple vr =>
      obtain ⟨xrs, rfl, ihr⟩ := agreeT_tuple_inv hr
      intro q r hx hw
      simp only [cmpT] at hw
      simp only [cmpXT] at hx
      split at hw
      · split at hx
        · have hb : kmin (XT.kAllList xls) (XT.kAllList xrs) = none → XT.beqList xls xrs = TVal.beqList vl vr :=
            fun hk => beqList_agree xls xrs vl vr ihl ihr (kmin_none hk).1 (kmin_none hk).2
          split at hw <;> simp only [Option.some.injEq, reduceCtorEq] at hw hx
          · subst hw; subst hx
            exact mkBool_agree _ _ _ fun hk => (hb hk).symm
          · subst hw; subst hx
            exact mkBool_agree _ _ _ fun hk => by rw [hb hk]
        · cases hx
      · cases hw
    | bool _ => exact ORel.none_right
    | int _ _ => exact ORel.none_right
    | char _ => exact ORel.none_right

theorem leaves_agree : ∀ (xs : List XT) (svs : List TVal) (ls : List XVal), AgreeTList xs svs →
    leavesOf xs = some ls → ∃ ss : List SVal, svs = ss.map SVal.toT ∧ List.Forall₂ Agree ls ss
  | [], [], ls, _, h => by
    simp only [leavesOf, Option.some.injEq] at h
    subst h
    exact ⟨[], rfl, List.Forall₂.nil⟩
  | x :: xs, v :: vs, ls, ha, h => by
    cases x with
    | char _ _ => simp [leavesOf] at h
    | tuple _ => simp [leavesOf] at h
    | leaf l =>
      simp only [leavesOf, Option.map_eq_some_iff] at h
      obtain ⟨ls', hls, rfl⟩ := h
      obtain ⟨ss, rfl, hf⟩ := leaves_agree xs vs ls' ha.2 hls
      cases v with
      | bool b => exact ⟨.bool b :: ss, rfl, List.Forall₂.cons ha.1 hf⟩
      | int w y => exact ⟨.int w y :: ss, rfl, List.Forall₂.cons ha.1 hf⟩
      | char _ => exact absurd ha.1 (by simp [AgreeT])
      | tuple _ => exact absurd ha.1 (by simp [AgreeT])
  | [], _ :: _, _, ha, _ => by simp [AgreeTList] at ha
  | _ :: _, [], _, ha, _ => by simp [AgreeTList] at ha

theorem shiftT_agree (op : String) (r : PExp) {xv : XT} {sv : TVal} (h : AgreeT xv sv) :
    ORel AgreeT (shiftXT op r xv) (shiftT op r sv) := by
  intro q t hx hw
  cases sv with
  | bool _ => simp [shiftT] at hw
  | char _ => simp [shiftT] at hw
  | tuple _ => simp [shiftT] at hw
  | int wl yl =>
    obtain ⟨xl, kl, rfl, ih⟩ := agreeT_int_inv h
    cases r <;> simp only [shiftT, shiftXT, reduceCtorEq] at hw hx
    rename_i k
    by_cases hk : k < 0
    · simp [hk] at hw
    · simp only [hk, if_false] at hw hx
      by_cases hls : (op == "lshift") = true
      · simp only [hls, if_true, Option.some.injEq] at hw hx
        subst hw; subst hx
        simp only [AgreeT]
        apply mkInt_agree _ _ _ _ (Nat.mod_lt _ (Nat.pow_pos (by decide)))
        intro j hj hwi
        rw [natmod_cong _ hj, Int.natCast_mul, cast_pow2]
        exact cong_mul (agree_cong ih hwi) rfl
      · simp only [hls, Bool.false_eq_true, if_false, Option.some.injEq] at hw hx
        subst hw; subst hx
        simp only [AgreeT]
        apply mkOpen_agree _ _ _ _ (Nat.lt_of_le_of_lt (Nat.div_le_self _ _) ih.2.1)
        intro hk
        rw [← ih.2.2.1 hk, Int.fdiv_eq_ediv_of_nonneg _ (Int.le_of_lt (pow2_pos_int _)),
          Int.natCast_ediv, cast_pow2]

theorem arithT_agree (op : String) {xl xr : XT} {sl sr : TVal} (hl : AgreeT xl sl) (hr : AgreeT xr sr) :
    ORel AgreeT (arithXT op xl xr) (arithT op sl sr) := by
  cases sl with
  | char _ => exact ORel.none_right
  | tuple _ => exact ORel.none_right
  | bool a' =>
    obtain ⟨a, kl, rfl, _⟩ := agreeT_bool_inv hl
    cases sr with
    | int _ _ => exact ORel.none_right
    | char _ => exact ORel.none_right
    | tuple _ => exact ORel.none_right
    | bool b' =>
      obtain ⟨b, kr, rfl, _⟩ := agreeT_bool_inv hr
      exact ORel.map (R := Agree) (fun xv sv hx hw => boolBin_agree op a b a' b' kl kr hl hr sv xv hw hx)
        fun _ _ => agreeT_leaf.mpr
  | int wl yl =>
    obtain ⟨x, kl, rfl, _⟩ := agreeT_int_inv hl
    cases sr with
    | bool _ => exact ORel.none_right
    | char _ => exact ORel.none_right
    | tuple _ => exact ORel.none_right
    | int wr yr =>
      obtain ⟨y, kr, rfl, _⟩ := agreeT_int_inv hr
      exact ORel.map (R := Agree) (fun xv sv hx hw => intBin_agree op wl wr x y kl kr yl yr hl hr sv xv hw hx)
        fun _ _ => agreeT_leaf.mpr

theorem boolopT_agree (isAnd : Bool) {xs : List XT} {ss : List TVal} (h : AgreeTList xs ss) :
    ORel AgreeT (boolopXT isAnd xs) (boolopT isAnd ss) := by
  intro q t hx hw
  obtain ⟨ls, hl, hx⟩ := Option.bind_eq_some_iff.mp hx
  obtain ⟨ss', rfl, hf⟩ := leaves_agree xs ss ls h hl
  simp only [boolopT, boolFoldT_toT, Option.map_eq_some_iff] at hw hx
  obtain ⟨b', hf', rfl⟩ := hw
  obtain ⟨⟨r, kk⟩, hfx, rfl⟩ := hx
  exact mkBool_agree _ _ _ (boolFold_agree isAnd ls ss' hf r kk b' hfx hf')

theorem cint_agree (v : Int) (w : Nat) (hc : constWidth v = some w) :
    Agree ⟨.int w v, if 0 ≤ v then none else some w⟩ (.int w (v % ((2 : Int) ^ w)).toNat) := by
  have hlt : v < (2 : Int) ^ w := by
    have := List.find?_some hc
    simpa using this
  have hp := pow2_pos_int w
  have hcast := toNat_emod_cast v w
  have hY : (v % (2 : Int) ^ w).toNat < 2 ^ w := by
    apply Int.ofNat_lt.mp
    rw [hcast, cast_pow2]
    exact Int.emod_lt_of_pos _ hp
  by_cases h0 : 0 ≤ v
  · simp only [h0, if_true]
    exact ⟨rfl, hY, fun _ => by rw [hcast, Int.emod_eq_of_lt h0 hlt], fun j hj => (by cases hj)⟩
  · simp only [h0, if_false]
    refine ⟨rfl, hY, fun h => (by cases h), fun j hj => ?_⟩
    cases hj
    exact ⟨Nat.le_refl _, by rw [hcast, Int.emod_emod_of_dvd _ (Int.dvd_refl _)]⟩

end QV.Sem
