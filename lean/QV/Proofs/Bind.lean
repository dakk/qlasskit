import QV.Model.Bind
import Mathlib.Data.List.Perm.Subperm
import Mathlib.Data.List.Nodup
namespace QV.Bind

/-- sequential update, in list order (later entries win) -/
def setAll {V : Type} (ρ : Env V) : List (String × V) → Env V
  | [] => ρ
  | (k, v) :: l => setAll (ρ.set k v) l

theorem lookupS_eq_none_iff {V : Type} (l : List (String × V)) (y : String) :
    lookupS l y = none ↔ y ∉ l.map (·.1) := by
  induction l with
  | nil => simp [lookupS]
  | cons kv t ih =>
    obtain ⟨k, v⟩ := kv
    simp only [lookupS, List.map_cons, List.mem_cons, not_or]
    split
    · next hy => simp only [reduceCtorEq, hy, not_true, false_and]
    · next hy => simp only [ih, hy, not_false_eq_true, true_and]

theorem lookupS_none_of_not_mem {V : Type} (l : List (String × V)) (y : String)
    (h : y ∉ l.map (·.1)) : lookupS l y = none := (lookupS_eq_none_iff l y).mpr h

theorem lookupS_isSome_of_mem {V : Type} (l : List (String × V)) (y : String)
    (h : y ∈ l.map (·.1)) : (lookupS l y).isSome :=
  Option.isSome_iff_ne_none.mpr fun hn => (lookupS_eq_none_iff l y).mp hn h

def Env.over {V : Type} (σ ρ : Env V) : Env V := fun y => (σ y).or (ρ y)

theorem Env.over_set {V : Type} {σ : Env V} {n : String} (h : σ n = none) (ρ : Env V) (x : V) :
    Env.over σ (ρ.set n x) = (Env.over σ ρ).set n x := by
  funext y
  by_cases hy : y = n <;> simp [Env.over, Env.set, hy, h]

theorem Env.set_over {V : Type} {σ : Env V} {k : String} {v : V} (h : σ k = some v) (ρ : Env V) :
    (Env.over σ ρ).set k v = Env.over σ ρ := by
  funext y
  by_cases hy : y = k <;> simp [Env.over, Env.set, hy, h]

theorem setAll_eq_over {V : Type} (l : List (String × V)) (ρ : Env V) (hnd : (l.map (·.1)).Nodup) :
    setAll ρ l = Env.over (lookupS l) ρ := by
  induction l generalizing ρ with
  | nil => rfl
  | cons kv t ih =>
    obtain ⟨k, v⟩ := kv
    simp only [List.map_cons, List.nodup_cons] at hnd
    rw [setAll, ih _ hnd.2, Env.over_set (lookupS_none_of_not_mem t k hnd.1)]
    funext y
    by_cases hy : y = k <;> simp [Env.over, lookupS, Env.set, hy]

theorem bindArgs_congr {V : Type} : ∀ (ns : List String) (vs : List V) (ρ ρ' : Env V),
    (∀ y, y ∉ ns → ρ y = ρ' y) → bindArgs ns vs ρ = bindArgs ns vs ρ'
  | [], [], ρ, ρ', h => by rw [funext fun y => h y (List.not_mem_nil)]
  | [], _ :: _, _, _, _ => rfl
  | _ :: _, [], _, _, _ => rfl
  | n :: ns, v :: vs, ρ, ρ', h => by
      refine bindArgs_congr ns vs _ _ fun y hy => ?_
      by_cases hn : y = n
      · simp [Env.set, hn]
      · simp [Env.set, hn, h y (by simp [hn, hy])]

mutual
theorem evalExp_toVal (A : Alg) (ρ ρ' : Env A.V) :
    ∀ v : PyVal, evalExp A ρ (toVal v) = evalExp A ρ' (toVal v)
  | .atom a => by simp [toVal, evalExp]
  | .iter l => by simp [toVal, evalExp, evalList_toVal A ρ ρ' l]
theorem evalList_toVal (A : Alg) (ρ ρ' : Env A.V) :
    ∀ l : List PyVal, evalList A ρ (toValList l) = evalList A ρ' (toValList l)
  | [] => by simp [toValList, evalList]
  | v :: l => by
      simp [toValList, evalList, evalExp_toVal A ρ ρ' v, evalList_toVal A ρ ρ' l]
end

theorem execStmts_append (A : Alg) (l m : List Stmt) (ρ : Env A.V) :
    execStmts A (l ++ m) ρ = (execStmts A l ρ).bind (execStmts A m) := by
  induction l generalizing ρ with
  | nil => simp [execStmts]
  | cons s l ih =>
    simp only [List.cons_append, execStmts]
    cases execStmt A ρ s <;> simp [ih]

theorem execStmt_injected (A : Alg) (ty : Option Ty) (k : String) (v : PyVal) (ρ : Env A.V) :
    execStmt A ρ ⟨k, ty, toVal v⟩ = (constVal A ty v).map (ρ.set k) := by
  simp only [execStmt, constVal, evalExp_toVal A ρ Env.empty v]
  cases evalExp A Env.empty (toVal v) with
  | none => rfl
  | some x => cases ty <;> rfl

theorem execStmts_injected (A : Alg) (ty : String → PyVal → Option Ty) (kv : List (String × PyVal))
    (ρ : Env A.V) :
    execStmts A (injectedWith ty kv) ρ = (kvVals A ty kv).map (setAll ρ) := by
  induction kv generalizing ρ with
  | nil => rfl
  | cons hd t ih =>
    obtain ⟨k, v⟩ := hd
    simp only [injectedWith, List.map_cons, execStmts, execStmt_injected, kvVals]
    cases constVal A (ty k v) v with
    | none => rfl
    | some x =>
      have := ih (ρ.set k x)
      simp only [injectedWith] at this
      simp only [Option.map_some, Option.bind_some, this]
      cases kvVals A ty t <;> rfl
theorem kvVals_keys (A : Alg) (ty : String → PyVal → Option Ty) (kv : List (String × PyVal))
    (vals : List (String × A.V)) (h : kvVals A ty kv = some vals) :
    vals.map (·.1) = kv.map (·.1) := by
  induction kv generalizing vals with
  | nil => simp [kvVals] at h; subst h; rfl
  | cons hd t ih =>
    obtain ⟨k, v⟩ := hd
    simp only [kvVals] at h
    split at h
    · rename_i x r hx hr
      simp only [Option.some.injEq] at h
      subst h
      simp [ih r hr]
    · simp at h

def nonParams (args : List Arg) : List Arg := args.filter (fun a => !isParamBind a.ann)

theorem merge_cons_param {V : Type} {vals : List (String × V)} {a : Arg} {v : V}
    (hp : isParamBind a.ann = true) (hv : lookupS vals a.name = some v) (as : List Arg) (xs : List V) :
    merge vals (a :: as) xs = (merge vals as xs).map (v :: ·) := by
  cases xs <;> simp only [merge, hp, hv, if_true]

theorem merge_cons_other {V : Type} {vals : List (String × V)} {a : Arg} (hp : isParamBind a.ann = false)
    (as : List Arg) (x : V) (xs : List V) :
    merge vals (a :: as) (x :: xs) = (merge vals as xs).map (x :: ·) := by
  simp only [merge, hp, Bool.false_eq_true, if_false]

/-- induction on the signature: a parameter's `set` is absorbed by the parameter values laid over (`set_over`),
another argument's commutes with them (`over_set`); an arity failure is one on both sides -/
theorem merge_bindArgs_over {V : Type} (vals : List (String × V)) (args : List Arg) (xs : List V) (ρ : Env V)
    (h : ∀ a ∈ args, a.name ∈ vals.map (·.1) ↔ isParamBind a.ann = true) :
    (merge vals args xs).bind (bindArgs (args.map (·.name)) · (Env.over (lookupS vals) ρ))
      = (bindArgs ((nonParams args).map (·.name)) xs ρ).map (Env.over (lookupS vals)) := by
  induction args generalizing xs ρ with
  | nil => cases xs <;> rfl
  | cons a as ih =>
    have ih := fun xs ρ => ih xs ρ fun b hb => h b (List.mem_cons_of_mem _ hb)
    have ha := h a List.mem_cons_self
    cases hp : isParamBind a.ann <;> rw [hp] at ha
    · have hnone := lookupS_none_of_not_mem vals a.name (by simpa using ha)
      have hnp : nonParams (a :: as) = a :: nonParams as := by simp only [nonParams, List.filter_cons, hp]; rfl
      cases xs with
      | nil => rw [hnp]; simp only [merge, hp]; rfl
      | cons x xs =>
        rw [hnp, merge_cons_other hp, Option.bind_map]
        simp only [List.map_cons, bindArgs, Function.comp_def]
        rw [← ih xs (ρ.set a.name x), Env.over_set hnone]
    · obtain ⟨v, hv⟩ := Option.isSome_iff_exists.mp (lookupS_isSome_of_mem vals a.name (ha.mpr rfl))
      have hnp : nonParams (a :: as) = nonParams as := by simp only [nonParams, List.filter_cons, hp]; rfl
      rw [hnp, merge_cons_param hp hv, Option.bind_map, ← ih xs ρ]
      simp only [List.map_cons, bindArgs, Function.comp_def, Env.set_over hv]

/-- the environments of the bound and of the unbound function coincide, success and arity failure alike: merging
    and binding positionally is binding the remaining arguments and then assigning the parameter values -/
theorem merge_bindArgs {V : Type} (vals : List (String × V)) (args : List Arg) (xs : List V)
    (hvnd : (vals.map (·.1)).Nodup)
    (hσ : ∀ a ∈ args, a.name ∈ vals.map (·.1) ↔ isParamBind a.ann = true)
    (hkeys : ∀ k ∈ vals.map (·.1), k ∈ args.map (·.name)) :
    (merge vals args xs).bind (bindArgs (args.map (·.name)) · Env.empty)
      = (bindArgs ((nonParams args).map (·.name)) xs Env.empty).map (setAll · vals) := by
  have h0 : ∀ all, bindArgs (args.map (·.name)) all Env.empty
      = bindArgs (args.map (·.name)) all (Env.over (lookupS vals) Env.empty) := fun all =>
    bindArgs_congr _ _ _ _ fun y hy => by
      simp [Env.over, Env.empty, lookupS_none_of_not_mem vals y fun hk => hy (hkeys y hk)]
  simp only [h0, merge_bindArgs_over vals args xs Env.empty hσ, setAll_eq_over _ _ hvnd]

/-! ## from the checks of `bind` to the hypotheses above -/

theorem firstUnknown_none (params : List String) (kv : List (String × PyVal))
    (h : firstUnknown params kv = none) : ∀ k ∈ kv.map (·.1), k ∈ params := by
  induction kv with
  | nil => simp
  | cons hd t ih =>
    obtain ⟨k, v⟩ := hd
    simp only [firstUnknown] at h
    split at h
    · rename_i hc
      intro k' hk'
      simp only [List.map_cons, List.mem_cons] at hk'
      rcases hk' with rfl | hk'
      · simpa using hc
      · exact ih h k' hk'
    · cases h

theorem firstUnknown_some (params : List String) (kv : List (String × PyVal)) (k : String)
    (h : firstUnknown params kv = some k) : k ∈ kv.map (·.1) ∧ k ∉ params := by
  induction kv with
  | nil => simp [firstUnknown] at h
  | cons hd t ih =>
    obtain ⟨k', v⟩ := hd
    simp only [firstUnknown] at h
    split at h
    · have := ih h
      exact ⟨by simp [this.1], this.2⟩
    · rename_i hc
      simp only [Option.some.injEq] at h
      subst h
      exact ⟨by simp, by simpa using hc⟩

theorem bind_cases (q : Quirks) (p : Prog) (kv : List (String × PyVal)) :
    (kv.length ≠ p.parameters.length ∧ bind q p kv = .error .lengthMismatch) ∨
    (kv.length = p.parameters.length ∧
      ∃ k, firstUnknown p.paramNames kv = some k ∧ bind q p kv = .error (.unknown k)) ∨
    (kv.length = p.parameters.length ∧ firstUnknown p.paramNames kv = none ∧
      bind q p kv = .ok { p with args := nonParams p.args, body := injected q p kv ++ p.body }) := by
  unfold bind
  by_cases h : kv.length = p.parameters.length
  · cases hf : firstUnknown p.paramNames kv <;> simp [h, nonParams]
  · simp [h]

-- the record form of `C08.bind_shape`
theorem bind_ok {q : Quirks} {p p' : Prog} {kv : List (String × PyVal)} (h : bind q p kv = .ok p') :
    p' = { p with args := nonParams p.args, body := injected q p kv ++ p.body } := by
  obtain ⟨_, e⟩ | ⟨_, _, _, e⟩ | ⟨_, _, e⟩ := bind_cases q p kv <;> cases e ▸ h
  rfl

/-- pigeon-hole -/
theorem keys_cover (keys params : List String) (hnd : keys.Nodup) (hsub : ∀ k ∈ keys, k ∈ params)
    (hlen : keys.length = params.length) : keys.Perm params :=
  (List.Nodup.subperm hnd hsub).perm_of_length_le (by omega)

theorem paramNames_eq (p : Prog) (hag : ∀ a ∈ p.args, isParamBind a.ann = isParamFrom a.ann) :
    p.paramNames = (p.args.filter (fun a => isParamBind a.ann)).map (·.name) := by
  unfold Prog.paramNames Prog.parameters
  rw [List.map_map]
  have : p.args.filter (fun a => isParamFrom a.ann) = p.args.filter (fun a => isParamBind a.ann) := by
    apply List.filter_congr
    intro a ha
    exact (hag a ha).symm
  rw [this]
  rfl


theorem mem_paramNames_iff (p : Prog) (hnd : (p.args.map (·.name)).Nodup)
    (hag : ∀ a ∈ p.args, isParamBind a.ann = isParamFrom a.ann) {a : Arg} (ha : a ∈ p.args) :
    a.name ∈ p.paramNames ↔ isParamBind a.ann = true := by
  rw [paramNames_eq p hag, List.mem_map]
  constructor
  · rintro ⟨b, hb, hn⟩
    obtain ⟨hb, hpb⟩ := List.mem_filter.mp hb
    exact List.inj_on_of_nodup_map hnd hb ha hn ▸ hpb
  · exact fun hp => ⟨a, List.mem_filter.mpr ⟨ha, hp⟩, rfl⟩

theorem paramNames_subset (p : Prog) : ∀ k ∈ p.paramNames, k ∈ p.args.map (·.name) := by
  intro k hk
  simp only [Prog.paramNames, Prog.parameters, List.map_map, List.mem_map, List.mem_filter] at hk ⊢
  obtain ⟨a, ⟨ha, _⟩, rfl⟩ := hk
  exact ⟨a, ha, rfl⟩

/-- binding is partial evaluation: the bound function runs the unbound body from the environment of the
    remaining arguments with the keyword constants assigned on top.  No hypothesis on names or keywords -/
theorem Sem_bind (A : Alg) {q : Quirks} {p p' : Prog} {kv : List (String × PyVal)} (xs : List A.V)
    (hb : bind q p kv = .ok p') :
    Sem A p' xs = (kvVals A (tyOf q p) kv).bind fun vals =>
      ((bindArgs ((nonParams p.args).map (·.name)) xs Env.empty).map (setAll · vals)).bind fun ρ0 =>
        (execStmts A p.body ρ0).bind fun ρ => evalExp A ρ p.ret := by
  obtain rfl := bind_ok hb
  simp only [Sem, execStmts_append, injected, execStmts_injected]
  cases kvVals A (tyOf q p) kv <;>
    cases bindArgs ((nonParams p.args).map (·.name)) xs Env.empty <;> rfl

end QV.Bind
