import QV.Proofs.FrontForms
namespace QV.Sem
open QV.Arith QV.Front

theorem find_name {env : Front.Env} {n : String} {b : Binding} (h : env.find n = some b) : b.name = n := by
  have := List.find?_some h
  simpa using this

theorem evalBits_syms (ρ : QV.Env) (names : List String) : evalBits ρ (names.map BExp.sym) = names.map ρ := by
  simp [evalBits, BExp.eval, Function.comp_def]

/-- the flat list of the bit symbols of a non-bool type denotes the decoded value: what a name of that
type (two bits or more) and a subscript chain that stops there (`_leaf_symbols`, 6b971e4) evaluate to -/
theorem den_syms (ρ : QV.Env) (t : Ty) (base : String) (hb : t ≠ .bool) :
    DenT ρ t (.list ((Ty.names base t).map fun s => .atom (.sym s))) (decodeT ρ base t) := by
  rw [ofBits_syms]
  cases t with
  | bool => exact absurd rfl hb
  | qint w =>
    rw [decodeT]
    exact DenT.mk_int _ _ _ (by rw [List.length_map, names_length]; rfl) (val_syms ρ _)
  | qchar =>
    rw [decodeT]
    exact DenT.mk_char _ _ (by rw [List.length_map, names_length]; rfl) (val_syms ρ _)
  | tuple ts =>
    rw [decodeT]
    apply DenT.mk_tup _ _ _ (decodeTList_ty ρ ts base 0) (decodeTList_wf ρ ts base 0)
    rw [flattenList_atoms, evalBits_syms]
    have := decodeT_bits ρ (.tuple ts) base
    rw [decodeT, TVal.bits] at this
    exact this.symm

/-- the bit names are those `translate_argument` / `decompose_to_symbols` (after `_nest_as_type`) give a variable of
the type -/
def BindOKT (ρ : QV.Env) (σ : TEnv) (b : Binding) : Prop :=
  b.bitvec = b.ty.names b.name ∧ tyGood b.ty = true ∧ σ b.name = some (decodeT ρ b.name b.ty)

/-- hypothesis of `C01_expr_struct` -/
def EnvOKT (ρ : QV.Env) (env : Front.Env) (σ : TEnv) : Prop :=
  ∀ n b, env.find n = some b → BindOKT ρ σ b

/-- what `tr` needs of the type of a variable to read its name back: a `bool` is one symbol; a value of any
other type is the list of its bit symbols, which `translate_expression` hands on as a list only when there are at
least two (a single one becomes a bare expression; with none it raises) -/
def NameOK (ty : Ty) : Prop := ty = .bool ∨ ty.bits ≠ 1

/-- `BindOKT` / `EnvOKT` with the types restricted only as far as `tr` needs it (`Qint[0]` is allowed: its name
cannot be read) -/
def BindOKN (ρ : QV.Env) (σ : TEnv) (b : Binding) : Prop :=
  b.bitvec = b.ty.names b.name ∧ NameOK b.ty ∧ σ b.name = some (decodeT ρ b.name b.ty)

def EnvOKN (ρ : QV.Env) (env : Front.Env) (σ : TEnv) : Prop :=
  ∀ n b, env.find n = some b → BindOKN ρ σ b

theorem nameOK_of_good {ty : Ty} (h : tyGood ty = true) : NameOK ty := by
  by_cases hb : ty = .bool
  · exact .inl hb
  · exact .inr (by have := tyGood_two_bits ty h hb; omega)

theorem EnvOKT.toN {ρ : QV.Env} {env : Front.Env} {σ : TEnv} (h : EnvOKT ρ env σ) : EnvOKN ρ env σ :=
  fun n b hf => ⟨(h n b hf).1, nameOK_of_good (h n b hf).2.1, (h n b hf).2.2⟩

theorem soundT_name (ρ : QV.Env) (env : Front.Env) (σ : TEnv) (henv : EnvOKN ρ env σ) (n : String) :
    SoundT ρ env σ (.name n) := by
  intro s t v s' _ h
  rw [tr] at h
  cases hf : env.find n with
  | none =>
    rw [hf] at h
    simp only [run_throw_ok] at h
  | some b =>
    rw [hf] at h
    have hname := find_name hf
    obtain ⟨hbv, hgood, hσ⟩ := henv n b hf
    rw [hname] at hbv hσ
    have hlen : b.bitvec.length = b.ty.bits := by rw [hbv, names_length]
    refine ⟨decodeT ρ n b.ty, by simpa only [semT] using hσ, ?_⟩
    by_cases hb : b.ty = .bool
    · rw [hb] at hbv
      simp only [hbv, names_bool, List.length_singleton, Nat.lt_irrefl, if_false, run_pure_ok,
        gt_iff_lt] at h
      obtain ⟨h, _⟩ := h
      cases h
      rw [hb, decodeT]
      exact DenT.mk_bool _ _ rfl
    · have h1 : b.ty.bits ≠ 1 := hgood.resolve_left hb
      by_cases hgt : b.bitvec.length > 1
      · simp only [hgt, if_true, run_pure_ok] at h
        obtain ⟨h, _⟩ := h
        cases h
        rw [hbv]
        exact den_syms ρ b.ty n hb
      · -- no bit at all (`Qint[0]`): the translator raises
        simp only [List.eq_nil_of_length_eq_zero (by omega : b.bitvec.length = 0)] at h
        exact (throw_inv h).elim

theorem int_name (s : String) (i : Int) (h : 0 ≤ i) : (s!"{s}.{i}" : String) = bitName s i.toNat := by
  obtain ⟨k, rfl⟩ := Int.eq_ofNat_of_zero_le h
  simp only [Int.toNat_natCast, bitName]
  rfl

theorem pathName_cons (n : String) (i : Int) (is : List Int) (h : 0 ≤ i) :
    pathName n (i :: is) = pathName (bitName n i.toNat) is := by
  simp only [pathName, List.foldl_cons]
  rw [int_name n i h]

theorem walkTy_bool (i : Int) (is : List Int) (t' : Ty) : walkTy false .bool (i :: is) = .ok t' ↔ False := by
  unfold walkTy
  simp only [Ty.size?]
  split <;> simp [throw, throwThe, MonadExceptOf.throw]
  split <;> simp

theorem walkTy_qint (w : Nat) (i : Int) (is : List Int) (h0 : 0 ≤ i) :
    walkTy false (.qint w) (i :: is) = if i < (w : Int) then walkTy false .bool is else throw "OutOfBound" := by
  have hneg : ¬ (i < 0) := by omega
  rw [walkTy]
  · simp [hneg, Ty.size?]
  · intro ts h; cases h

theorem walkTy_qchar (i : Int) (is : List Int) (h0 : 0 ≤ i) :
    walkTy false .qchar (i :: is) = if i < 8 then walkTy false .bool is else throw "OutOfBound" := by
  have hneg : ¬ (i < 0) := by omega
  rw [walkTy]
  · simp [hneg, Ty.size?]
  · intro ts h; cases h

theorem walkTy_tuple (ts : List Ty) (i : Int) (is : List Int) (h0 : 0 ≤ i) :
    walkTy false (.tuple ts) (i :: is) =
      if i < (ts.length : Int) then
        (match ts[i.toNat]? with
         | some t' => walkTy false t' is
         | none => throw "IndexError")
      else throw "OutOfBound" := by
  have hneg : ¬ (i < 0) := by omega
  rw [walkTy]
  simp only [hneg, Ty.size?, decide_false, Bool.false_and, Bool.false_eq_true, if_false]
  split
  · split <;> simp_all
  · rfl

theorem walk_index (ρ : QV.Env) : ∀ (path : List Int) (t : Ty) (base : String) (t' : Ty) (v : TVal),
    (∀ i ∈ path, 0 ≤ i) → walkTy false t path = .ok t' → (decodeT ρ base t).index path = some v →
    v = decodeT ρ (pathName base path) t'
  | [], t, base, t', v, _, hw, hi => by
    simp only [walkTy, pure, Except.pure, Except.ok.injEq] at hw
    simp only [TVal.index, Option.some.injEq] at hi
    rw [← hw, ← hi]; rfl
  | i :: is, t, base, t', v, hpos, hw, hi => by
    have hi0 : 0 ≤ i := hpos i (by simp)
    cases t with
    | bool => exact ((walkTy_bool i is t').mp hw).elim
    | qchar => simp [decodeT, TVal.index] at hi
    | qint w =>
      rw [walkTy_qint w i is hi0] at hw
      split at hw
      · rename_i hlt
        cases is with
        | nil =>
          simp only [walkTy, pure, Except.pure, Except.ok.injEq] at hw
          subst hw
          simp only [decodeT, TVal.index, hi0, hlt, and_self, if_true, Option.some.injEq] at hi
          rw [← hi, pathName_cons base i [] hi0]
          simp only [pathName, List.foldl_nil, decodeT, TVal.bool.injEq]
          rw [testBit_valLE, names_qint]
          have hk : i.toNat < w := by omega
          simp [List.getD_eq_getElem?_getD, List.getElem?_map, List.getElem?_range hk]
        | cons j js => exact ((walkTy_bool j js t').mp hw).elim
      · simp [throw, throwThe, MonadExceptOf.throw] at hw
    | tuple ts =>
      rw [walkTy_tuple ts i is hi0] at hw
      split at hw
      · split at hw
        · rename_i t1 ht1
          simp only [decodeT, TVal.index, hi0, if_true] at hi
          have hg := decodeTList_get ρ base ts 0 i.toNat
          rw [ht1] at hg
          simp only [Nat.zero_add, Option.map_some] at hg
          rw [hg] at hi
          rw [pathName_cons base i is hi0]
          exact walk_index ρ is t1 _ t' v (fun j hj => hpos j (by simp [hj])) hw hi
        · simp [throw, throwThe, MonadExceptOf.throw] at hw
      · simp [throw, throwThe, MonadExceptOf.throw] at hw

theorem soundT_subs (ρ : QV.Env) (env : Front.Env) (σ : TEnv) (henv : EnvOKN ρ env σ) (n : String)
    (path : List Int) (hpos : ∀ i ∈ path, 0 ≤ i) : SoundT ρ env σ (.subs n path) := by
  intro s t v s' hw h
  rw [tr] at h
  cases hf : env.find n with
  | none =>
    rw [hf] at h
    simp only [run_throw_ok] at h
  | some b =>
    rw [hf] at h
    have hname := find_name hf
    obtain ⟨hbv, hgood, hσ⟩ := henv n b hf
    rw [hname] at hσ
    have hq : Quirks.none.negIndexAccepted = false := rfl
    have hany : (path.any fun x => decide (x < 0)) = false := by
      rw [List.any_eq_false]
      intro x hx
      have := hpos x hx
      simp only [decide_eq_true_eq]; omega
    simp only [hany, Bool.false_eq_true, if_false, run_bind_ok, run_lift_ok, hq] at h
    obtain ⟨t', _, ⟨hwalk, rfl⟩, h3⟩ := h
    have hsem : semT σ (.subs n path) = (decodeT ρ n b.ty).index path := by simp [semT, hσ]
    simp only [wellT, hsem] at hw
    obtain ⟨sv, hsv⟩ := Option.isSome_iff_exists.mp hw
    have hv := walk_index ρ path b.ty n t' sv hpos hwalk hsv
    refine ⟨sv, by rw [hsem, hsv], ?_⟩
    rw [hv]
    cases t' with
    | bool =>
      simp only [Ty.size?, run_pure_ok] at h3
      obtain ⟨h3, _⟩ := h3
      cases h3
      rw [decodeT]
      exact DenT.mk_bool _ _ rfl
    | qint w =>
      simp only [Ty.size?, run_pure_ok] at h3
      obtain ⟨h3, _⟩ := h3
      cases h3
      have := den_syms ρ (.qint w) (pathName n path) (by intro hh; cases hh)
      rw [names_qint, List.map_map] at this
      exact this
    | qchar =>
      simp only [Ty.size?, run_pure_ok] at h3
      obtain ⟨h3, _⟩ := h3
      cases h3
      have := den_syms ρ .qchar (pathName n path) (by intro hh; cases hh)
      rw [names_qchar, List.map_map] at this
      exact this
    | tuple ts =>
      simp only [Ty.size?, run_pure_ok] at h3
      obtain ⟨h3, _⟩ := h3
      cases h3
      exact den_syms ρ (.tuple ts) (pathName n path) (by intro hh; cases hh)

mutual
theorem soundT_all (ρ : QV.Env) (env : Front.Env) (σ : TEnv) (henv : EnvOKN ρ env σ) :
    ∀ e : PExp, inFragT e = true → SoundT ρ env σ e
  | .name n, _ => soundT_name ρ env σ henv n
  | .cbool b, _ => soundT_cbool ρ env σ b
  | .cint c, _ => soundT_cint ρ env σ c
  | .cchar c, h => soundT_cchar ρ env σ c (by simpa [inFragT] using h)
  | .subs n path, h => soundT_subs ρ env σ henv n path (by simpa [inFragT] using h)
  | .not e, h => soundT_not ρ env σ e (soundT_all ρ env σ henv e (by simpa [inFragT] using h))
  | .inv e, h => soundT_inv ρ env σ e (soundT_all ρ env σ henv e (by simpa [inFragT] using h))
  | .boolop isAnd vs, h =>
    soundT_boolop ρ env σ isAnd vs (soundT_all_list ρ env σ henv vs (by simpa [inFragT] using h))
  | .ite c t e, h => by
    simp only [inFragT, Bool.and_eq_true] at h
    exact soundT_ite ρ env σ c t e (soundT_all ρ env σ henv c h.1.1) (soundT_all ρ env σ henv t h.1.2)
      (soundT_all ρ env σ henv e h.2)
  | .cmp op l r, h => by
    simp only [inFragT, Bool.and_eq_true] at h
    exact soundT_cmp ρ env σ op h.1.1 l r (soundT_all ρ env σ henv l h.1.2) (soundT_all ρ env σ henv r h.2)
  | .bin op l r, h => by
    simp only [inFragT, Bool.and_eq_true] at h
    exact soundT_bin ρ env σ op l r (soundT_all ρ env σ henv l h.1.2) (soundT_all ρ env σ henv r h.2)
  | .tuple es, h => by
    simp only [inFragT, Bool.and_eq_true] at h
    exact soundT_tuple ρ env σ es (soundT_all_list ρ env σ henv es h.2)
  | .unsupported _, h => by simp [inFragT] at h
theorem soundT_all_list (ρ : QV.Env) (env : Front.Env) (σ : TEnv) (henv : EnvOKN ρ env σ) :
    ∀ es : List PExp, inFragTList es = true → ∀ e ∈ es, SoundT ρ env σ e
  | [], _ => by intro e he; simp at he
  | e :: es, h => by
    simp only [inFragTList, Bool.and_eq_true] at h
    intro e' he'
    simp only [List.mem_cons] at he'
    rcases he' with he' | he'
    · rw [he']; exact soundT_all ρ env σ henv e h.1
    · exact soundT_all_list ρ env σ henv es h.2 e' he'
end

/-- the binding environment `translate_ast` builds from the arguments -/
def initEnv (args : List (String × Ty)) : Front.Env :=
  args.foldl (fun env (n, t) => env ++ [⟨n, t, t.names n⟩]) []

theorem foldl_bind (args : List (String × Ty)) (acc : Front.Env) :
    args.foldl (fun env (n, t) => env ++ [(⟨n, t, t.names n⟩ : Binding)]) acc
      = acc ++ args.map fun p => (⟨p.1, p.2, p.2.names p.1⟩ : Binding) := by
  induction args generalizing acc with
  | nil => simp
  | cons a as ih => simp [List.foldl_cons, ih]

theorem initEnv_eq (args : List (String × Ty)) :
    initEnv args = args.map fun p => (⟨p.1, p.2, p.2.names p.1⟩ : Binding) := by
  unfold initEnv; rw [foldl_bind]; simp

theorem initEnv_find {args : List (String × Ty)} {n : String} {b : Binding} (h : (initEnv args).find n = some b) :
    ∃ ty, args.find? (·.1 == n) = some (n, ty) ∧ (n, ty) ∈ args ∧ b = ⟨n, ty, ty.names n⟩ := by
  have hfind : (initEnv args).find n
      = (args.find? (·.1 == n)).map fun p => (⟨p.1, p.2, p.2.names p.1⟩ : Binding) := by
    unfold Env.find
    rw [initEnv_eq, List.find?_map]
    rfl
  rw [hfind] at h
  cases hfa : args.find? (·.1 == n) with
  | none => simp [hfa] at h
  | some p =>
    obtain ⟨m, ty⟩ := p
    obtain rfl : m = n := by simpa using List.find?_some hfa
    simp only [hfa, Option.map_some, Option.some.injEq] at h
    exact ⟨ty, rfl, List.mem_of_find?_eq_some hfa, h.symm⟩

theorem envOKT_args (ρ : QV.Env) (args : List (String × Ty)) (hargs : ∀ p ∈ args, tyGood p.2 = true) :
    EnvOKT ρ (initEnv args) (argsEnvT args ρ) := by
  intro n b hf
  obtain ⟨ty, hfa, hmem, rfl⟩ := initEnv_find hf
  exact ⟨rfl, hargs _ hmem, by simp [argsEnvT, hfa]⟩

end QV.Sem
